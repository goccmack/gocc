import Gocc.Driver.Gram
import Gocc.Driver.Proto
import Gocc.Driver.Unit
import Gocc.Gen.Frontend
import Gocc.Model.ActionFold
import Gocc.Model.FScan
import Gocc.Model.GenCert
import Gocc.Model.GenVCert
import Gocc.Model.Grammar
import Gocc.Model.LR1
import Gocc.Model.LexEquiv
import Gocc.Model.LexGen
import Gocc.Model.LitConv
import Gocc.Model.Md
import Gocc.Model.Parse
import Gocc.Model.Range
import Gocc.Model.Scan
import Gocc.Model.SemCheck
import Gocc.Model.Utf8
import Gocc.Model.Validate
import Gocc.Model.ValidateC
import Gocc.Model.ValidateV
import Gocc.Proofs.ActionFold
import Gocc.Proofs.CallLog
import Gocc.Proofs.ClosureEval
import Gocc.Proofs.DerivesAvoid
import Gocc.Proofs.Emoves
import Gocc.Proofs.EmovesUniverse
import Gocc.Proofs.FScan
import Gocc.Proofs.FScanLayout
import Gocc.Proofs.FScanPos
import Gocc.Proofs.FScanTokens
import Gocc.Proofs.FirstSets
import Gocc.Proofs.GenComplete
import Gocc.Proofs.GenCompleteFirst
import Gocc.Proofs.GenCompleteItems
import Gocc.Proofs.GenFacts
import Gocc.Proofs.GenInert
import Gocc.Proofs.GenSafe
import Gocc.Proofs.GenTables
import Gocc.Proofs.GenValid
import Gocc.Proofs.GenValidCert
import Gocc.Proofs.GenValidFirst
import Gocc.Proofs.GenValidItems
import Gocc.Proofs.KindGrammar
import Gocc.Proofs.KindGrammarSem
import Gocc.Proofs.LRLoop
import Gocc.Proofs.LexEquiv
import Gocc.Proofs.LexGenCorrect
import Gocc.Proofs.LexGenCorrectAct
import Gocc.Proofs.LexGenCorrectBase
import Gocc.Proofs.LexGenCorrectLoop
import Gocc.Proofs.LexGenCorrectRef
import Gocc.Proofs.LexGenCorrectRefSets
import Gocc.Proofs.LexGenCorrectStep
import Gocc.Proofs.LexItems
import Gocc.Proofs.LexTree
import Gocc.Proofs.ListAux
import Gocc.Proofs.LitConv
import Gocc.Proofs.LoopsTerminateCount
import Gocc.Proofs.LoopsTerminateLR
import Gocc.Proofs.LoopsTerminateLex
import Gocc.Proofs.LoopsTerminateLexItems
import Gocc.Proofs.Md
import Gocc.Proofs.NDerives
import Gocc.Proofs.Numbering
import Gocc.Proofs.ParseTerm
import Gocc.Proofs.ParseTermRV
import Gocc.Proofs.ParseTermRec
import Gocc.Proofs.Range
import Gocc.Proofs.Recover
import Gocc.Proofs.RecoverLoop
import Gocc.Proofs.RegexSemDen
import Gocc.Proofs.RegexSemMain
import Gocc.Proofs.RegexSemResidual
import Gocc.Proofs.RegexSemRun
import Gocc.Proofs.RegexSemStep
import Gocc.Proofs.Scan
import Gocc.Proofs.ScanSpec
import Gocc.Proofs.SemCheck
import Gocc.Proofs.Step
import Gocc.Proofs.TableSweep
import Gocc.Proofs.Termination
import Gocc.Proofs.UnambigInj
import Gocc.Proofs.UnambigPos
import Gocc.Proofs.Utf8
import Gocc.Proofs.Validate
import Gocc.Proofs.ValidateC
import Gocc.Proofs.ValidateV
import Gocc.Proofs.WorkList
import Gocc.Props.C01
import Gocc.Props.C01Equiv
import Gocc.Props.C01Gen
import Gocc.Props.C01Regex
import Gocc.Props.C02
import Gocc.Props.C02Complete
import Gocc.Props.C02Gen
import Gocc.Props.C02GenComplete
import Gocc.Props.C02Kind
import Gocc.Props.C02Term
import Gocc.Props.C03
import Gocc.Props.C04
import Gocc.Props.C04Gen
import Gocc.Props.C04Unambig
import Gocc.Props.C05
import Gocc.Props.C05Gen
import Gocc.Props.C06
import Gocc.Props.C06Gen
import Gocc.Props.C07
import Gocc.Props.C07Gen
import Gocc.Props.C07Term
import Gocc.Props.C08
import Gocc.Props.C09
import Gocc.Props.C09Emoves
import Gocc.Props.C09Loops
import Gocc.Props.C10
import Gocc.Props.C10Gen
import Gocc.Props.C12
import Gocc.Props.C12Tables
import Gocc.Props.C13
import Gocc.Props.C14Sem
import Gocc.Props.C15
import Gocc.Props.C16Lexer
import Gocc.Props.C16Parser
import Gocc.Props.C17
import Gocc.Props.C18
import Gocc.Props.C19
import Gocc.Props.C20
import Gocc.Spec.Cfg
import Gocc.Spec.Eval
import Gocc.Spec.GoRuneLit
import Gocc.Spec.KindGrammar
import Gocc.Spec.LexRef
import Gocc.Spec.NCfg
import Gocc.Spec.Pos
import Gocc.Spec.Range
import Gocc.Spec.Recover
import Gocc.Spec.RegexSem
import Gocc.Spec.ScanSpec
import Gocc.Spec.SemWF
