import Gocc.Proofs.ValidateV
import Gocc.Proofs.RecoverLoop
/-
Termination of the `Parse` loop without error recovery (the Go loop has no fuel): for tables that
pass the completeness validator `complete` and the validity validator `validItems`, on EVERY input
the run of the model ends (`HaltsWith`): `parseLoop` gives one answer other than `.outOfFuel` for
all sufficiently large fuel.

Argument: let `i` be the largest index such that `w.take i` is a prefix of a sentence (`i = 0`
qualifies, the language is not empty: `body0_productive`), `u = w.take i ++ v` a sentence.  `u` is
accepted (`parse_accepts`); its run scans token `i` at some point (`accepts_run`); up to that
point the run on `w` is the same (`Steps.transfer`).  There the look-ahead on `w` is `a = w[i]`
(1 at the end of the input).  If the top state has an action on `a`, then `w.take i ++ [a]` is a
viable prefix (`act_viable`) — impossible for `a ≠ 1` by the choice of `i`; for `a = 1` it says
that `w.take i` is a sentence, and then `w` is accepted like `w.take i` (`accept_cut`).  Otherwise
the parser stops with a syntax error (or the token-type range panic).
-/
namespace Gocc.ParseTerm
open Gocc

theorem exists_max (P : Nat → Prop) (h0 : P 0) :
    ∀ n : Nat, ∃ i, i ≤ n ∧ P i ∧ ∀ j, i < j → j ≤ n → ¬ P j := by
  intro n
  induction n with
  | zero => exact ⟨0, Nat.le_refl _, h0, fun j h1 h2 => by omega⟩
  | succ n ih =>
    by_cases h : P (n + 1)
    · exact ⟨n + 1, Nat.le_refl _, h, fun j h1 h2 => by omega⟩
    · obtain ⟨i, hi, hp, hmax⟩ := ih
      refine ⟨i, by omega, hp, fun j h1 h2 => ?_⟩
      by_cases hj : j = n + 1
      · subst hj; exact h
      · exact hmax j h1 (by omega)

/-- the run from `ps` ends: after finitely many iterations the loop returns the answer `o` in the
    configuration `ps'` (what `parseLoop` computes with enough fuel, `HaltsWith.parseLoop`) -/
def HaltsWith (cfg : PCfg) (w : List Nat) (ps : PState) (o : Outcome) (ps' : PState) : Prop :=
  ∃ b, Steps cfg w ps b ∧ step cfg w b = .done o ps'

section
variable {cfg : PCfg} {w : List Nat} {a a' b ps' : PState} {o : Outcome}

theorem HaltsWith.of_steps (h : Steps cfg w a b) : HaltsWith cfg w b o ps' → HaltsWith cfg w a o ps'
  | ⟨d, h1, h2⟩ => ⟨d, h.trans h1, h2⟩

theorem HaltsWith.of_step_eq (h : step cfg w a = step cfg w a') :
    HaltsWith cfg w a' o ps' → HaltsWith cfg w a o ps'
  | ⟨_, .refl _, h2⟩ => ⟨a, .refl _, h.trans h2⟩
  | ⟨d, .head hs h1, h2⟩ => ⟨d, .head (h.trans hs) h1, h2⟩

theorem HaltsWith.of_prefix (h : Steps cfg w a b) (hH : HaltsWith cfg w a o ps') :
    HaltsWith cfg w b o ps' := by
  induction h with
  | refl => exact hH
  | head hs _ ih =>
    obtain ⟨d, h1, h2⟩ := hH
    cases h1 with
    | refl => rw [hs] at h2; cases h2
    | head hs' h1 =>
      rw [hs] at hs'
      cases hs'
      exact ih ⟨d, h1, h2⟩

theorem HaltsWith.parseLoop : HaltsWith cfg w a o ps' →
    ∃ n, ∀ fuel, n ≤ fuel → parseLoop cfg w fuel a = (o, ps')
  | ⟨_, h1, h2⟩ => steps_done h1 h2

theorem HaltsWith.ne_outOfFuel : HaltsWith cfg w a o ps' → o ≠ .outOfFuel
  | ⟨_, _, h2⟩ => step_ne_oof h2

theorem HaltsWith.unique {o2 : Outcome} {ps2 : PState} (h : HaltsWith cfg w a o ps')
    (h2 : HaltsWith cfg w a o2 ps2) : (o, ps') = (o2, ps2) := by
  obtain ⟨n, hn⟩ := h.parseLoop
  obtain ⟨n2, hn2⟩ := h2.parseLoop
  rw [← hn (n + n2) (by omega), ← hn2 (n + n2) (by omega)]

end

/-- an iteration that ends the parse does not look at the input -/
theorem step_done_indep {cfg : PCfg} (hr : ∀ s : Nat, cfg.T.canRecover[s]?.getD false = false)
    {w w' : List Nat} {ps : PState} {o : Outcome} {ps' : PState}
    (h : step cfg w ps = .done o ps') : step cfg w' ps = .done o ps' := by
  rcases hst : ps.states with _ | ⟨top, rest⟩
  · rw [step_nil hst] at h ⊢
    exact h
  · rcases step_cases hr hst with ⟨hn, e⟩ | ⟨hlt, ⟨ha, e⟩ | ⟨a, ha, e⟩⟩ <;> rw [e] at h
    · rw [step_range hst hn]; exact h
    · rw [step_noact hr w' hst hlt ha]; exact h
    · rw [step_act hst ha hlt]
      cases a with
      | accept => exact h
      | reduce p => exact h
      | shift s => cases h

theorem split_run {cfg : PCfg} (hr : ∀ s : Nat, cfg.T.canRecover[s]?.getD false = false)
    {w : List Nat} {a b : PState} (h : Steps cfg w a b) {n : Nat} (h1 : a.ntok ≤ n)
    (h2 : n < b.ntok) :
    ∃ c c', Steps cfg w a c ∧ c.ntok = n ∧ step cfg w c = .cont c' ∧ c'.ntok = n + 1 := by
  induction h with
  | refl => omega
  | @head ps ps1 ps2 hs hrest ih =>
    have := step_ntok hr hs
    by_cases hc : ps1.ntok ≤ n
    · obtain ⟨c, c', q1, q2, q3, q4⟩ := ih hc h2
      exact ⟨c, c', .head hs q1, q2, q3, q4⟩
    · exact ⟨ps, ps1, .refl _, by omega, hs, by omega⟩

/-- an iteration that scans a token is a shift; on another input it shifts the same state and
    scans the other input's token -/
theorem shift_transfer {cfg : PCfg} (hr : ∀ s : Nat, cfg.T.canRecover[s]?.getD false = false)
    {w : List Nat} (w' : List Nat) {c c' : PState} (hs : step cfg w c = .cont c')
    (hn : c'.ntok = c.ntok + 1) :
    step cfg w' c = .cont { c' with next := scanTok w' c.ntok } := by
  rcases step_cont_cases hr hs with ⟨e, -⟩ | ⟨-, h'⟩
  · omega
  · exact h' w'

theorem scanTok_congr {u w : List Nat} {m : Nat} (ht : u.take m = w.take m)
    (hm : u[m]?.getD 1 = w[m]?.getD 1) {j : Nat} (hj : j ≤ m) : scanTok u j = scanTok w j := by
  rw [scanTok_eq, scanTok_eq]
  rcases Nat.lt_or_eq_of_le hj with hlt | rfl
  · rw [← List.getElem?_take_of_lt hlt, ht, List.getElem?_take_of_lt hlt]
  · rw [hm]

theorem step_accept_inv {cfg : PCfg} (hr : ∀ s : Nat, cfg.T.canRecover[s]?.getD false = false)
    {w : List Nat} {ps : PState} {r : Attr} {ps' : PState}
    (h : step cfg w ps = .done (.accept r) ps') {top : Nat} {rest : List Nat}
    (hst : ps.states = top :: rest) : cfg.T.act top ps.next.2 = some .accept := by
  rcases step_cases hr hst with ⟨-, e⟩ | ⟨-, ⟨-, e⟩ | ⟨a, ha, e⟩⟩ <;> rw [e] at h
  · cases h
  · cases h
  · rw [ha]
    rcases doAct_done h with ⟨_, _, rfl, -⟩ | ⟨_, h1, -⟩ | ⟨_, _, _, _, _, h1⟩
    · rfl
    · cases h1
    · cases h1

theorem VStk.ne_nil {T : PTables} {ss : List Nat} {γ : List Sym} (h : VStk T ss γ) :
    ∃ top rest, ss = top :: rest := by
  cases h with
  | base => exact ⟨_, _, rfl⟩
  | push _ _ => exact ⟨_, _, rfl⟩

section
variable {G : NGrammar} {cfg : PCfg} {fc fcv : FirstCert} {c : CertLA}
  (VF : ValidFacts G cfg.T c fcv) (hf : firstOk G fc = true) (hc : complete G cfg.T fc c = true)
  (hr : ∀ s : Nat, cfg.T.canRecover[s]?.getD false = false) (hA : ActsOk cfg)
include VF hf hc hr hA

/-- an accepting run on a sentence `u`; it has scanned `|u| + 1` tokens: the `accept` entry stands
    under the look-ahead 1 only, and `u` holds no token of type 1 -/
theorem accepts_run {u : List Nat} (hu : NSentence G u) :
    ∃ b r ps', Steps cfg u (initPS u) b ∧ step cfg u b = .done (.accept r) ps' ∧
      b.ntok = u.length + 1 := by
  obtain ⟨fuel, r, hacc⟩ := parse_accepts hf hc hA hu (initPS u)
  rw [parse_eq] at hacc
  obtain ⟨b, o, ps', hrun, hd, hres⟩ := parseLoop_done fuel _ (by rw [hacc]; intro h; cases h)
  rw [hres] at hacc
  cases hacc
  refine ⟨b, r, ps', hrun, hd, ?_⟩
  obtain ⟨γ, m, hS, -, hnt, hnx, hle, -⟩ :=
    hrun.vinv VF (completeFacts_of hc) hr (vinv_init VF u)
  obtain ⟨top, rest, hst⟩ := VStk.ne_nil hS
  have h1 : b.next.2 = 1 := (VF.acceptJ top _ (step_accept_inv hr hd hst)).1
  rw [hnx] at h1
  have := scanTok_eof (sentence_no_eof VF (.inr rfl) hu) hle h1
  omega

/-- `w.take i` is a prefix of a sentence: after finitely many iterations the parser on `w` has
    scanned token `i` (it is the look-ahead) -/
theorem reach (w : List Nat) {i : Nat} (hi : i ≤ w.length) (hvp : NViablePrefix G (w.take i)) :
    ∃ d, Steps cfg w (initPS w) d ∧ d.ntok = i + 1 := by
  rcases Nat.eq_zero_or_pos i with rfl | hpos
  · exact ⟨initPS w, .refl _, rfl⟩
  · obtain ⟨v, hu⟩ := hvp
    obtain ⟨b, r, ps', hrun, -, hb⟩ := accepts_run VF hf hc hr hA hu
    have hlen : i ≤ (w.take i ++ v).length := by simp; omega
    obtain ⟨c0, c1, q1, q2, q3, q4⟩ :=
      split_run hr hrun (n := i) (by simp only [initPS]; omega) (by omega)
    have q1' := q1.transfer hr (w := w) fun j hj =>
      (scanTok_take_append v (by omega) hi).symm
    exact ⟨_, q1'.trans (.single (shift_transfer hr w q3 (by omega))), by simp [q4]⟩

/-- `w` up to a token of type 1 is a sentence: `w` is accepted, by the run on `w.take i` (the
    tokens after token `i` are never scanned) -/
theorem accept_cut {w : List Nat} {i : Nat} (hi : i ≤ w.length) (h1 : (scanTok w i).2 = 1)
    (hs : NSentence G (w.take i)) : ∃ r ps, HaltsWith cfg w (initPS w) (.accept r) ps := by
  obtain ⟨b, r, ps', hrun, hd, hb⟩ := accepts_run VF hf hc hr hA hs
  rw [List.length_take, Nat.min_eq_left hi] at hb
  rw [scanTok_eq] at h1
  refine ⟨r, ps', b, hrun.transfer hr fun j hj => scanTok_congr (m := i) ?_ ?_ (by omega),
    step_done_indep hr hd⟩
  · rw [List.take_take, Nat.min_self]
  · rw [List.getElem?_take, if_neg (Nat.lt_irrefl i)]
    exact h1.symm

end

/-- `w` up to a token of type 1 (or up to its end) is a sentence.  For `1 ∉ w` this is
    `NSentence G w` (`eofSentence_iff`). -/
def EofSentence (G : NGrammar) (w : List Nat) : Prop :=
  ∃ i, i ≤ w.length ∧ (w[i]?).getD 1 = 1 ∧ NSentence G (w.take i)

theorem eofSentence_iff {G : NGrammar} {w : List Nat} (hw : 1 ∉ w) :
    EofSentence G w ↔ NSentence G w := by
  constructor
  · rintro ⟨i, hi, h1, hs⟩
    have : i = w.length := scanTok_eof hw hi (by rw [scanTok_eq]; exact h1)
    subst this
    simpa using hs
  · intro hs
    exact ⟨w.length, Nat.le_refl _, by simp, by simpa using hs⟩

/-- how the parser without recovery ends -/
def Verdict (G : NGrammar) (T : PTables) (w : List Nat) (o : Outcome) : Prop :=
  (∃ r, o = .accept r ∧ EofSentence G w) ∨
  (∃ i exp top, o = .synErr i ((w[i]?).getD 1) exp top ∧ i ≤ w.length ∧
      NViablePrefix G (w.take i) ∧ ∀ j, i < j → j ≤ w.length → ¬ NViablePrefix G (w.take j)) ∨
  (o = .panic "index out of range (token type)" ∧ ∃ t, t ∈ w ∧ T.numSymbols ≤ t)

section
variable {G : NGrammar} {cfg : PCfg} {fc : FirstCert} {c : CertLA} {vc : VCert}
  (hf : firstOk G fc = true) (hc : complete G cfg.T fc c = true)
  (hv : validItems G cfg.T c vc = true)
  (hr : ∀ s : Nat, cfg.T.canRecover[s]?.getD false = false) (hA : ActsOk cfg)
include hf hc hv hr hA

/-- TERMINATION: on every input the loop ends -/
theorem parseLoop_terminates (w : List Nat) :
    ∃ o ps, HaltsWith cfg w (initPS w) o ps ∧ Verdict G cfg.T w o := by
  have VF := validFacts_of hv
  obtain ⟨i, hi, hvp, hmax⟩ := exists_max (fun k => NViablePrefix G (w.take k))
    (by obtain ⟨v, hv'⟩ := body0_productive VF; exact ⟨v, by simpa using hv'⟩) w.length
  obtain ⟨d, hrun, hnt⟩ := reach VF hf hc hr hA w hi hvp
  obtain ⟨γ, m, hS, hu, hnt', hnx, hle, -⟩ :=
    hrun.vinv VF (completeFacts_of hc) hr (vinv_init VF w)
  have hm : m = i := by omega
  subst hm
  obtain ⟨top, rest, hst⟩ := VStk.ne_nil hS
  rw [hst] at hS
  have hty : d.next.2 = (w[m]?).getD 1 := by rw [hnx, scanTok_eq]
  have hix : d.next.1 = m := by rw [hnx, scanTok_fst]
  rcases step_cases hr (w := w) hst with ⟨hn, hstep⟩ | ⟨-, ⟨-, hstep⟩ | ⟨act, ha, -⟩⟩
  · have h1 : (scanTok w m).2 ≠ 1 := by
      have := complete_numSymbols hc
      rw [← hnx]
      omega
    have hml := scanTok_lt h1
    refine ⟨_, _, ⟨d, hrun, hstep⟩, .inr (.inr ⟨rfl, d.next.2, ?_, hn⟩)⟩
    rw [hnx, scanTok_snd_lt hml]
    exact List.getElem_mem hml
  · rw [hty, hix] at hstep
    exact ⟨_, _, ⟨d, hrun, hstep⟩, .inr (.inl ⟨_, _, _, rfl, hi, hvp, hmax⟩)⟩
  · have hav := act_viable VF hS hu ha
    by_cases h1 : d.next.2 = 1
    · have hs := hav.2 h1
      obtain ⟨r, ps, hH⟩ := accept_cut VF hf hc hr hA hi (by rw [← hnx]; exact h1) hs
      exact ⟨_, _, hH, .inl ⟨r, rfl, m, hi, by rw [← hty]; exact h1, hs⟩⟩
    · exfalso
      obtain ⟨v, hv'⟩ := hav.1 h1
      have hlt : m < w.length := scanTok_lt (by rw [← hnx]; exact h1)
      apply hmax (m + 1) (by omega) hlt
      have : w.take (m + 1) = w.take m ++ [d.next.2] := by
        rw [List.take_add_one, hnx, scanTok_snd_lt hlt]
        simp [hlt]
      exact ⟨v, by rw [this]; simpa using hv'⟩

theorem Verdict.accept_iff {w : List Nat} {o : Outcome} {ps : PState}
    (hH : HaltsWith cfg w (initPS w) o ps) (hV : Verdict G cfg.T w o) :
    (∃ r, o = .accept r) ↔ EofSentence G w := by
  constructor
  · rintro ⟨r, rfl⟩
    rcases hV with ⟨_, -, h⟩ | ⟨_, _, _, h, -⟩ | ⟨h, -⟩
    · exact h
    · cases h
    · cases h
  · rintro ⟨i, hi, h1, hs⟩
    obtain ⟨r, ps', hH'⟩ := accept_cut (validFacts_of hv) hf hc hr hA hi
      (by rw [scanTok_eq]; exact h1) hs
    exact ⟨r, congrArg Prod.fst (hH.unique hH')⟩

end

theorem answer_of_ne_outOfFuel {cfg : PCfg} {w : List Nat} {ps0 : PState} {n : Nat}
    {r : Outcome × PState} (h : ∀ fuel, n ≤ fuel → parseLoop cfg w fuel ps0 = r) {fuel : Nat}
    (hne : (parseLoop cfg w fuel ps0).1 ≠ .outOfFuel) : parseLoop cfg w fuel ps0 = r := by
  rw [← h (fuel + n) (by omega), parseLoop_fuel_mono hne n]

end Gocc.ParseTerm
