import Gocc.Proofs.Step
/-
The call log of a run, for any tables: every iteration makes at most one call of a user action
(`step_log`); the log only grows (`parseLoop_mono`); with `failAt = k ≠ 0` the run stops at call
`k` (`parseLoop_calls`); the run failing at call `k` and the failure-free run proceed in lock-step
up to that call (`parseLoop_lockstep`).
-/
namespace Gocc

def NotActErr (o : Outcome) : Prop := ∀ id i t e s, o ≠ .actErr id i t e s

theorem NotActErr.panic (why : String) : NotActErr (.panic why) := fun _ _ _ _ _ h => nomatch h

theorem NotActErr.accept (r : Attr) : NotActErr (.accept r) := fun _ _ _ _ _ h => nomatch h

def StepR.st : StepR → PState
  | .done _ ps => ps
  | .cont ps => ps

/-- `ps'` is `ps` with unchanged log, or with one more successful call -/
def LogStep (failAt : Nat) (ps ps' : PState) : Prop :=
  (ps'.log = ps.log ∧ ps'.calls = ps.calls) ∨
  (∃ id, ps'.log = id :: ps.log ∧ ps'.calls = ps.calls + 1 ∧ ¬(failAt ≠ 0 ∧ ps.calls + 1 = failAt))

theorem LogStep.of_eq {f : Nat} {ps ps1 ps2 : PState} (h1 : ps1.log = ps.log) (h2 : ps1.calls = ps.calls)
    (h : LogStep f ps1 ps2) : LogStep f ps ps2 := by
  unfold LogStep at *
  rw [h1, h2] at h
  exact h

/-- effect of one step on the call log: at most one call; the step ends with an action error
    exactly when that call is call number `failAt` -/
def StepR.logPost (failAt : Nat) (ps : PState) : StepR → Prop :=
  StepR.Post (LogStep failAt ps) fun o ps' =>
    (∃ id, failAt ≠ 0 ∧ ps.calls + 1 = failAt ∧ ps'.log = id :: ps.log ∧ ps'.calls = ps.calls + 1 ∧
      ((∃ i t e s, o = .actErr id i t e s) ∨ ∃ why, o = .panic why)) ∨
    (NotActErr o ∧ LogStep failAt ps ps')

theorem StepR.logPost.of_eq {f : Nat} {ps ps1 : PState} {sr : StepR} (h1 : ps1.log = ps.log)
    (h2 : ps1.calls = ps.calls) (h : sr.logPost f ps1) : sr.logPost f ps := by
  cases sr <;> simp only [StepR.logPost, StepR.Post, LogStep] at * <;> rw [h1, h2] at h <;> exact h

theorem reduceRes_ok_log {cfg : PCfg} {p : Nat} {X : List Attr} {ps ps2 : PState} {a : Attr}
    (h : reduceRes cfg p X ps = .ok (a, ps2)) : LogStep cfg.failAt ps ps2 := by
  rcases reduceRes_eq_ok.1 h with ⟨-, -, rfl⟩ | ⟨-, -, rfl⟩ | ⟨_, id, -, hc, -, rfl⟩
  · exact .inl ⟨rfl, rfl⟩
  · exact .inl ⟨rfl, rfl⟩
  · exact .inr ⟨id, rfl, rfl, hc⟩

theorem doAct_log (cfg : PCfg) (w : List Nat) (a : Act) (ps : PState) :
    (doAct cfg w a ps).logPost cfg.failAt ps := by
  cases hd : doAct cfg w a ps with
  | cont ps1 =>
    cases a with
    | accept => exact absurd hd doAct_accept_ne_cont
    | shift s => cases hd; exact .inl ⟨rfl, rfl⟩
    | reduce p =>
      obtain ⟨b, ps2, _, _, _, -, hres, -, -, -, rfl⟩ := doAct_reduce_eq_cont.1 hd
      exact (reduceRes_ok_log hres : LogStep cfg.failAt ps ps2)
  | done o ps' =>
    rcases doAct_eq_done hd with ⟨r, rest, -, -, rfl, rfl⟩ | ⟨why, rfl, rfl, -⟩ |
      ⟨p, _, id, -, -, hf0, hf, hl, hc, ho⟩ | ⟨p, X, b, -, hres, ho⟩
    · exact .inr ⟨.accept _, .inl ⟨rfl, rfl⟩⟩
    · exact .inr ⟨.panic _, .inl ⟨rfl, rfl⟩⟩
    · exact .inl ⟨id, hf0, hf, hl, hc, ho.symm.imp_right fun h => ⟨_, h⟩⟩
    · rcases ho with rfl | rfl <;> exact .inr ⟨.panic _, reduceRes_ok_log hres⟩

theorem step_log (cfg : PCfg) (w : List Nat) (ps : PState) :
    (step cfg w ps).logPost cfg.failAt ps := by
  rcases hst : ps.states with _ | ⟨top, rest⟩
  · rw [step_nil hst]; exact .inr ⟨.panic _, .inl ⟨rfl, rfl⟩⟩
  · by_cases hlt : ps.next.2 < cfg.T.numSymbols
    · rw [step_cons hst hlt]
      have := lookupAct_log cfg.T cfg.errTerm w ps top
      rcases hl : lookupAct cfg.T cfg.errTerm w ps top with ⟨o, ps'⟩ | ⟨a, ps'⟩ <;> rw [hl] at this
      · refine .inr ⟨?_, .inl ⟨this.1, this.2.1⟩⟩
        rcases this.2.2 with ⟨_, rfl⟩ | ⟨_, _, _, _, rfl⟩ <;> exact nofun
      · exact (doAct_log cfg w a ps').of_eq this.1 this.2
    · rw [step_range hst (Nat.le_of_not_lt hlt)]; exact .inr ⟨.panic _, .inl ⟨rfl, rfl⟩⟩

theorem StepR.logPost.calls {f : Nat} {ps : PState} {sr : StepR} (h : sr.logPost f ps)
    (h1 : ps.log.length = ps.calls) (h2 : ps.calls < f) :
    sr.st.log.length = sr.st.calls ∧ sr.st.calls ≤ f ∧ ∀ ps1, sr = .cont ps1 → ps1.calls < f := by
  have step : ∀ {ps'}, LogStep f ps ps' → ps'.log.length = ps'.calls ∧ ps'.calls < f := by
    rintro ps' (⟨g1, g2⟩ | ⟨id, g1, g2, g3⟩)
    · rw [g1, g2]; exact ⟨h1, h2⟩
    · rw [g1, g2, List.length_cons, h1]; exact ⟨rfl, by omega⟩
  cases sr with
  | cont ps1 => exact ⟨(step h).1, Nat.le_of_lt (step h).2, fun _ e => by cases e; exact (step h).2⟩
  | done o ps' =>
    refine ⟨?_, ?_, fun _ e => nomatch e⟩ <;> rcases h with ⟨id, -, g0, g1, g2, -⟩ | ⟨-, g⟩
    · simp only [StepR.st, g1, g2, List.length_cons, h1]
    · exact (step g).1
    · simp only [StepR.st, g2]; omega
    · exact Nat.le_of_lt (step g).2

/-- `ps` continues the log of `ps0`, one entry per call -/
def LogExt (ps0 ps : PState) : Prop :=
  ∃ pre, ps.log = pre ++ ps0.log ∧ ps.calls = ps0.calls + pre.length

theorem StepR.logPost.ext {f : Nat} {ps0 ps : PState} {sr : StepR} (h : sr.logPost f ps)
    (h0 : LogExt ps0 ps) : LogExt ps0 sr.st := by
  obtain ⟨pre, e1, e2⟩ := h0
  have step : ∀ {ps'}, LogStep f ps ps' → LogExt ps0 ps' := by
    rintro ps' (⟨g1, g2⟩ | ⟨id, g1, g2, -⟩)
    · exact ⟨pre, by rw [g1, e1], by rw [g2, e2]⟩
    · exact ⟨id :: pre, by rw [g1, e1]; rfl, by rw [g2, e2]; rfl⟩
  cases sr with
  | cont ps1 => exact step h
  | done o ps' =>
    rcases h with ⟨id, -, -, g1, g2, -⟩ | ⟨-, g⟩
    · exact ⟨id :: pre, by rw [StepR.st, g1, e1]; rfl, by rw [StepR.st, g2, e2]; rfl⟩
    · exact step g

theorem parseLoop_mono (cfg : PCfg) (w : List Nat) (fuel : Nat) (ps : PState) :
    LogExt ps (parseLoop cfg w fuel ps).2 :=
  parseLoop_post (I := LogExt ps) (Q := fun _ => LogExt ps)
    (fun a ha => by
      have := (step_log cfg w a).ext ha
      cases hs : step cfg w a <;> rw [hs] at this <;> exact this)
    (fun _ h => h) fuel ps ⟨[], rfl, rfl⟩

/-- what holds of the answer of a run that fails at call `f`: the log has one entry per call, no
    call after call `f`, an action error is reported only for call `f` and carries its id, and
    after `f` calls the run has stopped with that action error or a panic -/
def FailPost (f : Nat) (o : Outcome) (ps : PState) : Prop :=
  ps.log.length = ps.calls ∧ ps.calls ≤ f ∧
  (∀ id i t e s, o = .actErr id i t e s → ps.calls = f ∧ ps.log.head? = some id) ∧
  (ps.calls = f → (∃ id i t e s, o = .actErr id i t e s) ∨ ∃ why, o = .panic why)

theorem parseLoop_calls (cfg : PCfg) (w : List Nat) (fuel : Nat) (ps : PState)
    (h1 : ps.log.length = ps.calls) (h2 : ps.calls < cfg.failAt) :
    FailPost cfg.failAt (parseLoop cfg w fuel ps).1 (parseLoop cfg w fuel ps).2 := by
  refine parseLoop_post (I := fun ps => ps.log.length = ps.calls ∧ ps.calls < cfg.failAt)
    (Q := FailPost cfg.failAt) (fun a ha => ?_)
    (fun a ha => ⟨ha.1, Nat.le_of_lt ha.2, fun _ _ _ _ _ h => Outcome.noConfusion h,
      fun h => absurd h (Nat.ne_of_lt ha.2)⟩)
    fuel ps ⟨h1, h2⟩
  have hl := step_log cfg w a
  have hc := hl.calls ha.1 ha.2
  cases hs : step cfg w a with
  | cont ps1 => rw [hs] at hc; exact ⟨hc.1, hc.2.2 _ rfl⟩
  | done o ps' =>
    rw [hs] at hc hl
    refine ⟨hc.1, hc.2.1, ?_, ?_⟩ <;> rcases hl with ⟨id, -, g0, g1, g2, g3⟩ | ⟨g0, g⟩
    · intro id' i t e s ho
      refine ⟨by omega, ?_⟩
      rcases g3 with ⟨_, _, _, _, g3⟩ | ⟨_, g3⟩ <;> rw [g3] at ho <;> cases ho
      rw [g1]; rfl
    · exact fun _ _ _ _ _ ho => absurd ho (g0 _ _ _ _ _)
    · rcases g3 with ⟨_, _, _, _, g3⟩ | g3
      · exact fun _ => .inl ⟨_, _, _, _, _, g3⟩
      · exact fun _ => .inr g3
    · intro hcf
      rcases g with ⟨-, g2⟩ | ⟨_, -, g2, g3⟩ <;> exfalso <;> have := ha.2 <;> omega

def PCfg.withFail (cfg : PCfg) (f : Nat) : PCfg := { cfg with failAt := f }

/-- how a step of the run failing at call `f` differs from the same step of the failure-free run:
    not at all, or it is call `f`, which stops the failing run and is (possibly) completed by the
    failure-free one -/
def StepCmp (f : Nat) (ps : PState) (rk r0 : StepR) : Prop :=
  rk = r0 ∨
  (ps.calls + 1 = f ∧ ∃ id o psk, rk = .done o psk ∧ psk.log = id :: ps.log ∧
    ((r0.st.log = id :: ps.log ∧ r0.st.calls = ps.calls + 1) ∨
     (∃ o1 ps1, r0 = .done o1 ps1 ∧ ps1.calls = ps.calls)))

theorem reduceRes_withFail (cfg : PCfg) (f : Nat) (p : Nat) (X : List Attr) (ps : PState)
    (h : ps.calls + 1 ≠ f ∨ ∀ shape id, cfg.T.prodKind[p]?.getD .dflt ≠ .user shape id) :
    reduceRes (cfg.withFail f) p X ps = reduceRes (cfg.withFail 0) p X ps := by
  simp only [reduceRes, PCfg.withFail]
  rcases hk : cfg.T.prodKind[p]?.getD .dflt with _ | _ | ⟨shape, id⟩
  · rfl
  · rfl
  · rcases h with h | h
    · simp [h]
    · exact absurd hk (h _ _)

theorem doAct_cmp (cfg : PCfg) (f : Nat) (hf : f ≠ 0) (w : List Nat) (a : Act) (ps : PState) :
    StepCmp f ps (doAct (cfg.withFail f) w a ps) (doAct (cfg.withFail 0) w a ps) := by
  cases a with
  | accept => exact .inl rfl
  | shift s => exact .inl rfl
  | reduce p =>
    have eqcase : ∀ hc : ps.calls + 1 ≠ f ∨ ∀ shape id, cfg.T.prodKind[p]?.getD .dflt ≠ .user shape id,
        StepCmp f ps (doAct (cfg.withFail f) w (.reduce p) ps) (doAct (cfg.withFail 0) w (.reduce p) ps) := by
      intro hc
      left
      simp only [doAct, reduceRes_withFail cfg f p _ ps hc]
      rfl
    rcases hk : cfg.T.prodKind[p]?.getD .dflt with _ | _ | ⟨shape, id⟩
    · exact eqcase (.inr (by simp [hk]))
    · exact eqcase (.inr (by simp [hk]))
    · by_cases hc : ps.calls + 1 = f
      · simp only [doAct, PCfg.withFail]
        by_cases hlen : cfg.T.prodLen[p]?.getD 0 > ps.states.length
        · simp only [hlen, if_true]; exact .inl rfl
        · simp only [hlen, if_false]
          right
          refine ⟨hc, id, ?_⟩
          have hcond : (f != 0 && ps.calls + 1 == f) = true := by simp [hf, hc]
          simp only [reduceRes, hk, hcond, if_true, bne_self_eq_false, Bool.false_and,
            Bool.false_eq_true, if_false]
          generalize List.drop (cfg.T.prodLen[p]?.getD 0) ps.states = dr
          generalize userAction shape id (List.take (cfg.T.prodLen[p]?.getD 0) ps.attrs).reverse = ua
          rcases ua with why | b
          · rcases dr with _ | ⟨t', _⟩ <;> exact ⟨_, _, rfl, rfl, .inr ⟨_, _, rfl, rfl⟩⟩
          · rcases dr with _ | ⟨t', _⟩
            · exact ⟨_, _, rfl, rfl, .inl ⟨rfl, rfl⟩⟩
            · simp only []
              by_cases hg : (cfg.T.goto_[t']?.bind fun x => x[cfg.T.prodNT[p]?.getD 0]?).getD (-1) < 0
              · simp only [hg, if_true]
                exact ⟨_, _, rfl, rfl, .inl ⟨rfl, rfl⟩⟩
              · simp only [hg, if_false]
                exact ⟨_, _, rfl, rfl, .inl ⟨rfl, rfl⟩⟩
      · exact eqcase (.inl hc)

theorem step_cmp (cfg : PCfg) (f : Nat) (hf : f ≠ 0) (w : List Nat) (ps : PState) :
    StepCmp f ps (step (cfg.withFail f) w ps) (step (cfg.withFail 0) w ps) := by
  rcases hst : ps.states with _ | ⟨top, rest⟩
  · rw [step_nil hst, step_nil hst]; exact .inl rfl
  · by_cases hlt : ps.next.2 < cfg.T.numSymbols
    · rw [step_cons (cfg := cfg.withFail f) hst hlt, step_cons (cfg := cfg.withFail 0) hst hlt]
      have hl := lookupAct_log cfg.T cfg.errTerm w ps top
      show StepCmp f ps
        (match lookupAct cfg.T cfg.errTerm w ps top with
          | .error o => .done o.1 o.2 | .ok (a, ps) => doAct (cfg.withFail f) w a ps)
        (match lookupAct cfg.T cfg.errTerm w ps top with
          | .error o => .done o.1 o.2 | .ok (a, ps) => doAct (cfg.withFail 0) w a ps)
      rcases hlk : lookupAct cfg.T cfg.errTerm w ps top with ⟨o, ps'⟩ | ⟨a, ps'⟩
      · exact .inl rfl
      · rw [hlk] at hl
        have := doAct_cmp cfg f hf w a ps'
        unfold StepCmp at this ⊢
        rw [hl.1, hl.2] at this
        exact this
    · rw [step_range (cfg := cfg.withFail f) hst (Nat.le_of_not_lt hlt),
        step_range (cfg := cfg.withFail 0) hst (Nat.le_of_not_lt hlt)]
      exact .inl rfl

theorem run_mono (cfg : PCfg) (w : List Nat) (fuel : Nat) (sr : StepR) :
    LogExt sr.st (sr.run (parseLoop cfg w fuel)).2 := by
  cases sr with
  | done o ps => exact ⟨[], rfl, rfl⟩
  | cont ps => exact parseLoop_mono cfg w fuel ps

theorem parseLoop_lockstep (cfg : PCfg) (f : Nat) (w : List Nat) :
    ∀ (fuel : Nat) (ps : PState), ps.log.length = ps.calls → ps.calls < f →
      f ≤ (parseLoop (cfg.withFail 0) w fuel ps).2.calls →
      (parseLoop (cfg.withFail f) w fuel ps).2.log =
        (parseLoop (cfg.withFail 0) w fuel ps).2.log.drop
          ((parseLoop (cfg.withFail 0) w fuel ps).2.log.length - f) := by
  intro fuel
  induction fuel with
  | zero => intro ps _ h2 (h3 : f ≤ ps.calls); omega
  | succ fuel ih =>
    intro ps h1 h2
    have hf : f ≠ 0 := by omega
    rw [parseLoop_succ, parseLoop_succ]
    have hlk := StepR.logPost.calls (f := f) (step_log (cfg.withFail f) w ps) h1 h2
    rcases step_cmp cfg f hf w ps with heq | ⟨hcall, id, o, psk, hk1, hk2, hr0⟩
    · rw [← heq]
      rcases hs : step (cfg.withFail f) w ps with ⟨o1, ps1⟩ | ps1 <;> rw [hs] at hlk
      · intro _
        have : ps1.log.length - f = 0 := by have := hlk.1; have := hlk.2.1; simp only [StepR.st] at *; omega
        simp only [StepR.run]
        rw [this, List.drop_zero]
      · exact ih ps1 hlk.1 (hlk.2.2 _ rfl)
    · rw [hk1]
      simp only [StepR.run, hk2]
      rcases hr0 with ⟨g1, g2⟩ | ⟨o1, ps1, g1, g2⟩
      · obtain ⟨pre, e1, e2⟩ := run_mono (cfg.withFail 0) w fuel (step (cfg.withFail 0) w ps)
        simp only [StepR.run] at e1 e2
        intro _
        rw [e1, g1]
        have : (pre ++ id :: ps.log).length - f = pre.length := by simp; omega
        rw [this]
        simp
      · rw [g1]
        intro h3
        exact absurd (g2 ▸ h3 : f ≤ ps.calls) (Nat.not_le_of_lt h2)

end Gocc
