import Gocc.Proofs.LexItems
/-
C01 at generator level, for lexical parts without references to regular definitions (`noRefs`: no
`LTerm.ref` anywhere in the patterns).  Then no item expects a `.ref`, hence `closureL C l = .ok l` and
`depClosure C prev l = l` for all item lists, and `nextSet` / `nextDot` are the deduplicated unions of
the `moved` items.
-/
namespace Gocc

def LPat.noRefs : LPat → Bool
  | .mk alts => nrAlts alts
where
  nrAlts : List LAlt → Bool
    | [] => true
    | (.mk ts) :: rest => nrTerms ts && nrAlts rest
  nrTerms : List LTerm → Bool
    | [] => true
    | t :: rest => (match t with
        | .ref _ => false
        | .opt p | .rep p | .grp p => LPat.noRefs p
        | _ => true) && nrTerms rest

def noRefs (prods : List LProd) : Bool := prods.all fun p => p.pat.noRefs

namespace LexGenC

open EmovesU

def termNR : LTerm → Bool
  | .ref _ => false
  | .opt p | .rep p | .grp p => p.noRefs
  | _ => true

theorem nrTerms_eq : ∀ ts : List LTerm, LPat.noRefs.nrTerms ts = ts.all termNR
  | [] => rfl
  | t :: rest => by
    rw [List.all_cons, ← nrTerms_eq rest]
    cases t <;> simp only [LPat.noRefs.nrTerms, termNR]

theorem nrAlts_eq : ∀ alts : List LAlt,
    LPat.noRefs.nrAlts alts = alts.all fun a => LPat.noRefs.nrTerms a.terms
  | [] => rfl
  | .mk ts :: rest => by rw [LPat.noRefs.nrAlts, List.all_cons, nrAlts_eq rest]; rfl

theorem noRefs_hered : Hered (fun p => p.noRefs = true) (fun ts => LPat.noRefs.nrTerms ts = true)
    (fun t => termNR t = true) where
  alts := fun p hp => by
    cases p
    rw [LPat.noRefs, nrAlts_eq] at hp
    exact List.all_eq_true.1 hp
  terms := fun ts h => by
    rw [nrTerms_eq] at h
    exact List.all_eq_true.1 h
  sub := fun _ => ⟨id, id, id⟩

def NoRefC (C : LexCtx) : Prop := ∀ (k : Nat) (P : LProd), C.prods[k]? = some P → P.pat.noRefs = true

theorem noRefC_of_noRefs {prods : List LProd} (h : noRefs prods = true) :
    NoRefC { prods := prods.toArray } := fun _ _ hP => all_toArray h hP

theorem expected_ne_ref {C : LexCtx} (hC : NoRefC C) (i : LItem) (r : String) :
    C.expected i ≠ some (.ref r) := fun he =>
  let ⟨_, _, _, _, hP, _⟩ := expected_elim he
  Bool.false_ne_true (noRefs_hered.expected hP he (hC _ _ hP))

theorem closureLoopL_id {C : LexCtx} (hC : NoRefC C) (orig : List LItem) :
    ∀ (fuel k : Nat) (cl : List LItem), closureLoopL C orig fuel k cl = .ok cl := by
  intro fuel
  induction fuel with
  | zero => intro k cl; rfl
  | succ fuel ih =>
    intro k cl
    unfold closureLoopL
    cases hk : cl[k]? with
    | none => rfl
    | some i =>
      dsimp only
      cases he : C.expected i with
      | none => exact ih _ _
      | some t =>
        cases t with
        | ref r => exact absurd he (expected_ne_ref hC i r)
        | _ => exact ih _ _

theorem closureL_id {C : LexCtx} (hC : NoRefC C) (l : List LItem) : closureL C l = .ok l :=
  closureLoopL_id hC l _ 0 l

theorem depLoop_id {C : LexCtx} (hC : NoRefC C) (prev : List LItem) :
    ∀ (fuel k : Nat) (items : List LItem), depLoop C prev fuel k items = items := by
  intro fuel
  induction fuel with
  | zero => intro k items; rfl
  | succ fuel ih =>
    intro k items
    unfold depLoop
    cases hk : items[k]? with
    | none => rfl
    | some it =>
      dsimp only
      rw [foldl_inv (· = items) (l := prev) (fun acc th _ h => ?_) rfl]
      · exact ih _ _
      · split
        · rename_i r he; exact absurd he (expected_ne_ref hC th r)
        · exact h

theorem depClosure_id {C : LexCtx} (hC : NoRefC C) (prev l : List LItem) : depClosure C prev l = l := by
  unfold depClosure
  split
  · rfl
  · exact depLoop_id hC prev _ 0 l

def moveSet (C : LexCtx) (prev : List LItem) (c : CR) : List LItem :=
  prev.foldl (fun acc i => addAll acc (moveOn C i c)) []

def dotSet (C : LexCtx) (prev : List LItem) : List LItem :=
  prev.foldl (fun acc i => addAll acc (moveDot C i)) []

theorem nextSet_eq {C : LexCtx} (hC : NoRefC C) (prev : List LItem) (c : CR) :
    nextSet C prev c = .ok (moveSet C prev c) := by
  unfold nextSet
  rw [depClosure_id hC, closureL_id hC]; rfl

theorem nextDot_eq {C : LexCtx} (hC : NoRefC C) (prev : List LItem) :
    nextDot C prev = .ok (dotSet C prev) := by
  unfold nextDot
  rw [depClosure_id hC, closureL_id hC]; rfl

/-- production indices never decrease along the list; needed because `ItemSet.Action()` depends on
    the order of the list (LexGenCorrectAct) -/
def ProdSorted (l : List LItem) : Prop := l.Pairwise (fun a b => a.prod ≤ b.prod)

theorem prodSorted_addAll {k : Nat} {is l : List LItem} (his : ∀ x ∈ is, x.prod = k)
    (h : ProdSorted l) (hb : ∀ x ∈ l, x.prod ≤ k) :
    ProdSorted (addAll l is) ∧ ∀ x ∈ addAll l is, x.prod ≤ k := by
  obtain ⟨ex, e, _, hex⟩ := appends_addAll is l
  constructor
  · rw [e, ProdSorted, List.pairwise_append]
    refine ⟨h, List.pairwise_of_forall_mem_list fun a ha b hb' => ?_, fun a ha b hb' => ?_⟩
    · rw [his a (hex a ha).1, his b (hex b hb').1]; exact Nat.le_refl _
    · rw [his b (hex b hb').1]; exact hb a ha
  · intro x hx
    rcases mem_addAll.1 hx with h' | h'
    · exact hb x h'
    · exact Nat.le_of_eq (his x h')

theorem prodSorted_foldl_addAll {α : Type} (key : α → Nat) (f : α → List LItem)
    (hf : ∀ a, ∀ x ∈ f a, x.prod = key a) (prev : List α)
    (hp : prev.Pairwise (fun a b => key a ≤ key b)) :
    ProdSorted (prev.foldl (fun acc i => addAll acc (f i)) []) := by
  suffices ∀ (prev : List α) (init : List LItem) (k : Nat),
      prev.Pairwise (fun a b => key a ≤ key b) → (∀ x ∈ prev, k ≤ key x) → ProdSorted init →
      (∀ x ∈ init, x.prod ≤ k) → ProdSorted (prev.foldl (fun acc i => addAll acc (f i)) init) from
    this prev [] 0 hp (fun _ _ => Nat.zero_le _) .nil nofun
  intro prev
  induction prev with
  | nil => intro init k _ _ h _; exact h
  | cons i prev ih =>
    intro init k hp hk hi hik
    rw [List.pairwise_cons] at hp
    obtain ⟨h1, h2⟩ := prodSorted_addAll (hf i) hi fun x hx =>
      Nat.le_trans (hik x hx) (hk i List.mem_cons_self)
    exact ih _ (key i) hp.2 hp.1 h1 h2

theorem moveOn_prod (C : LexCtx) (c : CR) (i : LItem) : ∀ y ∈ moveOn C i c, y.prod = i.prod :=
  fun y hy => moved_prod C i y (mem_moveOn.1 hy).choose_spec.2.2

theorem moveDot_prod (C : LexCtx) (i : LItem) : ∀ y ∈ moveDot C i, y.prod = i.prod :=
  fun y hy => moved_prod C i y (mem_moveDot.1 hy).2

theorem isReduce_false_of_expected {C : LexCtx} {i : LItem} {t : LTerm} (h : C.expected i = some t) :
    C.isReduce i = false := by
  cases hr : C.isReduce i with
  | false => rfl
  | true => rw [expected_none_of_isReduce hr] at h; cases h

theorem mem_moveSet {C : LexCtx} {prev : List LItem} {c : CR} {y : LItem} :
    y ∈ moveSet C prev c ↔
      ∃ i ∈ prev, ∃ t, C.expected i = some t ∧ termMatch t c = true ∧ y ∈ moved C i := by
  unfold moveSet
  simp only [mem_foldl_addAll (fun i => moveOn C i c), List.not_mem_nil, false_or, mem_moveOn]

theorem mem_dotSet {C : LexCtx} {prev : List LItem} {y : LItem} :
    y ∈ dotSet C prev ↔ ∃ i ∈ prev, C.expected i = some .dot ∧ y ∈ moved C i := by
  unfold dotSet
  simp only [mem_foldl_addAll (fun i => moveDot C i), List.not_mem_nil, false_or, mem_moveDot]

theorem nodup_moveSet (C : LexCtx) (prev : List LItem) (c : CR) : (moveSet C prev c).Nodup :=
  nodup_foldl_addAll _ prev List.nodup_nil

theorem nodup_dotSet (C : LexCtx) (prev : List LItem) : (dotSet C prev).Nodup :=
  nodup_foldl_addAll _ prev List.nodup_nil

theorem prodSorted_moveSet (C : LexCtx) {prev : List LItem} (c : CR) (h : ProdSorted prev) :
    ProdSorted (moveSet C prev c) :=
  prodSorted_foldl_addAll (fun i : LItem => i.prod) _ (moveOn_prod C c) prev h

theorem prodSorted_dotSet (C : LexCtx) {prev : List LItem} (h : ProdSorted prev) :
    ProdSorted (dotSet C prev) :=
  prodSorted_foldl_addAll (fun i : LItem => i.prod) _ (moveDot_prod C) prev h

end LexGenC
end Gocc
