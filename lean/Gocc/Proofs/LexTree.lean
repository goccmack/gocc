import Gocc.Model.LexGen
/-
Geometry of the pattern tree of a lexical production.  `r = .pat P.pat` is the root of production
`k`; an item is `⟨k, q ++ [pos]⟩` with `node r q = some n`, the node on top of its stack.  The ε-step
`emoveStep` is put in closed form by the kind of that node.
-/
namespace Gocc
namespace EmovesU

def node : LNode → List Nat → Option LNode
  | n, [] => some n
  | n, j :: q => (n.child j).bind fun c => node c q

theorem walk_snoc (q : List Nat) : ∀ (n : LNode) (p : Nat),
    walk n (q ++ [p]) = (node n q).map fun m => (m, p) := by
  induction q with
  | nil => intro n p; rfl
  | cons a q ih =>
    intro n p
    cases q with
    | nil => cases h : n.child a <;> simp [walk, node, h]
    | cons b q =>
      have := ih
      simp only [List.cons_append] at this ⊢
      simp only [walk, node, this]
      cases n.child a <;> rfl

theorem node_snoc (q : List Nat) : ∀ (n : LNode) (j : Nat),
    node n (q ++ [j]) = (node n q).bind fun m => m.child j := by
  induction q with
  | nil => intro n j; cases h : n.child j <;> simp [node, h]
  | cons a q ih =>
    intro n j
    simp only [List.cons_append, node, ih]
    cases n.child a <;> rfl

theorem walk_some {n m : LNode} {l : List Nat} {pos : Nat} (h : walk n l = some (m, pos)) :
    ∃ q, l = q ++ [pos] ∧ node n q = some m := by
  rcases List.eq_nil_or_concat l with rfl | ⟨q, p, rfl⟩
  · simp [walk] at h
  · rw [List.concat_eq_append, walk_snoc, Option.map_eq_some_iff] at h
    obtain ⟨m', hm', e⟩ := h
    cases e
    exact ⟨q, List.concat_eq_append, hm'⟩

@[simp] theorem setLast_snoc (q : List Nat) (p v : Nat) : setLast (q ++ [p]) v = q ++ [v] := by
  simp [setLast]

@[simp] theorem incLast_snoc (q : List Nat) (p : Nat) : incLast (q ++ [p]) = q ++ [p + 1] := by
  simp [incLast]

theorem node_ind {Q : LNode → Prop} (hc : ∀ n c j, n.child j = some c → Q n → Q c) :
    ∀ (q : List Nat) (r m : LNode), node r q = some m → Q r → Q m
  | [], r, m, h, hr => by cases h; exact hr
  | a :: q, r, m, h, hr => by
    rw [node, Option.bind_eq_some_iff] at h
    obtain ⟨c, hc', hm⟩ := h
    exact node_ind hc q c m hm (hc r c a hc' hr)

theorem node_parent {r m : LNode} {q : List Nat} (h : node r q = some m) (hq : q ≠ []) :
    ∃ q' j pn, q = q' ++ [j] ∧ node r q' = some pn ∧ pn.child j = some m := by
  rcases List.eq_nil_or_concat q with rfl | ⟨q', j, rfl⟩
  · exact absurd rfl hq
  · rw [List.concat_eq_append, node_snoc, Option.bind_eq_some_iff] at h
    obtain ⟨pn, h1, h2⟩ := h
    exact ⟨q', j, pn, List.concat_eq_append, h1, h2⟩

theorem node_ne_nil {r m : LNode} {q : List Nat} (h : node r q = some m) (hne : m ≠ r) : q ≠ [] := by
  rintro rfl
  exact hne (Option.some.inj h).symm

def isPatLike : LNode → Bool
  | .alt _ => false
  | _ => true

theorem eq_alt_of_not_patLike {n : LNode} (h : ¬ isPatLike n = true) : ∃ a, n = .alt a := by
  cases n <;> first | exact ⟨_, rfl⟩ | exact absurd rfl h

def subNode : LTerm → Option LNode
  | .grp p => some (.grp p)
  | .opt p => some (.opt p)
  | .rep p => some (.rep p)
  | _ => none

theorem child_alt (a : LAlt) (j : Nat) : (LNode.alt a).child j = (a.terms[j]?).bind subNode := by
  simp only [LNode.child]
  cases a.terms[j]? with
  | none => rfl
  | some t => cases t <;> rfl

theorem termAt_alt (a : LAlt) (j : Nat) : (LNode.alt a).termAt j =
    (a.terms[j]?).bind fun t => if (subNode t).isSome then none else some t := by
  simp only [LNode.termAt]
  cases a.terms[j]? with
  | none => rfl
  | some t => cases t <;> rfl

theorem termAt_eq_some {n : LNode} {j : Nat} {t : LTerm} :
    n.termAt j = some t ↔ ∃ a, n = .alt a ∧ a.terms[j]? = some t ∧ subNode t = none := by
  cases n with
  | alt a =>
    rw [termAt_alt, Option.bind_eq_some_iff]
    constructor
    · rintro ⟨t', ht', h⟩
      split at h
      · cases h
      · rename_i hs
        cases h
        exact ⟨a, rfl, ht', Option.not_isSome_iff_eq_none.1 hs⟩
    · rintro ⟨_, ⟨rfl⟩, ht, hs⟩
      exact ⟨t, ht, by rw [hs]; rfl⟩
  | pat p | grp p | opt p | rep p => simp [LNode.termAt]

theorem termAt_lt {n : LNode} {j : Nat} {t : LTerm} (h : n.termAt j = some t) : j < n.len := by
  obtain ⟨a, rfl, ht, _⟩ := termAt_eq_some.1 h
  exact (List.getElem?_eq_some_iff.1 ht).1

theorem child_lt {n c : LNode} {j : Nat} (h : n.child j = some c) : j < n.len := by
  cases n with
  | alt a =>
    rw [child_alt, Option.bind_eq_some_iff] at h
    obtain ⟨t, ht, _⟩ := h
    exact (List.getElem?_eq_some_iff.1 ht).1
  | pat p | grp p | opt p | rep p =>
    simp only [LNode.child, Option.map_eq_some_iff] at h
    obtain ⟨a, ha, _⟩ := h
    exact (List.getElem?_eq_some_iff.1 ha).1

theorem child_kind {n c : LNode} {j : Nat} (h : n.child j = some c) :
    (isPatLike n = true ∧ ∃ a, c = .alt a) ∨
    ((∃ a, n = .alt a) ∧ isPatLike c = true ∧ ∀ p, c ≠ .pat p) := by
  cases n with
  | alt a =>
    rw [child_alt, Option.bind_eq_some_iff] at h
    obtain ⟨t, _, ht⟩ := h
    cases t <;> cases ht <;> exact .inr ⟨⟨a, rfl⟩, rfl, nofun⟩
  | pat p | grp p | opt p | rep p =>
    simp only [LNode.child, Option.map_eq_some_iff] at h
    obtain ⟨a, _, rfl⟩ := h
    exact .inl ⟨rfl, a, rfl⟩

theorem child_of_lt_patlike {n : LNode} {j : Nat} (hn : isPatLike n = true) (hj : j < n.len) :
    ∃ a, n.child j = some (.alt a) := by
  cases n with
  | alt a => cases hn
  | pat p | grp p | opt p | rep p =>
    exact ⟨p.alts[j], by simp only [LNode.child, List.getElem?_eq_getElem hj, Option.map_some]⟩

theorem alt_child_of_not_term {a : LAlt} {pos : Nat} (hpos : pos < a.terms.length)
    (ht : (LNode.alt a).termAt pos = none) : ∃ c, (LNode.alt a).child pos = some c := by
  rw [child_alt, List.getElem?_eq_getElem hpos, Option.bind_some]
  cases hs : subNode a.terms[pos] with
  | some c => exact ⟨c, rfl⟩
  | none =>
    rw [termAt_eq_some.2 ⟨a, rfl, List.getElem?_eq_getElem hpos, hs⟩] at ht
    cases ht

theorem node_pat_root {P P' : LPat} {q : List Nat} (h : node (.pat P) q = some (.pat P')) : q = [] := by
  by_cases hq : q = []
  · exact hq
  · obtain ⟨q', j, pn, _, _, hc⟩ := node_parent h hq
    rcases child_kind hc with ⟨_, _, h2⟩ | ⟨_, _, h3⟩
    · cases h2
    · exact absurd rfl (h3 P')

/-! ### predicates that descend the pattern structure

`A` on patterns, `B` on the term list of an alternative, `T` on terms, such that `A` passes to the
alternatives, `B` to the terms and `T` of `( p )`, `[ p ]`, `{ p }` back to `A p`: then they hold at
every node below a root satisfying `A`, and `T` holds of every expected terminal. -/

def atNode (A : LPat → Prop) (B : List LTerm → Prop) : LNode → Prop
  | .alt a => B a.terms
  | .pat p | .grp p | .opt p | .rep p => A p

structure Hered (A : LPat → Prop) (B : List LTerm → Prop) (T : LTerm → Prop) : Prop where
  alts : ∀ p, A p → ∀ a ∈ p.alts, B a.terms
  terms : ∀ ts, B ts → ∀ t ∈ ts, T t
  sub : ∀ p, (T (.grp p) → A p) ∧ (T (.opt p) → A p) ∧ (T (.rep p) → A p)

section
variable {A : LPat → Prop} {B : List LTerm → Prop} {T : LTerm → Prop}

theorem Hered.child (h : Hered A B T) {n c : LNode} {j : Nat} (hc : n.child j = some c)
    (hn : atNode A B n) : atNode A B c := by
  cases n with
  | alt a =>
    rw [child_alt, Option.bind_eq_some_iff] at hc
    obtain ⟨t, ht, hs⟩ := hc
    have hT := h.terms _ hn t (List.mem_of_getElem? ht)
    cases t <;> cases hs
    · exact (h.sub _).2.1 hT
    · exact (h.sub _).2.2 hT
    · exact (h.sub _).1 hT
  | pat p | grp p | opt p | rep p =>
    simp only [LNode.child, Option.map_eq_some_iff] at hc
    obtain ⟨a, ha, rfl⟩ := hc
    exact h.alts p hn a (List.mem_of_getElem? ha)

theorem Hered.node (h : Hered A B T) {q : List Nat} {r m : LNode} (hq : node r q = some m)
    (hr : atNode A B r) : atNode A B m :=
  node_ind (fun _ _ _ hc => h.child hc) q r m hq hr

theorem Hered.termAt (h : Hered A B T) {n : LNode} {j : Nat} {t : LTerm} (ht : n.termAt j = some t)
    (hn : atNode A B n) : T t := by
  obtain ⟨a, rfl, ht, _⟩ := termAt_eq_some.1 ht
  exact h.terms _ hn t (List.mem_of_getElem? ht)

end

theorem top_eq {C : LexCtx} {k : Nat} {P : LProd} (hP : C.prods[k]? = some P) (l : List Nat) :
    C.top ⟨k, l⟩ = walk (.pat P.pat) l := by
  simp [LexCtx.top, hP]

theorem top_at {C : LexCtx} {k : Nat} {P : LProd} (hP : C.prods[k]? = some P) {q : List Nat} {n : LNode}
    (hn : node (.pat P.pat) q = some n) (pos : Nat) : C.top ⟨k, q ++ [pos]⟩ = some (n, pos) := by
  rw [top_eq hP, walk_snoc, hn]; rfl

theorem top_elim {C : LexCtx} {y : LItem} {n : LNode} {pos : Nat} (h : C.top y = some (n, pos)) :
    ∃ P q, C.prods[y.prod]? = some P ∧ y.path = q ++ [pos] ∧ node (.pat P.pat) q = some n := by
  rw [LexCtx.top, Option.bind_eq_some_iff] at h
  obtain ⟨P, hP, hw⟩ := h
  obtain ⟨q, h1, h2⟩ := walk_some hw
  exact ⟨P, q, hP, h1, h2⟩

theorem expected_at {C : LexCtx} {k : Nat} {P : LProd} (hP : C.prods[k]? = some P) {q : List Nat}
    {n : LNode} (hn : node (.pat P.pat) q = some n) (pos : Nat) :
    C.expected ⟨k, q ++ [pos]⟩ = n.termAt pos := by
  unfold LexCtx.expected
  rw [top_at hP hn]

theorem expected_elim {C : LexCtx} {i : LItem} {t : LTerm} (h : C.expected i = some t) :
    ∃ P q pos n, C.prods[i.prod]? = some P ∧ i.path = q ++ [pos] ∧
      node (.pat P.pat) q = some n ∧ n.termAt pos = some t := by
  unfold LexCtx.expected at h
  split at h
  · rename_i n pos htop
    obtain ⟨P, q, hP, hpath, hn⟩ := top_elim htop
    exact ⟨P, q, pos, n, hP, hpath, hn, h⟩
  · cases h

theorem Hered.expected {A : LPat → Prop} {B : List LTerm → Prop} {T : LTerm → Prop}
    (h : Hered A B T) {C : LexCtx} {i : LItem} {t : LTerm} {P : LProd}
    (hP : C.prods[i.prod]? = some P) (he : C.expected i = some t) (hA : A P.pat) : T t := by
  obtain ⟨P', q, pos, n, hP', _, hn, ht⟩ := expected_elim he
  cases hP.symm.trans hP'
  exact h.termAt ht (h.node hn hA)

theorem all_toArray {f : LProd → Bool} {prods : List LProd} (h : prods.all f = true) {k : Nat} {P : LProd}
    (hP : (LexCtx.prods { prods := prods.toArray })[k]? = some P) : f P = true :=
  List.all_eq_true.1 h P (List.mem_of_getElem? (List.getElem?_toArray ▸ hP))

theorem getElem!_of_some {C : LexCtx} {k : Nat} {P : LProd} (hP : C.prods[k]? = some P) :
    C.prods[k]! = P := by
  obtain ⟨h, rfl⟩ := Array.getElem?_eq_some_iff.1 hP
  simp [h]

def enterL (k : Nat) (q : List Nat) (len : Nat) : List LItem :=
  (List.range len).map fun k' => (⟨k, q ++ [k'] ++ [0]⟩ : LItem)

theorem mem_enterL {k : Nat} {q : List Nat} {len : Nat} {y : LItem} :
    y ∈ enterL k q len ↔ ∃ k', k' < len ∧ y = ⟨k, q ++ [k'] ++ [0]⟩ := by
  simp only [enterL, List.mem_map, List.mem_range]
  exact exists_congr fun _ => and_congr_right fun _ => eq_comm

def enterOk : LNode → Nat → Bool
  | .rep _, _ => true
  | .alt _, _ => false
  | _, pos => pos == 0

def leaveOk : LNode → Nat → Bool
  | .grp _, pos => pos != 0
  | .opt _, _ | .rep _, _ => true
  | _, _ => false

theorem step_alt_end {C : LexCtx} {k : Nat} {P : LProd} (hP : C.prods[k]? = some P) {q' : List Nat}
    {m : Nat} {pn : LNode} {a : LAlt} (hpn : node (.pat P.pat) q' = some pn)
    (hn : node (.pat P.pat) (q' ++ [m]) = some (.alt a)) {pos : Nat} (hpos : a.terms.length ≤ pos) :
    emoveStep C ⟨k, q' ++ [m] ++ [pos]⟩ = [⟨k, q' ++ [pn.len]⟩] := by
  unfold emoveStep
  rw [top_at hP hn]
  have hw : walk (.pat P.pat) (q' ++ [m]) = some (pn, m) := by rw [walk_snoc, hpn]; rfl
  simp [LNode.len, hpos, getElem!_of_some hP, hw]

theorem step_alt_push {C : LexCtx} {k : Nat} {P : LProd} (hP : C.prods[k]? = some P) {q : List Nat}
    {a : LAlt} (hn : node (.pat P.pat) q = some (.alt a)) {pos : Nat} (hpos : pos < a.terms.length) :
    emoveStep C ⟨k, q ++ [pos]⟩ = [⟨k, q ++ [pos] ++ [0]⟩] := by
  unfold emoveStep
  rw [top_at hP hn]
  simp [LNode.len, Nat.not_le.2 hpos]

theorem step_patLike {C : LexCtx} {k : Nat} {P : LProd} (hP : C.prods[k]? = some P) {q : List Nat}
    {n : LNode} (hn : node (.pat P.pat) q = some n) (hpl : isPatLike n = true) (pos : Nat) :
    emoveStep C ⟨k, q ++ [pos]⟩ =
      (if enterOk n pos then enterL k q n.len else []) ++
      if leaveOk n pos then [⟨k, incLast q⟩] else if q = [] ∧ pos ≠ 0 then [⟨k, [n.len]⟩] else [] := by
  unfold emoveStep
  rw [top_at hP hn]
  cases n with
  | alt a => cases hpl
  | pat p =>
    obtain rfl := node_pat_root hn
    by_cases h0 : pos = 0 <;> simp [h0, enterOk, leaveOk, enterL, LNode.len, setLast]
  | grp p => by_cases h0 : pos = 0 <;> simp [h0, enterOk, leaveOk, enterL, LNode.len]
  | opt p => by_cases h0 : pos = 0 <;> simp [h0, enterOk, leaveOk, enterL, LNode.len]
  | rep p => simp [enterOk, leaveOk, enterL, LNode.len]

theorem mem_step_patLike {C : LexCtx} {k : Nat} {P : LProd} (hP : C.prods[k]? = some P) {q : List Nat}
    {n : LNode} (hn : node (.pat P.pat) q = some n) (hpl : isPatLike n = true) {pos : Nat} {y : LItem} :
    y ∈ emoveStep C ⟨k, q ++ [pos]⟩ ↔
      enterOk n pos = true ∧ y ∈ enterL k q n.len ∨ leaveOk n pos = true ∧ y = ⟨k, incLast q⟩ ∨
      q = [] ∧ pos ≠ 0 ∧ y = ⟨k, [n.len]⟩ := by
  rw [step_patLike hP hn hpl, List.mem_append]
  by_cases hl : leaveOk n pos = true
  · -- a node that can be left is not the root
    simp [hl, node_ne_nil hn (by rintro rfl; cases hl)]
  · simp [hl, and_assoc]

end EmovesU
end Gocc
