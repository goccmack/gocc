import Gocc.Proofs.RegexSemResidual
import Gocc.Proofs.LexGenCorrectAct
/-
Acceptance, verdict and aliveness of the reference automaton in terms of the declarative semantics.
Completeness of runs (`run_of_den`) gives: a matched string `w` ends in the completed item
(`done_of_den`), and a matched string `w ++ v` is read through a position of the state after `w`
(`split_of_den`).  Soundness of runs (`run_cont`) gives the converse, `den_of_split`: what a position
of production `k` in the state after `w` may still read completes `w` to a string of `k`; at the
completed item with `v = []` this is `den_of_done`.  For `live` patterns every continuation language is
non-empty (`cont_nonempty`), hence the automaton is alive after `w` iff `w` is a prefix of a string
matched by some token (`alive_iff`).
-/
namespace Gocc
namespace RegexS

open EmovesU LexGenC

/-- the patterns of the non-`reg` productions have at least one alternative (always true for parsed
    grammars; the reference automaton accepts the EMPTY string for a pattern without alternatives, the
    declarative semantics nothing: `c01rx_empty_pattern` in Props/C01Regex.lean) -/
def TopNE (C : LexCtx) : Prop :=
  ∀ (k : Nat) (P : LProd), C.prods[k]? = some P → P.kind ≠ .reg → P.pat.alts ≠ []

theorem topNE_of_altToks {prods : List LProd} (h : altToks prods = true) :
    TopNE { prods := prods.toArray } := fun _ P hP hk => by
  simpa [hk] using all_toArray h hP

theorem reduce_pos_eq {C : LexCtx} {i : LItem} {P : LProd} (hP : C.prods[i.prod]? = some P)
    (hpos : Pos C i) (hr : C.isReduce i = true) : i = ⟨i.prod, [P.pat.alts.length]⟩ := by
  obtain ⟨P', hP', q, pos, n, hpath, hn, hle⟩ := hpos
  obtain rfl : P = P' := Option.some.inj (hP.symm.trans hP')
  obtain ⟨k, l⟩ := i
  subst hpath
  by_cases hq : q = []
  · subst hq
    obtain rfl : LNode.pat P.pat = n := by simpa [node] using hn
    rw [List.nil_append, isReduce_root hP, decide_eq_true_eq] at hr
    rw [List.nil_append, Nat.le_antisymm hle hr]; rfl
  · rw [isReduce_deep hq] at hr; cases hr

section
variable {C : LexCtx} (hC : NoRefC C) (hD : NoDotC C)
include hC hD

theorem run_of_mem_xRun {w : List Int} {x : XPos} (hx : x ∈ xRun C w) :
    ∃ y P, x = [y] ∧ C.prods[y.prod]? = some P ∧ P.kind ≠ .reg ∧ Run C ⟨y.prod, [0]⟩ w y := by
  obtain ⟨k, P, y, hP, hk, rfl, hrun, _⟩ := (mem_xRun_iff hC hD w x).1 hx
  obtain rfl : y.prod = k := run_prod hrun
  exact ⟨y, P, rfl, hP, hk, hrun⟩

theorem done_of_reduce {w : List Int} {i : LItem} (hi : [i] ∈ xRun C w) (hr : C.isReduce i = true) :
    ∃ (k : Nat) (P : LProd), C.prods[k]? = some P ∧ P.kind ≠ .reg ∧ i = ⟨k, [P.pat.alts.length]⟩ := by
  obtain ⟨_, P, e, hP, hk, hrun⟩ := run_of_mem_xRun hC hD hi
  cases e
  exact ⟨_, P, hP, hk, reduce_pos_eq hP (run_pos hrun (pos_start hP)) hr⟩

variable {k : Nat} {P : LProd} (hP : C.prods[k]? = some P) (hk : P.kind ≠ .reg)
include hP hk

theorem split_of_den {w v : List Int} (h : denPat P.pat (w ++ v)) :
    ∃ y, [y] ∈ xRun C w ∧ Run C y v ⟨k, [P.pat.alts.length]⟩ := by
  obtain ⟨y, hy, h1, h2⟩ := run_split (run_of_den hP h) (isBasic_done hP) w v rfl
  exact ⟨y, (mem_xRun_iff hC hD w _).2 ⟨k, P, y, hP, hk, rfl, h1, hy⟩, h2⟩

omit hk in
theorem den_of_split {w v : List Int} {y : LItem} (hy : [y] ∈ xRun C w) (hprod : y.prod = k)
    (hv : Cont C y v) : denPat P.pat (w ++ v) := by
  obtain ⟨_, _, e, _, _, hrun⟩ := run_of_mem_xRun hC hD hy
  cases e
  exact (cont_start hP _).1 (run_cont (hprod ▸ hrun) hv)

theorem done_of_den {w : List Int} (h : denPat P.pat w) : [⟨k, [P.pat.alts.length]⟩] ∈ xRun C w :=
  (mem_xRun_iff hC hD w _).2 ⟨k, P, _, hP, hk, rfl, run_of_den hP h, isBasic_done hP⟩

omit hk in
theorem den_of_done (hne : P.pat.alts ≠ []) {w : List Int}
    (h : [⟨k, [P.pat.alts.length]⟩] ∈ xRun C w) : denPat P.pat w := by
  simpa using den_of_split hC hD hP (v := []) h rfl (cont_final hP hne)

theorem accept_iff (hne : P.pat.alts ≠ []) (w : List Int) :
    (∃ top, [top] ∈ xRun C w ∧ top.prod = k ∧ C.isReduce top = true) ↔ denPat P.pat w := by
  constructor
  · rintro ⟨i, hi, hprod, hr⟩
    obtain ⟨k', P', hP', _, rfl⟩ := done_of_reduce hC hD hi hr
    obtain rfl : k' = k := hprod
    obtain rfl : P = P' := Option.some.inj (hP.symm.trans hP')
    exact den_of_done hC hD hP hne hi
  · exact fun hw => ⟨_, done_of_den hC hD hP hk hw, rfl, isReduce_done hP⟩

end

theorem done_iff {C : LexCtx} (hC : NoRefC C) (hD : NoDotC C)
    (hne : TopNE C) (w : List Int) (i : LItem) :
    ([i] ∈ xRun C w ∧ C.isReduce i = true) ↔
      ∃ (k : Nat) (P : LProd), C.prods[k]? = some P ∧ P.kind ≠ .reg ∧ i = ⟨k, [P.pat.alts.length]⟩ ∧ denPat P.pat w := by
  constructor
  · rintro ⟨hi, hr⟩
    obtain ⟨k, P, hP, hk, rfl⟩ := done_of_reduce hC hD hi hr
    exact ⟨k, P, hP, hk, rfl, den_of_done hC hD hP (hne k P hP hk) hi⟩
  · rintro ⟨k, P, hP, hk, rfl, hw⟩
    exact ⟨done_of_den hC hD hP hk hw, isReduce_done hP⟩

theorem verdict_eq {C : LexCtx} (hC : NoRefC C) (hD : NoDotC C)
    (hne : TopNE C) (w : List Int)
    (l : List LItem) (hs : ProdSorted l)
    (hl : ∀ i, i ∈ l ↔ ∃ (k : Nat) (P : LProd), C.prods[k]? = some P ∧ P.kind ≠ .reg ∧ i = ⟨k, [P.pat.alts.length]⟩ ∧
      denPat P.pat w) :
    xVerdict C (xRun C w) = lexAction C l := by
  rw [xVerdict_eq]
  refine lexAction_congr (prodSorted_doneOf (goodX_xRun hC hD w)) hs ?_
  intro i _
  rw [mem_doneOf, done_iff hC hD hne, hl]

theorem qual_done {C : LexCtx} {k : Nat} {P : LProd} (hP : C.prods[k]? = some P) (hk : P.kind ≠ .reg) :
    qual C ⟨k, [P.pat.alts.length]⟩ = true := by
  simp only [qual, hP, isReduce_done hP, Bool.and_true, bne_iff_ne, ne_eq]
  exact hk

theorem isStrP_eq {C : LexCtx} {k : Nat} {P : LProd} (hP : C.prods[k]? = some P) :
    isStrP C k = P.strLit := by
  simp [isStrP, hP]

/-- the production chosen after `w`: none if nothing matches; otherwise a matching production —
    the last declared string literal among the matching ones if there is one, else the earliest
    declared -/
theorem verdict_winner {C : LexCtx} (hC : NoRefC C) (hD : NoDotC C) (hne : TopNE C) (w : List Int) :
    (xVerdict C (xRun C w) = .none ∧
      ∀ (k : Nat) (P : LProd), C.prods[k]? = some P → P.kind ≠ .reg → ¬ denPat P.pat w) ∨
    ∃ (ka : Nat) (Pa : LProd), C.prods[ka]? = some Pa ∧ Pa.kind ≠ .reg ∧ denPat Pa.pat w ∧
      xVerdict C (xRun C w) = actOfProd C ka ∧
      (Pa.strLit = true → ∀ (k : Nat) (P : LProd), C.prods[k]? = some P → P.kind ≠ .reg →
        denPat P.pat w → P.strLit = true → k ≤ ka) ∧
      (Pa.strLit = false → ∀ (k : Nat) (P : LProd), C.prods[k]? = some P → P.kind ≠ .reg →
        denPat P.pat w → P.strLit = false ∧ ka ≤ k) := by
  obtain ⟨o, ho, hb⟩ : ∃ o, xVerdict C (xRun C w) = actOf C o ∧ BestOpt C (doneOf C (xRun C w)) o :=
    ⟨_, (xVerdict_eq C _).trans (lexAction_eq C _), foldl_best (prodSorted_doneOf (goodX_xRun hC hD w))⟩
  have hmem : ∀ {k P}, C.prods[k]? = some P → P.kind ≠ .reg → denPat P.pat w →
      (⟨k, [P.pat.alts.length]⟩ : LItem) ∈ doneOf C (xRun C w) :=
    fun hP hk hw => mem_doneOf.2 ((done_iff hC hD hne w _).2 ⟨_, _, hP, hk, rfl, hw⟩)
  cases o with
  | none =>
    refine .inl ⟨ho, fun k P hP hk hw => ?_⟩
    have := hb _ (hmem hP hk hw)
    rw [qual_done hP hk] at this; cases this
  | some a =>
    obtain ⟨ha, -, hbest⟩ := hb
    obtain ⟨ka, Pa, hPa, hka, rfl, hwa⟩ := (done_iff hC hD hne w a).1 (mem_doneOf.1 ha)
    refine .inr ⟨ka, Pa, hPa, hka, hwa, ho, ?_, ?_⟩
    · intro hs k P hP hk hw hsP
      exact (hbest _ (hmem hP hk hw) (qual_done hP hk)).1 ((isStrP_eq hPa).trans hs)
        ((isStrP_eq hP).trans hsP)
    · intro hs k P hP hk hw
      have := (hbest _ (hmem hP hk hw) (qual_done hP hk)).2 ((isStrP_eq hPa).trans hs)
      rwa [isStrP_eq hP] at this

def termLV : LTerm → Bool
  | .lit _ => true
  | .rng lo hi => decide (lo ≤ hi)
  | .opt p | .rep p | .grp p => p.live
  | .dot | .ref _ => false

theorem lvTerms_cons (t : LTerm) (rest : List LTerm) :
    LPat.live.lvTerms (t :: rest) = (termLV t && LPat.live.lvTerms rest) := by
  cases t <;> rfl

theorem live_mk (alts : List LAlt) :
    (LPat.mk alts).live = (!alts.isEmpty && LPat.live.lvAlts alts) := rfl

theorem lvTerms_eq : ∀ ts : List LTerm, LPat.live.lvTerms ts = ts.all termLV
  | [] => rfl
  | t :: rest => by rw [lvTerms_cons, List.all_cons, lvTerms_eq rest]

theorem lvAlts_eq : ∀ alts : List LAlt,
    LPat.live.lvAlts alts = alts.all fun a => LPat.live.lvTerms a.terms
  | [] => rfl
  | .mk ts :: rest => by rw [List.all_cons, ← lvAlts_eq rest]; rfl

theorem hered_live : Hered (fun p => p.live = true) (fun ts => LPat.live.lvTerms ts = true)
    (fun t => termLV t = true) where
  alts := fun p hp => by
    cases p
    rw [live_mk, Bool.and_eq_true, lvAlts_eq] at hp
    exact List.all_eq_true.1 hp.2
  terms := fun ts hts => by
    rw [lvTerms_eq] at hts
    exact List.all_eq_true.1 hts
  sub := fun _ => ⟨id, id, id⟩

theorem lvTerms_drop {ts : List LTerm} (h : LPat.live.lvTerms ts = true) (j : Nat) :
    LPat.live.lvTerms (ts.drop j) = true := by
  rw [lvTerms_eq, List.all_eq_true] at h ⊢
  exact fun t ht => h t (List.mem_of_mem_drop ht)

mutual
  theorem ne_pat : (p : LPat) → p.live = true → ∃ w, denPat p w
    | .mk alts, h => by
      rw [live_mk, Bool.and_eq_true] at h
      obtain ⟨w, hw⟩ := ne_alts alts (by simpa using h.1) h.2
      exact ⟨w, by rw [denPat_mk]; exact hw⟩
  theorem ne_alts : (alts : List LAlt) → alts ≠ [] → LPat.live.lvAlts alts = true →
      ∃ w, denAlts alts w
    | [], h, _ => absurd rfl h
    | .mk ts :: rest, _, h => by
      obtain ⟨w, hw⟩ := ne_terms ts (Bool.and_eq_true_iff.1 h).1
      exact ⟨w, by rw [denAlts_cons, denAlt_mk]; exact Or.inl hw⟩
  theorem ne_terms : (ts : List LTerm) → LPat.live.lvTerms ts = true → ∃ w, denTerms ts w
    | [], _ => ⟨[], by rw [denTerms_nil]⟩
    | t :: rest, h => by
      rw [lvTerms_cons, Bool.and_eq_true] at h
      obtain ⟨u, hu⟩ := ne_term t h.1
      obtain ⟨v, hv⟩ := ne_terms rest h.2
      exact ⟨u ++ v, by rw [denTerms_cons]; exact ⟨u, v, rfl, hu, hv⟩⟩
  theorem ne_term : (t : LTerm) → termLV t = true → ∃ w, denTerm t w
    | .dot, h => by simp [termLV] at h
    | .ref _, h => by simp [termLV] at h
    | .lit c, _ => ⟨[c], by rw [denTerm_lit]⟩
    | .rng lo hi, h => ⟨[lo], by
        simp only [termLV, decide_eq_true_eq] at h
        rw [denTerm_rng]; exact ⟨lo, rfl, Int.le_refl _, h⟩⟩
    | .opt p, _ => ⟨[], by rw [denTerm_opt]; exact Or.inl rfl⟩
    | .rep p, _ => ⟨[], by rw [denTerm_rep]; exact .nil⟩
    | .grp p, h => by
      obtain ⟨w, hw⟩ := ne_pat p h
      exact ⟨w, by rw [denTerm_grp]; exact hw⟩
end

abbrev LiveAt : LNode → Prop :=
  atNode (fun p => p.live = true) (fun ts => LPat.live.lvTerms ts = true)

theorem rem_nonempty {n : LNode} (hn : LiveAt n) (pos : Nat) : ∃ u, rem n pos u := by
  cases n with
  | alt a => exact ne_terms _ (lvTerms_drop hn pos)
  | pat p | grp p =>
    by_cases h0 : pos = 0
    · obtain ⟨w, hw⟩ := ne_pat p hn
      exact ⟨w, by simpa [rem, h0] using hw⟩
    · exact ⟨[], by simp [rem, h0, eps]⟩
  | opt p => exact ⟨[], rem_leaveOk (n := .opt p) rfl⟩
  | rep p => exact ⟨[], rem_leaveOk (n := .rep p) rfl⟩

theorem after_nonempty {n : LNode} (hn : LiveAt n) (j : Nat) : ∃ u, after n j u := by
  cases n with
  | alt a => exact ne_terms _ (lvTerms_drop hn (j + 1))
  | rep p => exact ⟨[], by rw [after, denTerm_rep]; exact .nil⟩
  | pat p | grp p | opt p => exact ⟨[], rfl⟩

theorem up_nonempty : ∀ (q : List Nat) (r m : LNode) (K : Lang), node r q = some m →
    LiveAt r → (∃ v, K v) → ∃ v, up r q K v
  | [], _, _, _, _, _, hK => hK
  | j :: q, r, m, K, h, hr, hK => by
    simp only [node] at h
    obtain ⟨c, hc, hm⟩ := Option.bind_eq_some_iff.1 h
    simp only [up, hc]
    obtain ⟨u, hu⟩ := after_nonempty hr j
    obtain ⟨v, hv⟩ := hK
    exact up_nonempty q c m _ hm (hered_live.child hc hr) ⟨u ++ v, u, v, rfl, hu, hv⟩

theorem cont_nonempty {C : LexCtx} {y : LItem} {P : LProd} (hP : C.prods[y.prod]? = some P)
    (hlive : P.pat.live = true) (hy : Pos C y) : ∃ v, Cont C y v := by
  obtain ⟨P', hP', q, pos, n, hpath, hn, _⟩ := hy
  obtain rfl : P = P' := Option.some.inj (hP.symm.trans hP')
  obtain ⟨k, l⟩ := y
  subst hpath
  obtain ⟨u, hu⟩ := rem_nonempty (hered_live.node hn hlive) pos
  obtain ⟨v, hv⟩ := up_nonempty q _ n eps hn hlive ⟨[], rfl⟩
  exact ⟨u ++ v, (cont_at hP hn pos _).2 ⟨u, v, rfl, hu, hv⟩⟩

def LiveC (C : LexCtx) : Prop :=
  ∀ (k : Nat) (P : LProd), C.prods[k]? = some P → P.kind ≠ .reg → P.pat.live = true

theorem liveC_of_liveToks {prods : List LProd} (h : liveToks prods = true) :
    LiveC { prods := prods.toArray } := fun _ P hP hk => by
  simpa [hk] using all_toArray h hP

theorem alive_of_prefix {C : LexCtx} (hC : NoRefC C) (hD : NoDotC C) {k : Nat} {P : LProd}
    (hP : C.prods[k]? = some P) (hk : P.kind ≠ .reg) {w v : List Int} (h : denPat P.pat (w ++ v)) :
    xRun C w ≠ [] :=
  let ⟨_, hy, _⟩ := split_of_den hC hD hP hk h
  List.ne_nil_of_mem hy

theorem alive_iff {C : LexCtx} (hC : NoRefC C) (hD : NoDotC C) (hL : LiveC C) (w : List Int) :
    xRun C w ≠ [] ↔ ∃ (k : Nat) (P : LProd) (v : List Int), C.prods[k]? = some P ∧ P.kind ≠ .reg ∧
      denPat P.pat (w ++ v) := by
  refine ⟨fun h => ?_, fun ⟨_, _, _, hP, hk, h⟩ => alive_of_prefix hC hD hP hk h⟩
  obtain ⟨x, hx⟩ := List.exists_mem_of_ne_nil _ h
  obtain ⟨y, P, rfl, hP, hk, hrun⟩ := run_of_mem_xRun hC hD hx
  obtain ⟨v, hv⟩ := cont_nonempty hP (hL _ P hP hk) (run_pos hrun (pos_start hP))
  exact ⟨_, P, v, hP, hk, den_of_split hC hD hP hx rfl hv⟩

end RegexS
end Gocc
