import Gocc.Model.SemCheck
/-
`semCheck` (Model/SemCheck.lean) read check by check (`semCheck_cases`), its searches characterised, and
the two side conditions under which its verdict is the property's: `KindsOk`, `NoReserved`.
-/
namespace Gocc

/-- what the front end guarantees about symbols it classifies as production names: they are not spelled
    like a token id or like the keywords `empty` / `error` (those start with a lower-case letter) -/
def KindsOk (g : Grammar) : Prop :=
  ∀ p ∈ g.syn, ∀ s ∈ p.body, s.kind = .prodId →
    s.name ∉ (g.lex.filter fun p => p.kind == .tok).map (·.id) ∧ s.name ≠ "empty" ∧ s.name ≠ "error"

instance (g : Grammar) : Decidable (KindsOk g) := by unfold KindsOk; infer_instance

/-- no reserved-name clash (fix D15; these are refused with their own message and are not among the property's
    clauses) -/
def NoReserved (g : Grammar) : Prop := reservedUse g = none ∧ reservedTok g = none

instance (g : Grammar) : Decidable (NoReserved g) := by unfold NoReserved; infer_instance

theorem firstDup_none {l : List String} : firstDup l = none ↔ l.Nodup := by
  induction l with
  | nil => simp [firstDup]
  | cons x rest ih =>
    simp only [firstDup, List.nodup_cons, ← ih, ← List.contains_iff_mem]
    cases rest.contains x <;> simp

theorem firstDup_some {l : List String} {x : String} (h : firstDup l = some x) :
    2 ≤ l.count x := by
  induction l with
  | nil => cases h
  | cons y rest ih =>
    rw [firstDup] at h
    split at h
    · rename_i hc
      cases h
      rw [List.count_cons_self]
      exact Nat.succ_le_succ (List.count_pos_iff.2 (List.contains_iff_mem.1 hc))
    · exact Nat.le_trans (ih h) (List.count_le_count_cons ..)

theorem undefinedUse_iff {g : Grammar} {s : SSym} : undefinedUse g s = true ↔
    s.kind = .prodId ∧ s.name ∉ synDefs g ∧ s.name ≠ "empty" ∧ s.name ≠ "error" := by
  simp [undefinedUse, and_assoc]

/-- a production name is never a token id, `empty` or `error` (`KindsOk`): defined = among the heads -/
theorem undefinedUse_none_iff {g : Grammar} (hk : KindsOk g) :
    (g.syn.flatMap (·.body)).find? (undefinedUse g) = none ↔
      ∀ p ∈ g.syn, ∀ s ∈ p.body, s.kind = .prodId → s.name ∈ g.syn.map (·.head) := by
  simp only [List.find?_eq_none, List.mem_flatMap, forall_exists_index, and_imp, undefinedUse_iff]
  constructor
  · intro h p hp s hs hkd
    obtain ⟨k1, k2, k3⟩ := hk p hp s hs hkd
    exact Decidable.by_contra fun hn =>
      h s p hp hs ⟨hkd, fun hm => (List.mem_append.1 hm).elim k1 hn, k2, k3⟩
  · intro h s p hp hs ⟨hkd, hn, _⟩
    exact hn (List.mem_append_right _ (h p hp s hs hkd))

@[elab_as_elim] theorem semCheck_cases (g : Grammar) (im : List String) {motive : Except SemErr Unit → Prop}
    (dup : ∀ id, firstDup (g.lex.map (·.id)) = some id → motive (.error (.dupDef id)))
    (empty : ∀ p, g.syn.find? (fun p => p.body.isEmpty) = some p → motive (.error (.emptyAlt p.head)))
    (resUse : ∀ n, reservedUse g = some n → motive (.error (.reserved n)))
    (resTok : ∀ n, reservedTok g = some n → motive (.error (.reserved n)))
    (undef : ∀ s, (g.syn.flatMap (·.body)).find? (undefinedUse g) = some s →
      motive (.error (.undefinedProd s.name)))
    (regDef : ∀ x, (g.lex.flatMap fun p => p.pat.refs.map fun r => (r, p.id)).find?
      (fun x => !(regDefIds g).contains x.1 && !im.contains x.1) = some x →
      motive (.error (.undefinedRegDef x.1 x.2)))
    (ok : firstDup (g.lex.map (·.id)) = none → g.syn.find? (fun p => p.body.isEmpty) = none →
      reservedUse g = none → reservedTok g = none →
      (g.syn.flatMap (·.body)).find? (undefinedUse g) = none →
      (g.lex.flatMap fun p => p.pat.refs.map fun r => (r, p.id)).find?
        (fun x => !(regDefIds g).contains x.1 && !im.contains x.1) = none → motive (.ok ())) :
    motive (semCheck g im) := by
  unfold semCheck
  cases h1 : firstDup (g.lex.map (·.id)) with
  | some id => exact dup id h1
  | none =>
  cases h2 : g.syn.find? (fun p => p.body.isEmpty) with
  | some p => exact empty p h2
  | none =>
  cases h3 : reservedUse g with
  | some n => exact resUse n h3
  | none =>
  cases h4 : reservedTok g with
  | some n => exact resTok n h4
  | none =>
  cases h5 : (g.syn.flatMap (·.body)).find? (undefinedUse g) with
  | some s => exact undef s h5
  | none =>
  cases h6 : (g.lex.flatMap fun p => p.pat.refs.map fun r => (r, p.id)).find?
      (fun x => !(regDefIds g).contains x.1 && !im.contains x.1) with
  | some x => exact regDef x h6
  | none => exact ok h1 h2 h3 h4 h5 h6

end Gocc
