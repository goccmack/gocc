/-
The loop shapes of the lexer generator, over an arbitrary element type.

`dfs`: depth-first work list with a visited set (the shape of `Item.Emoves()` and of the reference
ε-closure `xClosureLoop` on single frames): a basic element is output, any other is replaced by its
successors.  It is sound for any fuel, and complete over a finite universe `U` closed under the
successors with out-degree `≤ D`: the potential `|work| + (|U| - |visited|) * (D + 1)` decreases.
-/
namespace Gocc.WorkList

section
variable {α : Type} {basic : α → Bool} {next : α → List α}

def succs (basic : α → Bool) (next : α → List α) (x : α) : List α := if basic x then [] else next x

structure Inv (basic : α → Bool) (next : α → List α) (U work visited out : List α) : Prop where
  nodup : visited.Nodup
  vsub : ∀ x ∈ visited, x ∈ U
  wsub : ∀ x ∈ work, x ∈ U
  succ : ∀ x ∈ visited, ∀ y ∈ succs basic next x, y ∈ visited ∨ y ∈ work
  out : ∀ x ∈ visited, basic x = true → x ∈ out

theorem Inv.skip {U work visited out : List α} {i : α} (h : Inv basic next U (i :: work) visited out)
    (hi : i ∈ visited) : Inv basic next U work visited out :=
  ⟨h.nodup, h.vsub, fun x hx => h.wsub x (List.mem_cons_of_mem _ hx), fun x hx y hy =>
    (h.succ x hx y hy).elim .inl fun h' => (List.mem_cons.1 h').elim (fun e => .inl (e ▸ hi)) .inr,
    h.out⟩

theorem Inv.visit {U work visited out out' : List α} {i : α}
    (h : Inv basic next U (i :: work) visited out) (hi : i ∉ visited)
    (hU : ∀ y ∈ succs basic next i, y ∈ U) (ho : ∀ x ∈ out, x ∈ out')
    (hio : basic i = true → i ∈ out') :
    Inv basic next U (succs basic next i ++ work) (i :: visited) out' := by
  refine ⟨List.nodup_cons.2 ⟨hi, h.nodup⟩, ?_, ?_, ?_, ?_⟩
  · rw [List.forall_mem_cons]; exact ⟨h.wsub i List.mem_cons_self, h.vsub⟩
  · rw [List.forall_mem_append]; exact ⟨hU, fun x hx => h.wsub x (List.mem_cons_of_mem _ hx)⟩
  · rw [List.forall_mem_cons]
    refine ⟨fun y hy => .inr (List.mem_append_left _ hy), fun x hx y hy => ?_⟩
    rcases h.succ x hx y hy with h' | h'
    · exact .inl (List.mem_cons_of_mem _ h')
    · rcases List.mem_cons.1 h' with rfl | h''
      · exact .inl List.mem_cons_self
      · exact .inr (List.mem_append_right _ h'')
  · rw [List.forall_mem_cons]; exact ⟨hio, fun x hx hb => ho x (h.out x hx hb)⟩

theorem Inv.closed {U visited out : List α} (h : Inv basic next U [] visited out) :
    ∀ x ∈ visited, basic x = false → ∀ y ∈ next x, y ∈ visited :=
  fun x hx hb y hy => (h.succ x hx y (by rw [succs, hb]; exact hy)).elim id fun h' => nomatch h'

end

section DFS
variable {α : Type} [BEq α] (basic : α → Bool) (next : α → List α)

def dfs : Nat → List α → List α → List α → List α
  | 0, _, _, out => out
  | _ + 1, [], _, out => out
  | fuel + 1, i :: work, visited, out =>
    if visited.contains i then dfs fuel work visited out
    else if basic i then dfs fuel work (i :: visited) (out ++ [i])
    else dfs fuel (next i ++ work) (i :: visited) out

variable {basic next}

theorem dfs_sound {R : α → Prop} (hR : ∀ x, R x → basic x = false → ∀ y ∈ next x, R y) :
    ∀ (fuel : Nat) (work visited out : List α), (∀ x ∈ work, R x) →
      (∀ x ∈ out, R x ∧ basic x = true) → ∀ y ∈ dfs basic next fuel work visited out,
      R y ∧ basic y = true := by
  intro fuel
  induction fuel with
  | zero => intro work visited out _ ho; exact ho
  | succ fuel ih =>
    intro work visited out hw ho
    cases work with
    | nil => exact ho
    | cons i work =>
      rw [List.forall_mem_cons] at hw
      rw [dfs]
      split
      · exact ih work visited out hw.2 ho
      · split
        · rename_i hb
          refine ih work _ _ hw.2 ?_
          simpa only [List.forall_mem_append, List.forall_mem_singleton] using ⟨ho, hw.1, hb⟩
        · rename_i hb
          refine ih _ _ out ?_ ho
          rw [List.forall_mem_append]
          exact ⟨hR i hw.1 (Bool.eq_false_iff.2 hb), hw.2⟩

theorem dfs_pairwise {key : α → Nat} (hk : ∀ x, ∀ y ∈ next x, key y = key x) :
    ∀ (fuel : Nat) (work visited out : List α),
      (out ++ work).Pairwise (fun a b => key a ≤ key b) →
      (dfs basic next fuel work visited out).Pairwise (fun a b => key a ≤ key b) := by
  intro fuel
  induction fuel with
  | zero => intro work visited out h; exact h.sublist (List.sublist_append_left _ _)
  | succ fuel ih =>
    intro work visited out h
    cases work with
    | nil => exact (by simpa using h : out.Pairwise _)
    | cons i work =>
      rw [dfs]
      split
      · exact ih work visited out (h.sublist ((List.Sublist.refl _).append (List.sublist_cons_self _ _)))
      · split
        · exact ih work _ _ (by simpa [List.append_assoc] using h)
        · -- `i` is replaced by elements of the same key
          refine ih _ _ out ?_
          rw [List.pairwise_append] at h ⊢
          obtain ⟨h1, h2, h3⟩ := h
          rw [List.pairwise_cons] at h2
          have hy : ∀ y ∈ next i, key y = key i := hk i
          refine ⟨h1, ?_, ?_⟩
          · rw [List.pairwise_append]
            refine ⟨?_, h2.2, fun u hu v hv => by rw [hy u hu]; exact h2.1 v hv⟩
            rw [List.pairwise_iff_forall_sublist]
            intro u v huv
            rw [hy u (huv.subset (by simp)), hy v (huv.subset (by simp))]
            exact Nat.le_refl _
          · intro u hu v hv
            rcases List.mem_append.1 hv with hv | hv
            · rw [hy v hv]; exact h3 u hu i List.mem_cons_self
            · exact h3 u hu v (List.mem_cons_of_mem _ hv)

theorem dfs_visit (fuel : Nat) (i : α) (work visited out : List α)
    (hv : visited.contains i = false) :
    dfs basic next (fuel + 1) (i :: work) visited out =
      dfs basic next fuel (succs basic next i ++ work) (i :: visited)
        (if basic i then out ++ [i] else out) := by
  rw [dfs, if_neg (by rw [hv]; exact Bool.false_ne_true), succs]
  cases basic i <;> rfl

theorem dfs_complete [LawfulBEq α] {U : List α} {D : Nat}
    (hU : ∀ x ∈ U, basic x = false → ∀ y ∈ next x, y ∈ U)
    (hD : ∀ x ∈ U, basic x = false → (next x).length ≤ D) :
    ∀ (fuel : Nat) (work visited out : List α), Inv basic next U work visited out →
      work.length + (U.length - visited.length) * (D + 1) ≤ fuel →
      ∃ V : List α, (∀ x ∈ work, x ∈ V) ∧ (∀ x ∈ visited, x ∈ V) ∧
        (∀ x ∈ V, basic x = false → ∀ y ∈ next x, y ∈ V) ∧
        (∀ x ∈ V, basic x = true → x ∈ dfs basic next fuel work visited out) := by
  intro fuel
  induction fuel with
  | zero =>
    intro work visited out h hp
    obtain rfl : work = [] := List.eq_nil_of_length_eq_zero (by omega)
    exact ⟨visited, nofun, fun _ hx => hx, h.closed, h.out⟩
  | succ fuel ih =>
    intro work visited out h hp
    cases work with
    | nil => exact ⟨visited, nofun, fun _ hx => hx, h.closed, h.out⟩
    | cons i work =>
      have hiU : i ∈ U := h.wsub i List.mem_cons_self
      rw [List.length_cons] at hp
      by_cases hv : visited.contains i = true
      · have hiv : i ∈ visited := List.contains_iff_mem.1 hv
        rw [dfs, if_pos hv]
        obtain ⟨V, v1, v2, v3, v4⟩ := ih work visited out (h.skip hiv) (by omega)
        exact ⟨V, List.forall_mem_cons.2 ⟨v2 i hiv, v1⟩, v2, v3, v4⟩
      · have hiv : i ∉ visited := fun hm => hv (List.contains_iff_mem.2 hm)
        rw [dfs_visit _ _ _ _ _ (Bool.eq_false_iff.2 hv)]
        have hs : (∀ y ∈ succs basic next i, y ∈ U) ∧ (succs basic next i).length ≤ D := by
          unfold succs
          split
          · exact ⟨fun _ hy => (nomatch hy), Nat.zero_le _⟩
          · rename_i hb
            exact ⟨hU i hiU (Bool.eq_false_iff.2 hb), hD i hiU (Bool.eq_false_iff.2 hb)⟩
        have hinv := h.visit hiv hs.1 (out' := if basic i then out ++ [i] else out)
          (by intro x hx; cases basic i; exact hx; exact List.mem_append_left _ hx)
          (by intro hb; rw [if_pos hb]; exact List.mem_append_right _ List.mem_cons_self)
        have hlen : visited.length + 1 ≤ U.length :=
          List.Nodup.length_le_of_subset hinv.nodup (fun x hx => hinv.vsub x hx)
        obtain ⟨a, ha⟩ : ∃ a, U.length - visited.length = a + 1 := ⟨U.length - visited.length - 1, by omega⟩
        rw [ha, Nat.succ_mul] at hp
        obtain ⟨V, v1, v2, v3, v4⟩ := ih _ _ _ hinv (by
          have := hs.2
          rw [List.length_append, List.length_cons, show U.length - (visited.length + 1) = a by omega]
          omega)
        exact ⟨V, List.forall_mem_cons.2 ⟨v2 i List.mem_cons_self,
          fun x hx => v1 x (List.mem_append_right _ hx)⟩,
          fun x hx => v2 x (List.mem_cons_of_mem _ hx), v3, v4⟩

end DFS

/-! ### index-driven work list over a growing list

`for i := 0; i < len(list); i++ { … list = append(list, new…) }` (`ItemList.Closure`,
`dependentsClosure`): the list only grows at the end, by pairwise different new elements of a finite
universe `U`, so it stays short, and the loop leaves with every element processed. -/

def Appends {α : Type} (Q : α → Prop) (a b : List α) : Prop :=
  ∃ ex, b = a ++ ex ∧ ex.Nodup ∧ ∀ y ∈ ex, Q y ∧ y ∉ a

section
variable {α : Type} {Q : α → Prop}

theorem Appends.refl (Q : α → Prop) (a : List α) : Appends Q a a :=
  ⟨[], (List.append_nil a).symm, .nil, nofun⟩

theorem Appends.trans {a b c : List α} (h1 : Appends Q a b) (h2 : Appends Q b c) :
    Appends Q a c := by
  obtain ⟨e1, rfl, n1, q1⟩ := h1
  obtain ⟨e2, rfl, n2, q2⟩ := h2
  refine ⟨e1 ++ e2, List.append_assoc .., ?_, ?_⟩
  · exact List.nodup_append.2 ⟨n1, n2, fun x hx y hy hxy =>
      (q2 y hy).2 (List.mem_append_right _ (hxy ▸ hx))⟩
  · rw [List.forall_mem_append]
    exact ⟨q1, fun y hy => ⟨(q2 y hy).1, fun hm => (q2 y hy).2 (List.mem_append_left _ hm)⟩⟩

theorem Appends.sub {a b : List α} (h : Appends Q a b) : ∀ x ∈ a, x ∈ b := by
  obtain ⟨e, rfl, _, _⟩ := h
  exact fun x hx => List.mem_append_left _ hx

theorem Appends.nodup {a b : List α} (h : Appends Q a b) (ha : a.Nodup) : b.Nodup := by
  obtain ⟨e, rfl, hn, hq⟩ := h
  exact List.nodup_append.2 ⟨ha, hn, fun x hx y hy hxy => (hq y hy).2 (hxy ▸ hx)⟩

theorem Appends.mono {Q' : α → Prop} {a b : List α} (h : Appends Q a b) (hq : ∀ y, Q y → Q' y) :
    Appends Q' a b := by
  obtain ⟨e, h1, h2, h3⟩ := h
  exact ⟨e, h1, h2, fun y hy => ⟨hq y (h3 y hy).1, (h3 y hy).2⟩⟩

theorem Appends.length_le {U a b : List α} (h : Appends (· ∈ U) a b) :
    b.length ≤ a.length + U.length := by
  obtain ⟨e, rfl, hn, hq⟩ := h
  have := List.Nodup.length_le_of_subset hn (fun y hy => (hq y hy).1)
  rw [List.length_append]; omega

end

structure IdxInv {α : Type} (U : List α) (Done : List α → α → Prop) (l : List α) (k : Nat)
    (cur : List α) : Prop where
  ext : Appends (· ∈ U) l cur
  kle : k ≤ cur.length
  done : ∀ idx i, idx < k → cur[idx]? = some i → Done cur i

section
variable {α : Type} {U l cur cur' : List α} {Done : List α → α → Prop} {k : Nat} {i : α}

theorem IdxInv.init (U : List α) (Done : List α → α → Prop) (l : List α) : IdxInv U Done l 0 l :=
  ⟨.refl _ l, Nat.zero_le _, fun _ _ h => absurd h (Nat.not_lt_zero _)⟩

theorem IdxInv.length_le (h : IdxInv U Done l k cur) : cur.length ≤ l.length + U.length :=
  h.ext.length_le

theorem IdxInv.step (hmono : ∀ {cur cur' : List α} {i : α}, (∀ y ∈ cur, y ∈ cur') → Done cur i → Done cur' i)
    (h : IdxInv U Done l k cur) (hk : cur[k]? = some i) (happ : Appends (· ∈ U) cur cur')
    (hi : Done cur' i) : IdxInv U Done l (k + 1) cur' := by
  have hlt : k < cur.length := (List.getElem?_eq_some_iff.1 hk).1
  obtain ⟨ex, rfl, _, _⟩ := id happ
  refine ⟨h.ext.trans happ, by rw [List.length_append]; omega, fun idx j hidx hj => ?_⟩
  rw [List.getElem?_append_left (by omega)] at hj
  by_cases hik : idx = k
  · cases (hik ▸ hj).symm.trans hk; exact hi
  · exact hmono happ.sub (h.done idx j (by omega) hj)

theorem IdxInv.exit (h : IdxInv U Done l k cur) (hk : cur[k]? = none) :
    IdxInv U Done l cur.length cur := by
  have := List.getElem?_eq_none_iff.1 hk
  have := h.kle
  rwa [show cur.length = k by omega]

theorem IdxInv.all (h : IdxInv U Done l cur.length cur) :
    (∀ x ∈ l, x ∈ cur) ∧ ∀ i ∈ cur, Done cur i := by
  refine ⟨h.ext.sub, fun i hi => ?_⟩
  obtain ⟨idx, hidx, hget⟩ := List.mem_iff_getElem.1 hi
  exact h.done idx i hidx (by rw [List.getElem?_eq_getElem hidx, hget])

end

/-! ### find-or-push into a growing array

`ItemSets.Add` of the lexer generator and the state lookup of the reference construction: return the
index of the first stored element that passes `same`, or push `new` and return its index.  A recorded
index `t` (`-1` for "no successor") *stands for* the list `N` when the stored element has the
elements of `N` (`TargetOf`). -/

def findOrPush {σ : Type} (same : σ → Bool) (new : σ) (a : Array σ) : Array σ × Nat :=
  match a.findIdx? same with
  | some k => (a, k)
  | none => (a.push new, a.size)

def TargetOf {σ β : Type} (items : σ → List β) (sets : Array σ) (t : Int) (N : List β) : Prop :=
  (N = [] → t = -1) ∧
  (N ≠ [] → ∃ (j : Nat) (st : σ), sets[j]? = some st ∧ t = (j : Int) ∧ ∀ x, x ∈ items st ↔ x ∈ N)

section
variable {σ β : Type} {same : σ → Bool} {new : σ} {a : Array σ} {items : σ → List β}

theorem findOrPush_get_old {m : Nat} {x : σ} (h : a[m]? = some x) :
    (findOrPush same new a).1[m]? = some x := by
  unfold findOrPush
  split
  · exact h
  · rw [Array.getElem?_push, if_neg (Nat.ne_of_lt (Array.getElem?_eq_some_iff.1 h).1)]; exact h

theorem findOrPush_get {m : Nat} {x : σ} (h : (findOrPush same new a).1[m]? = some x) :
    a[m]? = some x ∨ (m = a.size ∧ x = new) := by
  unfold findOrPush at h
  split at h
  · exact .inl h
  · rw [Array.getElem?_push] at h
    split at h
    · exact .inr ⟨‹_›, (Option.some.inj h).symm⟩
    · exact .inl h

theorem findOrPush_idx (same : σ → Bool) (new : σ) (a : Array σ) :
    ∃ x, (findOrPush same new a).1[(findOrPush same new a).2]? = some x ∧
      ((a[(findOrPush same new a).2]? = some x ∧ same x = true) ∨ x = new) := by
  unfold findOrPush
  cases h : a.findIdx? same with
  | some k =>
    obtain ⟨hk, hs, _⟩ := Array.findIdx?_eq_some_iff_getElem.1 h
    exact ⟨a[k], Array.getElem?_eq_getElem hk, .inl ⟨Array.getElem?_eq_getElem hk, hs⟩⟩
  | none => exact ⟨new, by simp, .inr rfl⟩

theorem TargetOf.nil (sets : Array σ) : TargetOf items sets (-1) [] :=
  ⟨fun _ => rfl, fun h => absurd rfl h⟩

theorem TargetOf.ext {s s' : Array σ} {t : Int} {N : List β} (h : TargetOf items s t N)
    (he : ∀ (m : Nat) (st : σ), s[m]? = some st → ∃ st', s'[m]? = some st' ∧ items st' = items st) :
    TargetOf items s' t N := by
  refine ⟨h.1, fun hne => ?_⟩
  obtain ⟨j, st, hj, ht, hs⟩ := h.2 hne
  obtain ⟨st', hj', hi⟩ := he j st hj
  exact ⟨j, st', hj', ht, hi ▸ hs⟩

theorem targetOf_findOrPush {N : List β} (hne : N ≠ [])
    (hsame : ∀ (m : Nat) (st : σ), a[m]? = some st → same st = true → ∀ x, x ∈ items st ↔ x ∈ N)
    (hnew : items new = N) :
    TargetOf items (findOrPush same new a).1 ((findOrPush same new a).2 : Int) N := by
  refine ⟨fun h => absurd h hne, fun _ => ?_⟩
  obtain ⟨x, hx, ⟨hold, hs⟩ | rfl⟩ := findOrPush_idx same new a
  · exact ⟨_, x, hx, rfl, hsame _ x hold hs⟩
  · exact ⟨_, x, hx, rfl, fun y => hnew ▸ Iff.rfl⟩

end

end Gocc.WorkList
