import Gocc.Spec.Recover
/-
Error recovery of the generated parser (`recover`, Model/Parse.lean) meets its specification
(Spec/Recover.lean): `recover_spec` under `RecWF`, `recover_true` for any tables.  The
consequences for the `Parse` loop are in Proofs/RecoverLoop.lean.
-/
namespace Gocc

theorem recWFb_iff (T : PTables) (e : Nat) : recWFb T e = true ↔ RecWF T e := by
  simp only [recWFb, RecWF, List.all_eq_true, List.mem_range, Bool.or_eq_true, Bool.not_eq_true']
  constructor
  · intro h s hs
    have hlt : s < T.canRecover.size := Nat.lt_of_not_le fun hle => by
      rw [Array.getElem?_eq_none hle] at hs; cases hs
    rcases h s hlt with h1 | h1
    · rw [hs] at h1; cases h1
    · split at h1
      · exact ⟨_, by assumption⟩
      · cases h1
  · intro h s _
    rcases hc : T.canRecover[s]?.getD false with _ | _
    · exact .inl rfl
    · obtain ⟨s', hs'⟩ := h s hc
      right; rw [hs']

theorem lookAhead_succ (input : List Nat) (tok : Nat × Nat) (ntok i : Nat) :
    lookAhead input tok ntok (i + 1) = lookAhead input (scanTok input ntok) (ntok + 1) i := by
  cases i with
  | zero => simp [lookAhead]
  | succ i => simp only [lookAhead]; congr 1; omega

theorem lookAheads_length (input : List Nat) (tok : Nat × Nat) (ntok : Nat) :
    (lookAheads input tok ntok).length = input.length + 2 := by simp [lookAheads]

theorem lookAheads_getElem (input : List Nat) (tok : Nat × Nat) (ntok i : Nat)
    (h : i < (lookAheads input tok ntok).length) :
    (lookAheads input tok ntok)[i] = lookAhead input tok ntok i := by simp [lookAheads]

theorem scanTok_snd_of_le {input : List Nat} {k : Nat} (h : input.length ≤ k) :
    (scanTok input k).2 = 1 := by
  unfold scanTok
  rw [List.getElem?_eq_none_iff.mpr h]

theorem firstEOF_spec (input : List Nat) (tok : Nat × Nat) (ntok : Nat) :
    firstEOF input tok ntok < input.length + 2 ∧
    (lookAhead input tok ntok (firstEOF input tok ntok)).2 = 1 ∧
    ∀ i, i < firstEOF input tok ntok → (lookAhead input tok ntok i).2 ≠ 1 := by
  have hlt : List.findIdx (fun t => t.2 == 1) (lookAheads input tok ntok) <
      (lookAheads input tok ntok).length := by
    rw [List.findIdx_lt_length]
    refine ⟨lookAhead input tok ntok (input.length + 1), ?_, ?_⟩
    · simp only [lookAheads, List.mem_map, List.mem_range]
      exact ⟨input.length + 1, by omega, rfl⟩
    · simp only [lookAhead, beq_iff_eq]
      exact scanTok_snd_of_le (by omega)
  refine ⟨by rw [lookAheads_length] at hlt; exact hlt, ?_, ?_⟩
  · have := List.findIdx_getElem (w := hlt)
    unfold firstEOF
    simp only [lookAheads_getElem, beq_iff_eq] at this
    exact this
  · intro i hi
    unfold firstEOF at hi
    have := List.not_of_lt_findIdx hi
    simp only [lookAheads_getElem, beq_eq_false_iff_ne] at this
    exact this

theorem firstEOF_unique {input : List Nat} {tok : Nat × Nat} {ntok j : Nat}
    (h1 : (lookAhead input tok ntok j).2 = 1) (h2 : ∀ i, i < j → (lookAhead input tok ntok i).2 ≠ 1) :
    firstEOF input tok ntok = j := by
  obtain ⟨-, e1, e2⟩ := firstEOF_spec input tok ntok
  rcases Nat.lt_trichotomy (firstEOF input tok ntok) j with h | h | h
  · exact absurd e1 (h2 _ h)
  · exact h
  · exact absurd h1 (e2 _ h)

theorem findIdx?_take_map_range_eq_some {α : Type} (f : Nat → α) (p : α → Bool) {n k j : Nat}
    (hk : k ≤ n) :
    (((List.range n).map f).take k).findIdx? p = some j ↔
      j < k ∧ p (f j) = true ∧ ∀ i, i < j → p (f i) = false := by
  rw [← List.map_take, List.take_range, Nat.min_eq_left hk, List.findIdx?_eq_some_iff_getElem]
  simp only [List.length_map, List.length_range, List.getElem_map, List.getElem_range,
    Bool.not_eq_true, exists_prop]

theorem findIdx?_take_map_range_eq_none {α : Type} (f : Nat → α) (p : α → Bool) {n k : Nat}
    (hk : k ≤ n) :
    (((List.range n).map f).take k).findIdx? p = none ↔ ∀ i, i < k → p (f i) = false := by
  rw [← List.map_take, List.take_range, Nat.min_eq_left hk, List.findIdx?_eq_none_iff]
  simp only [List.mem_map, List.mem_range, forall_exists_index, and_imp, forall_apply_eq_imp_iff₂]

theorem firstAcceptable_eq_some_iff {T : PTables} {input : List Nat} {s : Nat} {tok : Nat × Nat}
    {ntok j : Nat} {t : Nat × Nat} :
    firstAcceptable T input s tok ntok = some (j, t) ↔
      t = lookAhead input tok ntok j ∧ (T.act s t.2).isSome = true ∧
      ∀ i, i < j → T.act s (lookAhead input tok ntok i).2 = none ∧ (lookAhead input tok ntok i).2 ≠ 1 := by
  obtain ⟨hE, e1, e2⟩ := firstEOF_spec input tok ntok
  simp only [firstAcceptable, lookAheads, Option.map_eq_some_iff, Prod.mk.injEq,
    findIdx?_take_map_range_eq_some _ _ (show firstEOF input tok ntok + 1 ≤ input.length + 2 by
      omega)]
  constructor
  · rintro ⟨j', ⟨hlt, hp, hnp⟩, rfl, rfl⟩
    exact ⟨rfl, hp, fun i hi => ⟨by simpa using hnp i hi, e2 i (by omega)⟩⟩
  · rintro ⟨rfl, hp, hnp⟩
    -- `j` is inside the window: no token before it is end of input
    exact ⟨j, ⟨Nat.lt_succ_of_le (Nat.le_of_not_lt fun hlt => (hnp _ hlt).2 e1), hp,
      fun i hi => by simp [(hnp i hi).1]⟩, rfl, rfl⟩

theorem firstAcceptable_eq_none_iff {T : PTables} {input : List Nat} {s : Nat} {tok : Nat × Nat}
    {ntok : Nat} :
    firstAcceptable T input s tok ntok = none ↔
      ∀ i, i ≤ firstEOF input tok ntok → T.act s (lookAhead input tok ntok i).2 = none := by
  have hE := (firstEOF_spec input tok ntok).1
  simp only [firstAcceptable, lookAheads, Option.map_eq_none_iff,
    findIdx?_take_map_range_eq_none _ _ (show firstEOF input tok ntok + 1 ≤ input.length + 2 by
      omega), Nat.lt_succ_iff, Option.isSome_eq_false_iff, Option.isNone_iff_eq_none]

theorem attrToksL_eq_flatten (l : List Attr) : attrToksL l = (l.map attrToks).flatten := by
  induction l with
  | nil => simp [attrToksL]
  | cons x xs ih => simp [attrToksL, ih]

theorem attrToksL_append (a b : List Attr) : attrToksL (a ++ b) = attrToksL a ++ attrToksL b := by
  simp only [attrToksL_eq_flatten, List.map_append, List.flatten_append]

theorem attrToks_sublist_of_mem {a : Attr} {l : List Attr} (h : a ∈ l) :
    (attrToks a).Sublist (attrToksL l) := by
  rw [attrToksL_eq_flatten]
  exact List.sublist_flatten_of_mem (List.mem_map_of_mem h)

/-- the special case of a one-element stack in `firstRecovery` is the general case -/
theorem firstRecovery_cons (T : PTables) (s : Nat) (rest : List Nat) (k : Nat) :
    firstRecovery T (s :: rest) k =
      if T.canRecover[s]?.getD false then some k else firstRecovery T rest (k + 1) := by
  cases rest <;> rfl

theorem firstRecovery_eq (T : PTables) (l : List Nat) (k : Nat) :
    firstRecovery T l k = (topRecovery T l).map (· + k) := by
  induction l generalizing k with
  | nil => rfl
  | cons s rest ih =>
    rw [firstRecovery_cons, ih]
    simp only [topRecovery, List.findIdx?_cons]
    split
    · simp only [Option.map_some, Nat.zero_add]
    · rw [Option.map_map]
      congr 1
      funext i
      simp only [Function.comp]
      omega

theorem topRecovery_some {T : PTables} {l : List Nat} {k : Nat} (h : topRecovery T l = some k) :
    ∃ r rest, l.drop k = r :: rest ∧ T.canRecover[r]?.getD false = true ∧
      ∀ s ∈ l.take k, T.canRecover[s]?.getD false = false := by
  unfold topRecovery at h
  obtain ⟨hlt, hp, hnp⟩ := List.findIdx?_eq_some_iff_getElem.mp h
  refine ⟨l[k], l.drop (k + 1), List.drop_eq_getElem_cons hlt, hp, ?_⟩
  intro s hs
  obtain ⟨i, hi, rfl⟩ := List.getElem_of_mem hs
  rw [List.getElem_take]
  have := hnp i (by simp at hi; omega)
  simpa using this

theorem topRecovery_none {T : PTables} {l : List Nat} (h : topRecovery T l = none) :
    ∀ s ∈ l, T.canRecover[s]?.getD false = false :=
  List.findIdx?_eq_none_iff.mp h

theorem topRecovery_of_hr {T : PTables} (hr : ∀ s : Nat, T.canRecover[s]?.getD false = false)
    (l : List Nat) : topRecovery T l = none :=
  List.findIdx?_eq_none_iff.mpr fun s _ => hr s

/-- the look-ahead stream from the second token on is the stream of the next `Scan` call -/
theorem firstEOF_step (input : List Nat) (tok : Nat × Nat) (ntok : Nat) :
    firstEOF input tok ntok =
      if tok.2 = 1 then 0 else firstEOF input (scanTok input ntok) (ntok + 1) + 1 := by
  split
  · exact firstEOF_unique (by assumption) (by omega)
  · rename_i h
    obtain ⟨-, e1, e2⟩ := firstEOF_spec input (scanTok input ntok) (ntok + 1)
    refine firstEOF_unique (by rw [lookAhead_succ]; exact e1) fun i hi => ?_
    cases i with
    | zero => exact h
    | succ i => rw [lookAhead_succ]; exact e2 i (by omega)

theorem firstAcceptable_step (T : PTables) (input : List Nat) (s : Nat) (tok : Nat × Nat)
    (ntok : Nat) :
    firstAcceptable T input s tok ntok =
      if (T.act s tok.2).isSome then some (0, tok)
      else if tok.2 = 1 then none
      else (firstAcceptable T input s (scanTok input ntok) (ntok + 1)).map fun jt =>
        (jt.1 + 1, jt.2) := by
  split
  · exact firstAcceptable_eq_some_iff.mpr ⟨rfl, by assumption, by omega⟩
  · rename_i h0
    have h0' : T.act s (lookAhead input tok ntok 0).2 = none := by simpa [lookAhead] using h0
    have hE := firstEOF_step input tok ntok
    split
    · rename_i h1
      rw [if_pos h1] at hE
      rw [firstAcceptable_eq_none_iff, hE]
      intro i hi
      rw [Nat.le_zero.1 hi]
      exact h0'
    · rename_i h1
      rw [if_neg h1] at hE
      rcases hf : firstAcceptable T input s (scanTok input ntok) (ntok + 1) with _ | ⟨j, t⟩
      · rw [firstAcceptable_eq_none_iff] at hf
        refine firstAcceptable_eq_none_iff.mpr fun i hi => ?_
        cases i with
        | zero => exact h0'
        | succ i => rw [lookAhead_succ]; exact hf i (by omega)
      · obtain ⟨f1, f2, f3⟩ := firstAcceptable_eq_some_iff.mp hf
        refine firstAcceptable_eq_some_iff.mpr ⟨by rw [lookAhead_succ]; exact f1, f2, fun i hi => ?_⟩
        cases i with
        | zero => exact ⟨h0', h1⟩
        | succ i => rw [lookAhead_succ]; exact f3 i (by omega)

/-- what `Error` reports after skipping from the offending token `tok` on, by specification -/
def skipSpec (T : PTables) (input : List Nat) (s : Nat) (tok : Nat × Nat) (ntok : Nat) :
    Bool × (Nat × Nat) × Nat :=
  match firstAcceptable T input s tok ntok with
  | some (j, t) => (true, t, ntok + j)
  | none => (false, lookAhead input tok ntok (firstEOF input tok ntok),
      ntok + firstEOF input tok ntok)

theorem skipSpec_step (T : PTables) (input : List Nat) (s : Nat) (tok : Nat × Nat) (ntok : Nat) :
    skipSpec T input s tok ntok =
      if (T.act s tok.2).isSome then (true, tok, ntok)
      else if tok.2 = 1 then (false, tok, ntok)
      else skipSpec T input s (scanTok input ntok) (ntok + 1) := by
  unfold skipSpec
  rw [firstAcceptable_step, firstEOF_step]
  by_cases h0 : (T.act s tok.2).isSome = true
  · simp only [if_pos h0]
    rfl
  · by_cases h1 : tok.2 = 1
    · simp only [if_neg h0, if_pos h1]
      rfl
    · simp only [if_neg h0, if_neg h1]
      rcases firstAcceptable T input s (scanTok input ntok) (ntok + 1) with _ | ⟨j, t⟩
      · simp only [Option.map_none, lookAhead_succ, Nat.add_assoc, Nat.add_comm 1]
      · simp only [Option.map_some, Nat.add_assoc, Nat.add_comm 1]

theorem skipLoop_eq (T : PTables) (input : List Nat) (s : Nat) :
    ∀ (fuel : Nat) (nt : Nat × Nat) (ntok : Nat), input.length + 1 ≤ fuel + ntok →
      (fuel = 0 → nt.2 = 1) → T.act s nt.2 = none →
      skipLoop T input s fuel nt ntok = skipSpec T input s nt ntok := by
  intro fuel
  induction fuel with
  | zero =>
    intro nt ntok _ h1 ha
    rw [skipSpec_step, ha, if_pos (h1 rfl)]
    rfl
  | succ f ih =>
    intro nt ntok hf _ ha
    rw [skipSpec_step, ha, skipLoop]
    simp only [Option.isSome_none, Bool.false_eq_true, if_false, beq_iff_eq]
    split
    · rfl
    · rw [skipSpec_step]
      split
      · rfl
      · rename_i ha'
        rw [ih _ _ (by omega) (fun h0 => scanTok_snd_of_le (by omega)) (by simpa using ha'),
          skipSpec_step, if_neg ha']

/-- skipping: the check of the offending token followed by the skip loop -/
def skipRes (T : PTables) (input : List Nat) (s : Nat) (tok : Nat × Nat) (ntok : Nat) :
    Bool × (Nat × Nat) × Nat :=
  if (T.act s tok.2).isSome then (true, tok, ntok)
  else skipLoop T input s (input.length + 2) tok ntok

theorem skipRes_eq (T : PTables) (input : List Nat) (s : Nat) (tok : Nat × Nat) (ntok : Nat) :
    skipRes T input s tok ntok = skipSpec T input s tok ntok := by
  unfold skipRes
  split
  · rename_i h0
    rw [skipSpec_step, if_pos h0]
  · rename_i h0
    exact skipLoop_eq T input s _ tok ntok (by omega) (by omega) (by simpa using h0)

theorem recover_none {T : PTables} {e : Nat} {input : List Nat} {ps : PState}
    (htr : topRecovery T ps.states = none) (hne : ps.states ≠ []) :
    recover T e input ps = .ok (false, ps.next, ps) := by
  unfold recover
  rw [firstRecovery_eq, htr]
  rcases hst : ps.states with _ | ⟨top, rest⟩
  · exact absurd hst hne
  · have := topRecovery_none htr top (by simp [hst])
    simp only [Option.map_none, this, Bool.not_false, if_true]
    congr
    exact hst.symm

theorem recover_nil {T : PTables} {e : Nat} {input : List Nat} {ps : PState} (h : ps.states = []) :
    recover T e input ps = .error "empty stack" := by
  unfold recover
  rw [h]
  rfl

/-- the three ways through `Error`: empty stack; no recovery state on the stack; `k` entries
    popped down to the topmost recovery state `r` -/
theorem recover_cases (T : PTables) (e : Nat) (input : List Nat) (ps : PState) :
    (ps.states = [] ∧ recover T e input ps = .error "empty stack") ∨
    (ps.states ≠ [] ∧ topRecovery T ps.states = none ∧
      recover T e input ps = .ok (false, ps.next, ps)) ∨
    ∃ k r rest, topRecovery T ps.states = some k ∧ ps.states.drop k = r :: rest ∧
      T.canRecover[r]?.getD false = true ∧
      recover T e input ps =
        match T.act r e with
        | none => .ok (false, ps.next, { ps with states := r :: rest, attrs := ps.attrs.drop k })
        | some (.shift s') =>
          .ok ((skipRes T input s' ps.next ps.ntok).1, ps.next,
            { ps with states := s' :: r :: rest,
                      attrs := Attr.err ps.next.1 ps.next.2 (ps.attrs.take k).reverse (T.rowExpected r) ::
                        ps.attrs.drop k,
                      next := (skipRes T input s' ps.next ps.ntok).2.1,
                      ntok := (skipRes T input s' ps.next ps.ntok).2.2 })
        | some _ => .error "interface conversion: parser.action is not parser.shift" := by
  by_cases hne : ps.states = []
  · exact .inl ⟨hne, recover_nil hne⟩
  rcases htr : topRecovery T ps.states with _ | k
  · exact .inr (.inl ⟨hne, rfl, recover_none htr hne⟩)
  · obtain ⟨r, rest, hd, hc, -⟩ := topRecovery_some htr
    refine .inr (.inr ⟨k, r, rest, rfl, hd, hc, ?_⟩)
    unfold recover
    rw [firstRecovery_eq, htr]
    simp only [Option.map_some, Nat.add_zero, hd, hc, Bool.not_true, Bool.false_eq_true, if_false]
    rcases ha : T.act r e with _ | a
    · rfl
    · cases a with
      | shift s' =>
        simp only [skipRes]
        split <;> rfl
      | reduce p => rfl
      | accept => rfl

/-- the complete characterisation of `Error` (`C07_recover_spec`) -/
theorem recover_spec {T : PTables} {e : Nat} (hwf : RecWF T e) (input : List Nat) {ps : PState}
    (hne : ps.states ≠ []) :
    ∃ b tok ps', recover T e input ps = .ok (b, tok, ps') ∧ RecoverSpec T e input ps b tok ps' := by
  unfold RecoverSpec
  rcases recover_cases T e input ps with ⟨h, -⟩ | ⟨-, htr, hrec⟩ | ⟨k, r, rest, htr, hd, hc, hrec⟩
  · exact absurd h hne
  · rw [htr]
    exact ⟨_, _, _, hrec, rfl, rfl, rfl, rfl, rfl, rfl, rfl, rfl⟩
  · obtain ⟨s', hs'⟩ := hwf r hc
    rw [hs'] at hrec
    simp only at hrec
    rw [htr]
    refine ⟨_, _, _, hrec, rfl, rfl, rfl, r, rest, s', hd, hs', by rw [hd], rfl, ?_⟩
    simp only [skipRes_eq, skipSpec]
    rcases firstAcceptable T input s' ps.next ps.ntok with _ | ⟨j, t⟩
    · exact ⟨rfl, rfl, rfl⟩
    · exact ⟨rfl, rfl, rfl⟩

theorem RecoverSpec.unique {T : PTables} {e : Nat} {input : List Nat} {ps : PState}
    {b1 b2 : Bool} {t1 t2 : Nat × Nat} {p1 p2 : PState}
    (h1 : RecoverSpec T e input ps b1 t1 p1) (h2 : RecoverSpec T e input ps b2 t2 p2) :
    b1 = b2 ∧ t1 = t2 ∧ p1 = p2 := by
  unfold RecoverSpec at h1 h2
  obtain ⟨a1, a2, a3, a4⟩ := h1
  obtain ⟨c1, c2, c3, c4⟩ := h2
  obtain ⟨st1, at1, n1, k1, l1, cl1⟩ := p1
  obtain ⟨st2, at2, n2, k2, l2, cl2⟩ := p2
  simp only at a2 a3 a4 c2 c3 c4
  subst a1 c1 a2 c2 a3 c3
  rcases htr : topRecovery T ps.states with _ | k
  · rw [htr] at a4 c4
    simp only at a4 c4
    obtain ⟨rfl, rfl, rfl, rfl, rfl⟩ := a4
    obtain ⟨rfl, rfl, rfl, rfl, rfl⟩ := c4
    exact ⟨rfl, rfl, rfl⟩
  · rw [htr] at a4 c4
    simp only at a4 c4
    obtain ⟨r1, rest1, s1, d1, x1, rfl, rfl, y1⟩ := a4
    obtain ⟨r2, rest2, s2, d2, x2, rfl, rfl, y2⟩ := c4
    rw [d1] at d2
    cases d2
    rw [x1] at x2
    cases x2
    rcases hf : firstAcceptable T input s1 ps.next ps.ntok with _ | ⟨j, t⟩
    all_goals
      rw [hf] at y1 y2
      obtain ⟨rfl, rfl, rfl⟩ := y1
      obtain ⟨rfl, rfl, rfl⟩ := y2
      exact ⟨rfl, rfl, rfl⟩

/-- `Error` reports "recovered" only after popping to a recovery state, shifting `error` and
    finding a token that has an action in the new state (no hypothesis on the tables) -/
theorem recover_true {T : PTables} {e : Nat} {input : List Nat} {ps ps' : PState} {tok : Nat × Nat}
    (h : recover T e input ps = .ok (true, tok, ps')) :
    ∃ k r rest s' j, topRecovery T ps.states = some k ∧ ps.states.drop k = r :: rest ∧
      T.act r e = some (.shift s') ∧ ps'.states = s' :: r :: rest ∧
      ps'.attrs = Attr.err ps.next.1 ps.next.2 (ps.attrs.take k).reverse (T.rowExpected r) ::
        ps.attrs.drop k ∧
      ps'.next = lookAhead input ps.next ps.ntok j ∧ ps'.ntok = ps.ntok + j ∧
      (T.act s' ps'.next.2).isSome = true ∧
      (∀ i, i < j → T.act s' (lookAhead input ps.next ps.ntok i).2 = none ∧
        (lookAhead input ps.next ps.ntok i).2 ≠ 1) ∧
      ps'.log = ps.log ∧ ps'.calls = ps.calls := by
  rcases recover_cases T e input ps with ⟨-, hrec⟩ | ⟨-, -, hrec⟩ | ⟨k, r, rest, htr, hd, -, hrec⟩ <;>
    rw [hrec] at h
  · cases h
  · cases h
  · rcases ha : T.act r e with _ | a
    · rw [ha] at h; cases h
    · rw [ha] at h
      cases a with
      | reduce p => cases h
      | accept => cases h
      | shift s' =>
        simp only [skipRes_eq, skipSpec, Except.ok.injEq, Prod.mk.injEq] at h
        obtain ⟨h1, -, rfl⟩ := h
        rcases hf : firstAcceptable T input s' ps.next ps.ntok with _ | ⟨j, t⟩
        · rw [hf] at h1; cases h1
        · obtain ⟨rfl, f2, f3⟩ := firstAcceptable_eq_some_iff.mp hf
          exact ⟨k, r, rest, s', j, htr, hd, ha, rfl, rfl, rfl, rfl, f2, f3, rfl, rfl⟩

end Gocc
