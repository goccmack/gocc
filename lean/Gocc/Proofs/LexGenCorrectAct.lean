import Gocc.Proofs.LexGenCorrectRefSets
/-
`lexAction` and `xVerdict` agree on equal sets.

`ItemSet.Action()` is a left fold with a tie-break that is NOT a strict total preference on
arbitrary item orders: a string-literal production replaces the current choice unconditionally
(so of two completed string-literal productions the LAST in list order wins), a non-literal one only
if its index is lower.  The result therefore depends on the order of the list.  What saves the
generator (and the reference) is that all item lists that occur are ordered by production index
(`ProdSorted`: `ItemsSet0` adds production after production, `Next` keeps the order): on such a list
the fold returns the completed string-literal production of HIGHEST index if there is one, and
otherwise the completed production of LOWEST index — a function of the set of completed items
(`lexAction_congr`).
-/
namespace Gocc
namespace LexGenC

def qual (C : LexCtx) (i : LItem) : Bool :=
  match C.prods[i.prod]? with
  | some p => p.kind != .reg && C.isReduce i
  | none => false

def isStrP (C : LexCtx) (k : Nat) : Bool := (C.prods[k]?).map (·.strLit) |>.getD false

/-- one step of the fold of `ItemSet.Action()` -/
def actStep (C : LexCtx) (acc : Option LItem) (i : LItem) : Option LItem :=
  if qual C i then
    match acc with
    | none => some i
    | some a => if isStrP C i.prod || (!isStrP C a.prod && i.prod < a.prod) then some i else some a
  else acc

def actOfProd (C : LexCtx) (k : Nat) : LAct :=
  match C.prods[k]? with
  | some p => if p.kind == .tok then .accept p.id else if p.kind == .ign then .ignore p.id else .none
  | none => .none

def actOf (C : LexCtx) : Option LItem → LAct
  | none => .none
  | some i => actOfProd C i.prod

theorem lexAction_eq (C : LexCtx) (items : List LItem) :
    lexAction C items = actOf C (items.foldl (actStep C) none) := by
  unfold lexAction
  dsimp only
  have hf : ∀ g : Option LItem → LItem → Option LItem, (∀ acc i, g acc i = actStep C acc i) →
      List.foldl g none items = List.foldl (actStep C) none items :=
    fun g hg => by rw [funext fun acc => funext (hg acc)]
  rw [hf _ fun acc i => by
    unfold actStep qual isStrP
    split
    · rename_i p hp
      split
      · rename_i hc
        rw [if_pos (by rw [hp]; exact hc)]
        cases acc <;> rfl
      · rename_i hc
        rw [if_neg (by rw [hp]; exact hc)]
    · rename_i hp
      rw [if_neg (by rw [hp]; exact Bool.false_ne_true)]]
  rfl

/-- the tie-break of `Action()` as a preference: a string-literal production beats every
    non-literal one and the earlier literal ones; a non-literal one beats the later non-literal ones -/
def better (C : LexCtx) (a b : LItem) : Prop :=
  (isStrP C a.prod = true → isStrP C b.prod = true → b.prod ≤ a.prod) ∧
  (isStrP C a.prod = false → isStrP C b.prod = false ∧ a.prod ≤ b.prod)

/-- `a` is the item the fold chooses on a production-sorted list with the elements of `l` -/
def Best (C : LexCtx) (l : List LItem) (a : LItem) : Prop :=
  a ∈ l ∧ qual C a = true ∧ ∀ b ∈ l, qual C b = true → better C a b

def BestOpt (C : LexCtx) (l : List LItem) : Option LItem → Prop
  | none => ∀ b ∈ l, qual C b = false
  | some a => Best C l a

theorem better_refl (C : LexCtx) (a : LItem) : better C a a :=
  ⟨fun _ _ => Nat.le_refl _, fun h => ⟨h, Nat.le_refl _⟩⟩

theorem better_antisymm {C : LexCtx} {a b : LItem} (h1 : better C a b) (h2 : better C b a) :
    a.prod = b.prod := by
  cases hsa : isStrP C a.prod with
  | true =>
    cases hsb : isStrP C b.prod with
    | true => exact Nat.le_antisymm (h2.1 hsb hsa) (h1.1 hsa hsb)
    | false => exact absurd (h2.2 hsb).1 (by rw [hsa]; exact Bool.noConfusion)
  | false =>
    have := h1.2 hsa
    exact Nat.le_antisymm this.2 (h2.2 this.1).2

theorem bestOpt_step {C : LexCtx} {pre : List LItem} {acc : Option LItem} {i : LItem}
    (hle : ∀ b ∈ pre, b.prod ≤ i.prod) (h : BestOpt C pre acc) :
    BestOpt C (pre ++ [i]) (actStep C acc i) := by
  unfold actStep
  by_cases hq : qual C i = true
  · rw [if_pos hq]
    -- `i` is chosen: it is not beaten by the items before it when it is a string literal, or when
    -- none of them is completed
    have hi : (∀ b ∈ pre, qual C b = true → better C i b) → Best C (pre ++ [i]) i := fun hpre =>
      ⟨List.mem_append_right _ List.mem_cons_self, hq, List.forall_mem_append.2
        ⟨hpre, List.forall_mem_singleton.2 fun _ => better_refl C i⟩⟩
    cases acc with
    | none => exact hi fun b hb hqb => absurd hqb (by rw [h b hb]; exact Bool.false_ne_true)
    | some a =>
      obtain ⟨ha, hqa, hbest⟩ := h
      have hai : a.prod ≤ i.prod := hle a ha
      dsimp only
      by_cases hsi : isStrP C i.prod = true
      · rw [if_pos (by rw [hsi]; rfl)]
        exact hi fun b hb _ => ⟨fun _ _ => hle b hb, fun hs => absurd hsi (by rw [hs]; exact Bool.false_ne_true)⟩
      · have hsi' : isStrP C i.prod = false := Bool.eq_false_iff.2 hsi
        rw [if_neg (by rw [hsi', Bool.false_or, Bool.and_eq_true, decide_eq_true_eq]; omega)]
        exact ⟨List.mem_append_left _ ha, hqa, List.forall_mem_append.2 ⟨hbest,
          List.forall_mem_singleton.2 fun _ =>
            ⟨fun _ hs => absurd hs hsi, fun _ => ⟨hsi', hai⟩⟩⟩⟩
  · rw [if_neg hq]
    cases acc with
    | none =>
      exact List.forall_mem_append.2 ⟨h, List.forall_mem_singleton.2 (Bool.eq_false_iff.2 hq)⟩
    | some a =>
      obtain ⟨ha, hqa, hbest⟩ := h
      exact ⟨List.mem_append_left _ ha, hqa, List.forall_mem_append.2 ⟨hbest,
        List.forall_mem_singleton.2 fun hqi => absurd hqi hq⟩⟩

theorem fold_best {C : LexCtx} : ∀ (l pre : List LItem) (acc : Option LItem),
    ProdSorted (pre ++ l) → BestOpt C pre acc → BestOpt C (pre ++ l) (l.foldl (actStep C) acc) := by
  intro l
  induction l with
  | nil => intro pre acc _ h; simpa using h
  | cons i l ih =>
    intro pre acc hs h
    have e : pre ++ i :: l = (pre ++ [i]) ++ l := by simp
    rw [List.foldl_cons, e]
    refine ih (pre ++ [i]) _ (by rw [← e]; exact hs) (bestOpt_step ?_ h)
    intro b hb
    unfold ProdSorted at hs
    rw [List.pairwise_append] at hs
    exact hs.2.2 b hb i List.mem_cons_self

theorem foldl_best {C : LexCtx} {l : List LItem} (hs : ProdSorted l) :
    BestOpt C l (l.foldl (actStep C) none) :=
  fold_best l [] none hs nofun

/-- the choice is a function of the set of completed items -/
theorem bestOpt_congr {C : LexCtx} {l1 l2 : List LItem}
    (hq : ∀ i, qual C i = true → (i ∈ l1 ↔ i ∈ l2)) :
    ∀ {o1 o2 : Option LItem}, BestOpt C l1 o1 → BestOpt C l2 o2 → actOf C o1 = actOf C o2
  | none, none, _, _ => rfl
  | none, some b, b1, ⟨hb, hqb, _⟩ =>
    absurd hqb (by rw [b1 b ((hq b hqb).2 hb)]; exact Bool.false_ne_true)
  | some a, none, ⟨ha, hqa, _⟩, b2 =>
    absurd hqa (by rw [b2 a ((hq a hqa).1 ha)]; exact Bool.false_ne_true)
  | some a, some b, ⟨ha, hqa, abest⟩, ⟨hb, hqb, bbest⟩ => by
    -- each of the two chosen items is in the other list, so neither beats the other
    have hprod : a.prod = b.prod :=
      better_antisymm (abest b ((hq b hqb).2 hb) hqb) (bbest a ((hq a hqa).1 ha) hqa)
    simp only [actOf, hprod]

theorem lexAction_congr {C : LexCtx} {l1 l2 : List LItem} (h1 : ProdSorted l1) (h2 : ProdSorted l2)
    (hq : ∀ i, qual C i = true → (i ∈ l1 ↔ i ∈ l2)) : lexAction C l1 = lexAction C l2 := by
  rw [lexAction_eq, lexAction_eq]
  exact bestOpt_congr hq (foldl_best h1) (foldl_best h2)

def doneTop (C : LexCtx) : XPos → Option LItem
  | [top] => if C.isReduce top then some top else none
  | _ => none

theorem doneTop_eq_some {C : LexCtx} {x : XPos} {i : LItem} :
    doneTop C x = some i ↔ x = [i] ∧ C.isReduce i = true := by
  unfold doneTop
  split
  · rename_i top
    by_cases hr : C.isReduce top = true
    · rw [if_pos hr]
      exact ⟨fun e => by cases e; exact ⟨rfl, hr⟩, fun ⟨e, _⟩ => by cases e; rfl⟩
    · rw [if_neg hr]
      exact ⟨nofun, fun ⟨e, h⟩ => by cases e; exact absurd h hr⟩
  · rename_i hx
    exact ⟨nofun, fun ⟨e, _⟩ => absurd e (hx i)⟩

def doneOf (C : LexCtx) (S : List XPos) : List LItem := S.filterMap (doneTop C)

theorem xVerdict_eq (C : LexCtx) (S : List XPos) : xVerdict C S = lexAction C (doneOf C S) := rfl

theorem mem_doneOf {C : LexCtx} {S : List XPos} {i : LItem} :
    i ∈ doneOf C S ↔ [i] ∈ S ∧ C.isReduce i = true := by
  simp only [doneOf, List.mem_filterMap, doneTop_eq_some]
  exact ⟨fun ⟨x, hx, e, hr⟩ => ⟨e ▸ hx, hr⟩, fun ⟨hx, hr⟩ => ⟨_, hx, rfl, hr⟩⟩

theorem prodSorted_doneOf {C : LexCtx} {S : List XPos} (hS : GoodX C S) :
    ProdSorted (doneOf C S) := by
  refine List.Pairwise.filterMap _ (fun a a' haa' b hb b' hb' => ?_) hS.sorted
  obtain ⟨rfl, _⟩ := doneTop_eq_some.1 hb
  obtain ⟨rfl, _⟩ := doneTop_eq_some.1 hb'
  exact haa'

theorem qual_isReduce {C : LexCtx} {i : LItem} (h : qual C i = true) : C.isReduce i = true := by
  unfold qual at h
  split at h
  · simp only [Bool.and_eq_true] at h; exact h.2
  · cases h

theorem act_agree {C : LexCtx} {items : List LItem} {S : List XPos} (hrel : SetRel items S)
    (hs : ProdSorted items) (hS : GoodX C S) : lexAction C items = xVerdict C S := by
  rw [xVerdict_eq]
  refine lexAction_congr hs (prodSorted_doneOf hS) ?_
  intro i hq
  rw [mem_doneOf, hrel.mem]
  exact ⟨fun h => ⟨h, qual_isReduce hq⟩, fun h => h.1⟩

end LexGenC
end Gocc
