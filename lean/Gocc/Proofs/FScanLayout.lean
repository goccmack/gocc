import Gocc.Proofs.FScan
/-
Layout independence of the token stream of the front-end scanner: `Scan` skips gaps of white space and
comments (`Gap`), so the stream of a text laid out as gap, token, separator, token, …, gap (`render`) is its
list of tokens.
-/
namespace Gocc
namespace FScan

theorem scanOnce_eof (u : UnicodeOracle) {s : FSt} (h : At [] s) :
    ∃ tok, scanOnce u s = (some tok, next s) ∧ tok.type = tEOF ∧ tok.lit = [] := by
  have hch : s.ch = -1 := h.ch
  refine ⟨mkTok tEOF (position s) (next s), ?_, rfl, ?_⟩
  · simp only [scanOnce, hch]
    rw [if_neg (by simp [isLetter])]
    simp only [if_true]
  · show slice (position s) (position s).offset _ = []
    rw [slice_self]
    show s.cur.take _ = []
    rw [h.cur, List.take_nil]

/-- `*/` does not occur in `body` -/
def NoStarSlash (body : List Nat) : Prop := ¬ [42, 47] <:+: body

theorem blockCommentLoop_at (g : List Nat) :
    ∀ (f : Nat) (body : List Nat) (s : FSt), NoStarSlash body → body.length + 1 < f →
      At (body ++ 42 :: 47 :: g) s → ∃ s', blockCommentLoop f s = (true, s') ∧ At g s' := by
  intro f
  induction f with
  | zero => intro _ _ _ hf; omega
  | succ f ih =>
    intro body s hns hf h
    cases body with
    | nil =>
      obtain ⟨c0, h1, _⟩ := next_at_ascii h (by omega)
      obtain ⟨c1, h2, _⟩ := next_at_ascii h1 (by omega)
      exact ⟨next (next s), by simp [blockCommentLoop, c0, c1], h2⟩
    | cons b p =>
      obtain ⟨hge, p', hsuf, h1, hlt⟩ := next_at_prefix (c := 42) (by omega) h
      -- `*` at `s` and `/` behind it would be a `*/` at the head of the body
      have hcond : ¬ (s.ch = 42 ∧ (next s).ch = 47) := by
        rintro ⟨c0, c1⟩
        obtain ⟨hb, rfl⟩ := hlt (by omega)
        obtain ⟨r, hr⟩ := h1.of_ch (c := 47) (by omega) c1
        cases p' with
        | nil => cases hr
        | cons b1 p1 =>
          obtain ⟨rfl⟩ : b = 42 := by omega
          cases hr
          exact hns ⟨[], p1, rfl⟩
      simp only [blockCommentLoop, hge, if_true, hcond, if_false]
      have := hsuf.length_le
      exact ih p' (next s) (fun hin => hns (hin.trans (hsuf.isInfix.trans (List.suffix_cons b p).isInfix)))
        (by simp only [List.length_cons] at hf; omega) h1

theorem lineDirective_at {x : List Nat} (p : FPos) {s : FSt} (h : At x s) :
    At x (lineDirective p s) := by
  obtain ⟨l, e⟩ := lineDirective_eq p s
  rw [e]
  exact ⟨h.cur, h.ch, h.off⟩

theorem lineCommentLoop_at (p : FPos) (g : List Nat) :
    ∀ (f : Nat) (b : Nat) (y : List Nat) (s : FSt), (∀ c ∈ y, c ≠ 10) → y.length + 1 < f →
      At (b :: (y ++ 10 :: g)) s → At (10 :: g) (lineCommentLoop p f s) := by
  intro f
  induction f with
  | zero => intro _ _ _ _ hf; omega
  | succ f ih =>
    intro b y s hy hf h
    obtain ⟨hge, y', hsuf, h1, _⟩ := next_at_prefix (c := 10) (by omega) h
    simp only [lineCommentLoop, hge, if_true]
    cases y' with
    | nil =>
      have c1 : (next s).ch = 10 := (next_at_ascii h1 (by omega)).1
      rw [if_pos c1]
      exact lineDirective_at p h1
    | cons b2 y2 =>
      have hmem : ∀ c ∈ b2 :: y2, c ≠ 10 := fun c hc => hy c (hsuf.subset hc)
      have c1 : (next s).ch ≠ 10 := fun c1 => by
        obtain ⟨r, hr⟩ := h1.of_ch (c := 10) (by omega) c1
        cases hr
        exact hmem 10 List.mem_cons_self rfl
      have := hsuf.length_le
      rw [if_neg c1]
      exact ih b2 y2 (next s) (fun c hc => hmem c (List.mem_cons_of_mem _ hc))
        (by simp only [List.length_cons] at this; omega) h1

/-- `/* body */` is consumed by one pass of `Scan`, which then jumps to `scanAgain` -/
theorem scanOnce_block (u : UnicodeOracle) {body g : List Nat} (hb : NoStarSlash body) {s : FSt}
    (h : At (47 :: 42 :: (body ++ 42 :: 47 :: g)) s) :
    ∃ s', scanOnce u s = (none, s') ∧ At g s' := by
  obtain ⟨c0, h1, _⟩ := next_at_ascii h (by omega)
  obtain ⟨c1, h2, _⟩ := next_at_ascii h1 (by omega)
  obtain ⟨s', hs', hat⟩ := blockCommentLoop_at g (fuel (next (next s))) body
    (next (next s)) hb (by simp [fuel, h2.cur]; omega) h2
  refine ⟨s', ?_, hat⟩
  rw [scanOnce_comment u c0 (.inr c1)]
  simp [scanComment, expect, c1, hs']

theorem scanOnce_line (u : UnicodeOracle) {body g : List Nat} (hb : ∀ c ∈ body, c ≠ 10) {s : FSt}
    (h : At (47 :: 47 :: (body ++ 10 :: g)) s) :
    ∃ s', scanOnce u s = (none, s') ∧ At (10 :: g) s' := by
  obtain ⟨c0, h1, _⟩ := next_at_ascii h (by omega)
  have c1 : (next s).ch = 47 := (next_at_ascii h1 (by omega)).1
  refine ⟨_, by rw [scanOnce_comment u c0 (.inl c1), scanComment, if_pos c1], ?_⟩
  exact lineCommentLoop_at (position s) g (fuel (next s)) 47 body (next s) hb
    (by simp [fuel, h1.cur]; omega) h1

/-- A gap: white-space runs and comments (`/* body */` with no `*/` in `body`, `// body` newline).
    The index counts the comments. -/
inductive Gap : Nat → List Nat → Prop
  | ws {w : List Nat} : WsRun w → Gap 0 w
  | block {w body : List Nat} {n : Nat} {g : List Nat} : WsRun w → NoStarSlash body → Gap n g →
      Gap (n + 1) (w ++ 47 :: 42 :: (body ++ 42 :: 47 :: g))
  | line {w body : List Nat} {n : Nat} {g : List Nat} : WsRun w → (∀ c ∈ body, c ≠ 10) →
      Gap n (10 :: g) → Gap (n + 1) (w ++ 47 :: 47 :: (body ++ 10 :: g))

theorem Gap.count_le {n : Nat} {g : List Nat} (h : Gap n g) : n ≤ g.length := by
  induction h with
  | ws _ => omega
  | block _ _ _ ih => simp; omega
  | line _ _ _ ih => simp at ih ⊢; omega

theorem scanLoop_again (u : UnicodeOracle) {s s' : FSt} (h : scanOnce u (skipWhitespace s) = (none, s'))
    (k : Nat) : scanLoop u (k + 1) s = scanLoop u k s' := by
  simp only [scanLoop, h]

/-- `Scan` entered at a gap with `n` comments followed by `x` jumps `n` times to `scanAgain`, and is then
    entered at a state whose white space ends at `x` -/
theorem scanLoop_gap (u : UnicodeOracle) {n : Nat} {g : List Nat} (hg : Gap n g) {x : List Nat}
    (hx : NoWsHead x) :
    ∀ (s : FSt), At (g ++ x) s →
      ∃ s0, At x (skipWhitespace s0) ∧ ∀ k, scanLoop u (n + k) s = scanLoop u k s0 := by
  induction hg with
  | ws hw => exact fun s h => ⟨s, (skipWhitespace_at hw hx h).1, fun k => by rw [Nat.zero_add]⟩
  | @block w body n g hw hb _ ih =>
    intro s h
    simp only [List.append_assoc, List.cons_append] at h
    obtain ⟨s', hs', hat⟩ := scanOnce_block u hb (skipWhitespace_at hw (noWsHead_cons (by decide)) h).1
    obtain ⟨s0, h0, hk⟩ := ih s' hat
    exact ⟨s0, h0, fun k => by rw [Nat.add_right_comm, scanLoop_again u hs', hk]⟩
  | @line w body n g hw hb _ ih =>
    intro s h
    simp only [List.append_assoc, List.cons_append] at h
    obtain ⟨s', hs', hat⟩ := scanOnce_line u hb (skipWhitespace_at hw (noWsHead_cons (by decide)) h).1
    obtain ⟨s0, h0, hk⟩ := ih s' hat
    exact ⟨s0, h0, fun k => by rw [Nat.add_right_comm, scanLoop_again u hs', hk]⟩

theorem wsRun_nil : WsRun [] := fun _ h => nomatch h

theorem wsRun_append {w1 w2 : List Nat} (h1 : WsRun w1) (h2 : WsRun w2) : WsRun (w1 ++ w2) :=
  List.forall_mem_append.2 ⟨h1, h2⟩

theorem Gap.ws_append {w : List Nat} (hw : WsRun w) {n : Nat} {g : List Nat} (h : Gap n g) :
    Gap n (w ++ g) := by
  cases h with
  | ws h => exact .ws (wsRun_append hw h)
  | block h1 h2 h3 => rw [← List.append_assoc]; exact .block (wsRun_append hw h1) h2 h3
  | line h1 h2 h3 => rw [← List.append_assoc]; exact .line (wsRun_append hw h1) h2 h3

theorem noWsHead_append {t x : List Nat} (ht : t ≠ []) (h : NoWsHead t) : NoWsHead (t ++ x) := by
  cases t with
  | nil => exact absurd rfl ht
  | cons b r =>
    intro b' r' he
    simp only [List.cons_append, List.cons.injEq] at he
    exact h b' r (by rw [he.1])

theorem fscan_gap (u : UnicodeOracle) {n : Nat} {g x : List Nat} (hg : Gap n g) (hx : NoWsHead x)
    {s : FSt} (h : At (g ++ x) s) :
    ∃ s0, At x (skipWhitespace s0) ∧
      ∀ tok s', scanOnce u (skipWhitespace s0) = (some tok, s') → fscan u s = (tok, s') := by
  obtain ⟨s0, h0, hk⟩ := scanLoop_gap u hg hx s h
  refine ⟨s0, h0, fun tok s' hs => ?_⟩
  have hn := hg.count_le
  have : fuel s = n + (fuel s - n - 1 + 1) := by
    simp only [fuel, h.cur, List.length_append]; omega
  rw [fscan, this, hk]
  simp only [scanLoop, hs]

def key (t : FTok) : Int × List Nat := (t.type, t.lit)

def tokStream (u : UnicodeOracle) (src : List Nat) : List (Int × List Nat) :=
  (fscanAll u src).1.map key

/-- `t₁ s₁ t₂ s₂ … tₙ`: token spellings interleaved with separators (`seps.length = ts.length - 1`) -/
def render : List (List Nat) → List (List Nat) → List Nat
  | t :: ts, s :: seps => t ++ s ++ render ts seps
  | t :: _, [] => t
  | [], _ => []

def IsGap (g : List Nat) : Prop := ∃ n, Gap n g

/-- A separator between two tokens: a gap that begins with a white-space byte.  Comments directly
    behind a token (`a/*c*/b`) are left out: `ScansAs` promises what `Scan` does on a spelling only
    when white space or the end of input follows it. -/
def IsSep (g : List Nat) : Prop := IsGap g ∧ ∃ b r, g = b :: r ∧ isWsByte b = true

theorem Gap.append {n m : Nat} {g h : List Nat} (hg : Gap n g) (hh : Gap m h) :
    Gap (n + m) (g ++ h) := by
  induction hg with
  | ws hw => rw [Nat.zero_add]; exact hh.ws_append hw
  | block hw hb _ ih =>
    simp only [List.append_assoc, List.cons_append, Nat.add_right_comm _ 1 m]
    exact .block hw hb ih
  | line hw hb _ ih =>
    simp only [List.append_assoc, List.cons_append, Nat.add_right_comm _ 1 m]
    exact .line hw hb ih

theorem IsGap.append {g h : List Nat} (hg : IsGap g) (hh : IsGap h) : IsGap (g ++ h) :=
  let ⟨_, a⟩ := hg; let ⟨_, b⟩ := hh; ⟨_, a.append b⟩

theorem isGap_ws {w : List Nat} (h : WsRun w) : IsGap w := ⟨0, .ws h⟩

theorem WsRun.trail {w : List Nat} (h : WsRun w) : IsGap w ∧ FollowOK w := ⟨isGap_ws h, followOK_ws h⟩

theorem isGap_blockComment {body : List Nat} (h : NoStarSlash body) :
    IsGap (47 :: 42 :: (body ++ [42, 47])) :=
  ⟨_, .block (w := []) (g := []) wsRun_nil h (.ws wsRun_nil)⟩

theorem isGap_lineComment {body : List Nat} (h : ∀ c ∈ body, c ≠ 10) :
    IsGap (47 :: 47 :: (body ++ [10])) :=
  ⟨_, .line (w := []) (g := []) wsRun_nil h (.ws (w := [10]) (by simp [WsRun, isWsByte]))⟩

theorem IsSep.of_ws_append {w g : List Nat} (hw : WsRun w) (hne : w ≠ []) (hg : IsGap g) :
    IsSep (w ++ g) := by
  refine ⟨(isGap_ws hw).append hg, ?_⟩
  cases w with
  | nil => exact absurd rfl hne
  | cons b r => exact ⟨b, r ++ g, rfl, hw b (by simp)⟩

theorem IsSep.followOK {g : List Nat} (h : IsSep g) (x : List Nat) : FollowOK (g ++ x) := by
  obtain ⟨_, b, r, rfl, hb⟩ := h
  exact .inr ⟨b, r ++ x, rfl, hb⟩

/-- The stream of `lead t₁ s₁ t₂ … tₙ trail` is `t₁ … tₙ` with their types, then end of input (and the text
    has at least `n` bytes, so that the fuel of `fscanAll` suffices).  By induction on the tokens: `Scan` skips
    the gap in front, returns the first token, and is then positioned at the separator, which is the gap in
    front of the others. -/
theorem fscanN_render (u : UnicodeOracle) {trail : List Nat} (htg : IsGap trail) (htf : FollowOK trail) :
    ∀ (tts : List (List Nat × Int)) (seps : List (List Nat)) (lead : List Nat),
      (∀ p ∈ tts, ScansAs u p.1 p.2) → (∀ g ∈ seps, IsSep g) → seps.length = tts.length - 1 →
      IsGap lead →
      tts.length ≤ (lead ++ (render (tts.map (·.1)) seps ++ trail)).length ∧
      ∀ (N : Nat) (s : FSt), tts.length < N → At (lead ++ (render (tts.map (·.1)) seps ++ trail)) s →
        (fscanN u N s).1.map key = tts.map (fun p => (p.2, p.1)) ++ [(tEOF, [])] := by
  intro tts
  induction tts with
  | nil =>
    intro seps lead _ _ _ hl
    refine ⟨Nat.zero_le _, fun N s hN h => ?_⟩
    obtain ⟨n, hg⟩ := hl.append htg
    obtain ⟨N, rfl⟩ : ∃ N', N = N' + 1 := ⟨N - 1, by omega⟩
    obtain ⟨s0, h0, hf⟩ := fscan_gap u hg (x := []) (fun _ _ he => nomatch he)
      (by simpa [render] using h)
    obtain ⟨tok, hs, h1, h2⟩ := scanOnce_eof u h0
    simp [fscanN, hf _ _ hs, h1, key, h2]
  | cons p tts ih =>
    intro seps lead hp hs hlen ⟨n, hl⟩
    have ht := hp p List.mem_cons_self
    -- behind the first token: the trailing gap, or a separator in front of the other tokens
    obtain ⟨x, hx, e, hle, hrest⟩ : ∃ x, FollowOK x ∧
        render ((p :: tts).map (·.1)) seps ++ trail = p.1 ++ x ∧ tts.length ≤ x.length ∧
        ∀ (N : Nat) (s : FSt), tts.length < N → At x s →
          (fscanN u N s).1.map key = tts.map (fun p => (p.2, p.1)) ++ [(tEOF, [])] := by
      cases tts with
      | nil =>
        obtain rfl : seps = [] := List.eq_nil_of_length_eq_zero hlen
        exact ⟨trail, htf, rfl, Nat.zero_le _,
          (ih [] [] (fun _ h => nomatch h) (fun _ h => nomatch h) rfl (isGap_ws wsRun_nil)).2⟩
      | cons p' tts =>
        cases seps with
        | nil => cases hlen
        | cons g seps =>
          have hsep := hs g List.mem_cons_self
          have := ih seps g (fun q hq => hp q (List.mem_cons_of_mem _ hq))
            (fun q hq => hs q (List.mem_cons_of_mem _ hq)) (Nat.succ.inj hlen) hsep.1
          exact ⟨_, hsep.followOK _, by simp [render], this⟩
    rw [e]
    refine ⟨?_, fun N s hN h => ?_⟩
    · have := List.length_pos_iff.2 ht.2.1
      simp only [List.length_append, List.length_cons] at hle ⊢
      omega
    obtain ⟨N, rfl⟩ : ∃ N', N = N' + 1 := ⟨N - 1, by omega⟩
    obtain ⟨s0, h0, hf⟩ := fscan_gap u hl (noWsHead_append ht.2.1 ht.2.2.1) h
    obtain ⟨tok, s', hs', h1, h2, h3⟩ := ht.2.2.2 x _ hx h0
    simp [fscanN, hf _ _ hs', h1, ht.1, key, h2, hrest N s' (by simpa using hN) h3]

def ScansAsOne (u : UnicodeOracle) (t : List Nat) : Prop := ∃ ty, ScansAs u t ty

theorem exists_types (u : UnicodeOracle) (ts : List (List Nat)) (h : ∀ t ∈ ts, ScansAsOne u t) :
    ∃ tts : List (List Nat × Int), tts.map (·.1) = ts ∧ ∀ p ∈ tts, ScansAs u p.1 p.2 := by
  induction ts with
  | nil => exact ⟨[], rfl, fun _ h => nomatch h⟩
  | cons t ts ih =>
    obtain ⟨tts, h1, h2⟩ := ih (fun t' ht' => h t' (by simp [ht']))
    obtain ⟨ty, hty⟩ := h t (by simp)
    refine ⟨(t, ty) :: tts, by simp [h1], ?_⟩
    intro p hp
    cases hp with
    | head => exact hty
    | tail _ hp => exact h2 p hp

end FScan
end Gocc
