import Gocc.Proofs.Recover
/-
One iteration of the `Parse` loop as a non-recursive function `step`, so that
`parseLoop (fuel+1) = (step ·).run (parseLoop fuel)`; the equations through which the proofs use
the parts of the loop; finite runs (`Steps`), and the lifting of a post-condition of one iteration
to the loop (`parseLoop_post`, `Steps.inv`).
-/
namespace Gocc

theorem scanTok_eq (w : List Nat) (k : Nat) : scanTok w k = (k, w[k]?.getD 1) := by
  unfold scanTok
  cases w[k]? <;> rfl

theorem scanTok_fst (w : List Nat) (m : Nat) : (scanTok w m).1 = m := by rw [scanTok_eq]

theorem scanTok_snd (w : List Nat) (m : Nat) : (scanTok w m).2 = (w.drop m).head?.getD 1 := by
  rw [scanTok_eq, List.head?_drop]

theorem scanTok_snd_lt {w : List Nat} {m : Nat} (h : m < w.length) : (scanTok w m).2 = w[m] := by
  rw [scanTok_eq, List.getElem?_eq_getElem h]; rfl

theorem scanTok_lt {w : List Nat} {m : Nat} (h : (scanTok w m).2 ≠ 1) : m < w.length :=
  Nat.lt_of_not_le fun hle => h (scanTok_snd_of_le hle)

theorem scanTok_eof {w : List Nat} (hw : 1 ∉ w) {m : Nat} (hm : m ≤ w.length)
    (h : (scanTok w m).2 = 1) : m = w.length := by
  apply Nat.le_antisymm hm
  apply Nat.le_of_not_lt
  intro hlt
  rw [scanTok_snd_lt hlt] at h
  exact hw (h ▸ List.getElem_mem hlt)

theorem scanTok_take_append {w : List Nat} {m j : Nat} (x : List Nat) (hj : j < m)
    (hm : m ≤ w.length) : scanTok w j = scanTok (w.take m ++ x) j := by
  rw [scanTok_eq, scanTok_eq, List.getElem?_append_left (by rw [List.length_take]; omega),
    List.getElem?_take_of_lt hj]

theorem scanTok_take_at {w : List Nat} {m : Nat} (x : List Nat) (hm : m ≤ w.length) :
    scanTok (w.take m ++ x) m = (m, x.head?.getD 1) := by
  rw [scanTok_eq, List.getElem?_append_right (by rw [List.length_take]; omega), List.length_take,
    Nat.min_eq_left hm, Nat.sub_self, List.head?_eq_getElem?]

theorem act_eq_some {T : PTables} {s t : Nat} {a : Act} (h : T.act s t = some a) :
    ∃ row, T.action[s]? = some row ∧ t < row.size ∧ (row[t]?).join = some a := by
  unfold PTables.act at h
  rcases hrow : T.action[s]? with _ | row
  · rw [hrow] at h; cases h
  · rw [hrow] at h
    refine ⟨row, rfl, ?_, h⟩
    rcases hx : row[t]? with _ | x
    · rw [Option.bind_some, hx] at h; cases h
    · exact (Array.getElem?_eq_some_iff.mp hx).1

theorem mem_rowExpected {T : PTables} {s a : Nat} :
    a ∈ T.rowExpected s ↔ (T.act s a).isSome = true := by
  unfold PTables.rowExpected PTables.act
  rcases T.action[s]? with _ | row
  · simp
  · simp only [List.mem_filter, List.mem_range, Option.bind_some]
    constructor
    · exact fun h => h.2
    · intro h
      refine ⟨?_, h⟩
      rcases hx : row[a]? with _ | x
      · simp [hx] at h
      · exact (Array.getElem?_eq_some_iff.mp hx).1

theorem rowExpected_sorted (T : PTables) (s : Nat) :
    (T.rowExpected s).Pairwise (· < ·) := by
  unfold PTables.rowExpected
  split
  · exact List.Pairwise.filter _ List.pairwise_lt_range
  · exact List.Pairwise.nil

inductive StepR where
  | done (o : Outcome) (ps : PState)
  | cont (ps : PState)

def lookupAct (T : PTables) (errTerm : Nat) (input : List Nat) (ps : PState) (top : Nat) :
    Except (Outcome × PState) (Act × PState) :=
  match T.act top ps.next.2 with
  | some a => .ok (a, ps)
  | none =>
    match recover T errTerm input ps with
    | .error why => .error (.panic why, ps)
    | .ok (false, errTok, ps') =>
      match ps'.states with
      | t' :: _ => .error (.synErr errTok.1 errTok.2 (T.rowExpected t') t', ps')
      | [] => .error (.panic "empty stack", ps')
    | .ok (true, _, ps') =>
      match ps'.states with
      | t' :: _ =>
        match T.act t' ps'.next.2 with
        | some a => .ok (a, ps')
        | none => .error (.panic "Error recovery led to invalid action", ps')
      | [] => .error (.panic "empty stack", ps')

def reduceRes (cfg : PCfg) (p : Nat) (X : List Attr) (ps : PState) : Except (Option String) (Attr × PState) :=
  match cfg.T.prodKind[p]?.getD .dflt with
  | .dflt => match X with
    | x :: _ => .ok (x, ps)
    | [] => .error (some "index out of range")
  | .nilEmpty => .ok (.nil, ps)
  | .user shape id =>
    let ps := { ps with log := id :: ps.log, calls := ps.calls + 1 }
    if cfg.failAt != 0 && ps.calls == cfg.failAt then .error none
    else match userAction shape id X with
      | .ok a => .ok (a, ps)
      | .error why => .error (some why)

def doAct (cfg : PCfg) (input : List Nat) (a : Act) (ps : PState) : StepR :=
  let T := cfg.T
  match a with
  | .accept =>
    match ps.attrs with
    | r :: rest => .done (.accept r) { ps with states := ps.states.drop 1, attrs := rest }
    | [] => .done (.panic "empty stack") ps
  | .shift s =>
    let nt := scanTok input ps.ntok
    .cont { ps with states := s :: ps.states, attrs := Attr.tok ps.next.1 ps.next.2 :: ps.attrs, next := nt, ntok := ps.ntok + 1 }
  | .reduce p =>
    let n := T.prodLen[p]?.getD 0
    if n > ps.states.length then .done (.panic "slice bounds out of range") ps else
    let X := (ps.attrs.take n).reverse
    let states := ps.states.drop n
    let attrs := ps.attrs.drop n
    match reduceRes cfg p X ps with
    | .error (some why) => .done (.panic why) ps
    | .error none =>
      let ps := { ps with states := states, attrs := attrs, log := (match T.prodKind[p]?.getD .dflt with | .user _ id => id :: ps.log | _ => ps.log), calls := ps.calls + 1 }
      match states with
      | t' :: _ =>
        let id := match T.prodKind[p]?.getD .dflt with | .user _ id => id | _ => 0
        .done (.actErr id ps.next.1 ps.next.2 (T.rowExpected t') t') ps
      | [] => .done (.panic "empty stack") ps
    | .ok (a, ps) =>
      match states with
      | t' :: _ =>
        let g := ((T.goto_[t']?).bind (·[T.prodNT[p]?.getD 0]?)).getD (-1)
        if g < 0 then .done (.panic "index out of range [-1]") ps
        else .cont { ps with states := g.toNat :: states, attrs := a :: attrs }
      | [] => .done (.panic "empty stack") ps

def step (cfg : PCfg) (input : List Nat) (ps : PState) : StepR :=
  match ps.states with
  | [] => .done (.panic "empty stack") ps
  | top :: _ =>
    if ps.next.2 ≥ cfg.T.numSymbols then .done (.panic "index out of range (token type)") ps else
    match lookupAct cfg.T cfg.errTerm input ps top with
    | .error o => .done o.1 o.2
    | .ok (a, ps) => doAct cfg input a ps

def StepR.run (k : PState → Outcome × PState) : StepR → Outcome × PState
  | .done o ps => (o, ps)
  | .cont ps => k ps

theorem parseLoop_succ (cfg : PCfg) (input : List Nat) (fuel : Nat) (ps : PState) :
    parseLoop cfg input (fuel + 1) ps = (step cfg input ps).run (parseLoop cfg input fuel) := by
  unfold step
  unfold parseLoop
  rcases ps.states with _ | ⟨top, rest⟩
  · rfl
  · dsimp only
    split
    · rfl
    · -- the lookup inside the body of the loop, folded
      show (match lookupAct cfg.T cfg.errTerm input ps top with
        | .error o => o
        | .ok (a, ps) => _) = _
      rcases lookupAct cfg.T cfg.errTerm input ps top with o | ⟨a, ps'⟩
      · rfl
      · cases a with
        | accept => simp only [doAct]; rcases ps'.attrs with _ | ⟨r, rest⟩ <;> rfl
        | shift s => rfl
        | reduce p =>
          show (if cfg.T.prodLen[p]?.getD 0 > ps'.states.length then _ else
            match reduceRes cfg p (ps'.attrs.take (cfg.T.prodLen[p]?.getD 0)).reverse ps' with
            | .error (some why) => _
            | .error none => _
            | .ok (a, ps) => _) = _
          simp only [doAct]
          split
          · rfl
          · rcases reduceRes cfg p (List.take (cfg.T.prodLen[p]?.getD 0) ps'.attrs).reverse ps' with
              (_ | why) | ⟨b, ps2⟩
            · rcases List.drop (cfg.T.prodLen[p]?.getD 0) ps'.states with _ | ⟨t', _⟩ <;> rfl
            · rfl
            · rcases List.drop (cfg.T.prodLen[p]?.getD 0) ps'.states with _ | ⟨t', _⟩
              · rfl
              · simp only []; split <;> rfl

/-- the initial configuration of `Parse` -/
def initPS (w : List Nat) : PState :=
  { states := [0], attrs := [.nil], next := scanTok w 0, ntok := 1, log := [], calls := 0 }

theorem parse_eq (cfg : PCfg) (w : List Nat) (fuel : Nat) (old : PState) :
    parse cfg w fuel old = parseLoop cfg w fuel (initPS w) := rfl

section
variable {cfg : PCfg} {p : Nat} {X : List Attr} {ps ps2 : PState} {a : Attr}

theorem failAt_cond (f c : Nat) : ((f != 0 && c == f) = true) ↔ (f ≠ 0 ∧ c = f) := by
  rw [Bool.and_eq_true, bne_iff_ne, beq_iff_eq]

theorem reduceRes_eq (cfg : PCfg) (p : Nat) (X : List Attr) (ps : PState) :
    reduceRes cfg p X ps = match cfg.T.prodKind[p]?.getD .dflt with
      | .dflt => match X.head? with
        | some x => .ok (x, ps)
        | none => .error (some "index out of range")
      | .nilEmpty => .ok (.nil, ps)
      | .user shape id =>
        if cfg.failAt ≠ 0 ∧ ps.calls + 1 = cfg.failAt then .error none
        else match userAction shape id X with
          | .ok a => .ok (a, { ps with log := id :: ps.log, calls := ps.calls + 1 })
          | .error why => .error (some why) := by
  unfold reduceRes
  rcases cfg.T.prodKind[p]?.getD .dflt with _ | _ | ⟨shape, id⟩
  · cases X <;> rfl
  · rfl
  · simp only []
    by_cases hf : cfg.failAt ≠ 0 ∧ ps.calls + 1 = cfg.failAt
    · rw [if_pos hf]; exact if_pos ((failAt_cond ..).2 hf)
    · rw [if_neg hf]; exact if_neg (mt (failAt_cond ..).1 hf)

theorem reduceRes_eq_ok : reduceRes cfg p X ps = .ok (a, ps2) ↔
    (cfg.T.prodKind[p]?.getD .dflt = .dflt ∧ X.head? = some a ∧ ps2 = ps) ∨
    (cfg.T.prodKind[p]?.getD .dflt = .nilEmpty ∧ a = .nil ∧ ps2 = ps) ∨
    ∃ shape id, cfg.T.prodKind[p]?.getD .dflt = .user shape id ∧
      ¬(cfg.failAt ≠ 0 ∧ ps.calls + 1 = cfg.failAt) ∧ userAction shape id X = .ok a ∧
      ps2 = { ps with log := id :: ps.log, calls := ps.calls + 1 } := by
  rw [reduceRes_eq]
  constructor
  · intro h
    split at h
    · rename_i hk
      split at h
      · rename_i hx; cases h; exact .inl ⟨hk, hx, rfl⟩
      · cases h
    · rename_i hk; cases h; exact .inr (.inl ⟨hk, rfl, rfl⟩)
    · rename_i shape id hk
      split at h
      · cases h
      · rename_i hc
        split at h
        · rename_i hu; cases h; exact .inr (.inr ⟨shape, id, hk, hc, hu, rfl⟩)
        · cases h
  · rintro (⟨hk, hx, rfl⟩ | ⟨hk, rfl, rfl⟩ | ⟨shape, id, hk, hc, hu, rfl⟩)
    · rw [hk]; simp only [hx]
    · rw [hk]
    · rw [hk]; simp only [hc, hu, if_false]

theorem reduceRes_eq_error_none : reduceRes cfg p X ps = .error none ↔
    ∃ shape id, cfg.T.prodKind[p]?.getD .dflt = .user shape id ∧
      cfg.failAt ≠ 0 ∧ ps.calls + 1 = cfg.failAt := by
  rw [reduceRes_eq]
  constructor
  · intro h
    split at h
    · split at h <;> cases h
    · cases h
    · rename_i shape id hk
      split at h
      · rename_i hc; exact ⟨shape, id, hk, hc⟩
      · split at h <;> cases h
  · rintro ⟨shape, id, hk, hc⟩
    rw [hk]; exact if_pos hc

theorem reduceRes_eq_error_some {why : String} : reduceRes cfg p X ps = .error (some why) ↔
    (cfg.T.prodKind[p]?.getD .dflt = .dflt ∧ X = [] ∧ why = "index out of range") ∨
    ∃ shape id, cfg.T.prodKind[p]?.getD .dflt = .user shape id ∧
      ¬(cfg.failAt ≠ 0 ∧ ps.calls + 1 = cfg.failAt) ∧ userAction shape id X = .error why := by
  rw [reduceRes_eq]
  constructor
  · intro h
    split at h
    · rename_i hk
      split at h
      · cases h
      · rename_i hx; cases h; exact .inl ⟨hk, List.head?_eq_none_iff.1 hx, rfl⟩
    · cases h
    · rename_i shape id hk
      split at h
      · cases h
      · rename_i hc
        split at h
        · cases h
        · rename_i hu; cases h; exact .inr ⟨shape, id, hk, hc, hu⟩
  · rintro (⟨hk, rfl, rfl⟩ | ⟨shape, id, hk, hc, hu⟩)
    · rw [hk]; rfl
    · rw [hk]; simp only [hc, hu, if_false]

theorem reduceRes_frame (h : reduceRes cfg p X ps = .ok (a, ps2)) :
    ps2.states = ps.states ∧ ps2.attrs = ps.attrs ∧ ps2.next = ps.next ∧ ps2.ntok = ps.ntok := by
  rcases reduceRes_eq_ok.1 h with ⟨-, -, rfl⟩ | ⟨-, -, rfl⟩ | ⟨_, _, -, -, -, rfl⟩ <;>
    exact ⟨rfl, rfl, rfl, rfl⟩

end

/-- a grammar without error alternatives: `Error` pops nothing and reports "not recovered" -/
theorem recover_hr {T : PTables} (hr : ∀ s : Nat, T.canRecover[s]?.getD false = false)
    (e : Nat) (w : List Nat) (ps : PState) {top : Nat} {rest : List Nat}
    (hst : ps.states = top :: rest) : recover T e w ps = .ok (false, ps.next, ps) :=
  recover_none (topRecovery_of_hr hr _)
    (by rw [hst]; exact List.cons_ne_nil _ _)

theorem recover_log {T : PTables} {e : Nat} {w : List Nat} {ps ps' : PState} {b : Bool} {tok : Nat × Nat}
    (h : recover T e w ps = .ok (b, tok, ps')) : ps'.log = ps.log ∧ ps'.calls = ps.calls := by
  rcases recover_cases T e w ps with ⟨-, hrec⟩ | ⟨-, -, hrec⟩ | ⟨k, r, rest, -, -, -, hrec⟩ <;>
    rw [hrec] at h
  · cases h
  · cases h; exact ⟨rfl, rfl⟩
  · split at h <;> cases h <;> exact ⟨rfl, rfl⟩

theorem lookupAct_log (T : PTables) (e : Nat) (w : List Nat) (ps : PState) (top : Nat) :
    match lookupAct T e w ps top with
    | .ok (_, ps') => ps'.log = ps.log ∧ ps'.calls = ps.calls
    | .error (o, ps') => ps'.log = ps.log ∧ ps'.calls = ps.calls ∧
        ((∃ why, o = .panic why) ∨ ∃ i t ex s, o = .synErr i t ex s) := by
  unfold lookupAct
  rcases T.act top ps.next.2 with _ | a
  · simp only []
    rcases hrec : recover T e w ps with why | ⟨_ | _, tok, ps'⟩
    · simp
    · have := recover_log hrec
      simp only []
      rcases ps'.states with _ | ⟨t', _⟩ <;> simp [this]
    · have := recover_log hrec
      simp only []
      rcases ps'.states with _ | ⟨t', _⟩
      · simp [this]
      · simp only []
        rcases T.act t' ps'.next.2 with _ | a <;> simp [this]
  · simp

section
variable {cfg : PCfg} {w : List Nat} {ps ps1 : PState} {top : Nat} {rest : List Nat}

theorem step_nil (hst : ps.states = []) : step cfg w ps = .done (.panic "empty stack") ps := by
  unfold step; rw [hst]

theorem step_range (hst : ps.states = top :: rest) (h : cfg.T.numSymbols ≤ ps.next.2) :
    step cfg w ps = .done (.panic "index out of range (token type)") ps := by
  unfold step; rw [hst]; exact if_pos h

theorem step_cons (hst : ps.states = top :: rest) (hlt : ps.next.2 < cfg.T.numSymbols) :
    step cfg w ps = match lookupAct cfg.T cfg.errTerm w ps top with
      | .error o => .done o.1 o.2
      | .ok (a, ps) => doAct cfg w a ps := by
  unfold step; rw [hst]; exact if_neg (Nat.not_le_of_lt hlt)

theorem step_act {a : Act} (hst : ps.states = top :: rest) (ha : cfg.T.act top ps.next.2 = some a)
    (hlt : ps.next.2 < cfg.T.numSymbols) : step cfg w ps = doAct cfg w a ps := by
  simp only [step_cons hst hlt, lookupAct, ha]

theorem step_noact (hr : ∀ s : Nat, cfg.T.canRecover[s]?.getD false = false) (w : List Nat)
    (hst : ps.states = top :: rest) (hlt : ps.next.2 < cfg.T.numSymbols)
    (ha : cfg.T.act top ps.next.2 = none) :
    step cfg w ps = .done (.synErr ps.next.1 ps.next.2 (cfg.T.rowExpected top) top) ps := by
  simp only [step_cons hst hlt, lookupAct, ha, recover_hr hr _ w ps hst, hst]

theorem step_cases (hr : ∀ s : Nat, cfg.T.canRecover[s]?.getD false = false)
    (hst : ps.states = top :: rest) :
    (cfg.T.numSymbols ≤ ps.next.2 ∧
      step cfg w ps = .done (.panic "index out of range (token type)") ps) ∨
    ps.next.2 < cfg.T.numSymbols ∧
      ((cfg.T.act top ps.next.2 = none ∧
          step cfg w ps = .done (.synErr ps.next.1 ps.next.2 (cfg.T.rowExpected top) top) ps) ∨
        ∃ a, cfg.T.act top ps.next.2 = some a ∧ step cfg w ps = doAct cfg w a ps) := by
  by_cases hn : cfg.T.numSymbols ≤ ps.next.2
  · exact .inl ⟨hn, step_range hst hn⟩
  · have hlt := Nat.lt_of_not_le hn
    refine .inr ⟨hlt, ?_⟩
    rcases ha : cfg.T.act top ps.next.2 with _ | a
    · exact .inl ⟨rfl, step_noact hr w hst hlt ha⟩
    · exact .inr ⟨a, rfl, step_act hst ha hlt⟩

theorem step_cont_inv (hr : ∀ s : Nat, cfg.T.canRecover[s]?.getD false = false)
    (h : step cfg w ps = .cont ps1) :
    ∃ top rest a, ps.states = top :: rest ∧ ps.next.2 < cfg.T.numSymbols ∧
      cfg.T.act top ps.next.2 = some a ∧ doAct cfg w a ps = .cont ps1 := by
  rcases hst : ps.states with _ | ⟨top, rest⟩
  · rw [step_nil hst] at h; cases h
  · rcases step_cases hr hst with ⟨-, e⟩ | ⟨hlt, ⟨-, e⟩ | ⟨a, ha, e⟩⟩ <;> rw [e] at h
    · cases h
    · cases h
    · exact ⟨top, rest, a, rfl, hlt, ha, h⟩

theorem step_noact_done (hr : ∀ s : Nat, cfg.T.canRecover[s]?.getD false = false)
    (w : List Nat) (hst : ps.states = top :: rest) (ha : cfg.T.act top ps.next.2 = none) :
    ∃ o ps', step cfg w ps = .done o ps' ∧ ∀ r, o ≠ .accept r := by
  rcases step_cases hr hst with ⟨-, e⟩ | ⟨-, ⟨-, e⟩ | ⟨a, ha', -⟩⟩
  · exact ⟨_, _, e, fun r h => by cases h⟩
  · exact ⟨_, _, e, fun r h => by cases h⟩
  · rw [ha] at ha'; cases ha'

end

section
variable {cfg : PCfg} {w : List Nat} {ps ps1 : PState} {p : Nat}

theorem doAct_accept_ne_cont : doAct cfg w .accept ps ≠ .cont ps1 := by
  simp only [doAct]; split <;> exact StepR.noConfusion

theorem doAct_reduce_eq_cont : doAct cfg w (.reduce p) ps = .cont ps1 ↔
    ∃ b ps2 t' rest' g, cfg.T.prodLen[p]?.getD 0 ≤ ps.states.length ∧
      reduceRes cfg p (ps.attrs.take (cfg.T.prodLen[p]?.getD 0)).reverse ps = .ok (b, ps2) ∧
      ps.states.drop (cfg.T.prodLen[p]?.getD 0) = t' :: rest' ∧
      (cfg.T.goto_[t']?).bind (·[cfg.T.prodNT[p]?.getD 0]?) = some g ∧ 0 ≤ g ∧
      ps1 = { ps2 with states := g.toNat :: t' :: rest',
                       attrs := b :: ps.attrs.drop (cfg.T.prodLen[p]?.getD 0) } := by
  simp only [doAct]
  constructor
  · intro h
    split at h
    · cases h
    · rename_i hn
      rcases hres : reduceRes cfg p (List.take (cfg.T.prodLen[p]?.getD 0) ps.attrs).reverse ps with
        (_ | why) | ⟨b, ps2⟩
      · rw [hres] at h; simp only [] at h; split at h <;> cases h
      · rw [hres] at h; cases h
      · rw [hres] at h
        simp only [] at h
        rcases hd : List.drop (cfg.T.prodLen[p]?.getD 0) ps.states with _ | ⟨t', rest'⟩
        · rw [hd] at h; cases h
        · rw [hd] at h
          simp only [] at h
          split at h
          · cases h
          · rename_i hg
            rcases hgo : (cfg.T.goto_[t']?).bind (·[cfg.T.prodNT[p]?.getD 0]?) with _ | g
            · rw [hgo] at hg; exact absurd (by decide) hg
            · rw [hgo] at hg h
              cases h
              exact ⟨b, ps2, t', rest', g, by omega, rfl, rfl, hgo, by simpa using hg, rfl⟩
  · rintro ⟨b, ps2, t', rest', g, hn, hres, hd, hgo, hg, rfl⟩
    rw [if_neg (by omega), hres, hd]
    simp only [hgo, Option.getD_some]
    rw [if_neg (by omega)]

theorem doAct_eq_done {a : Act} {o : Outcome} {ps' : PState} (h : doAct cfg w a ps = .done o ps') :
    (∃ r rest, a = .accept ∧ ps.attrs = r :: rest ∧ o = .accept r ∧
      ps' = { ps with states := ps.states.drop 1, attrs := rest }) ∨
    (∃ why, o = .panic why ∧ ps' = ps ∧
      (why = "empty stack" ∨ why = "slice bounds out of range" ∨
        ∃ p X, reduceRes cfg p X ps = .error (some why))) ∨
    (∃ p shape id, a = .reduce p ∧ cfg.T.prodKind[p]?.getD .dflt = .user shape id ∧
      cfg.failAt ≠ 0 ∧ ps.calls + 1 = cfg.failAt ∧ ps'.log = id :: ps.log ∧
      ps'.calls = ps.calls + 1 ∧ (o = .panic "empty stack" ∨ ∃ i t e s, o = .actErr id i t e s)) ∨
    (∃ p X b, a = .reduce p ∧ reduceRes cfg p X ps = .ok (b, ps') ∧
      (o = .panic "empty stack" ∨ o = .panic "index out of range [-1]")) := by
  cases a with
  | accept =>
    simp only [doAct] at h
    split at h <;> cases h
    · exact .inl ⟨_, _, rfl, by assumption, rfl, rfl⟩
    · exact .inr (.inl ⟨_, rfl, rfl, .inl rfl⟩)
  | shift s => cases h
  | reduce p =>
    simp only [doAct] at h
    split at h
    · cases h; exact .inr (.inl ⟨_, rfl, rfl, .inr (.inl rfl)⟩)
    · rcases hres : reduceRes cfg p (List.take (cfg.T.prodLen[p]?.getD 0) ps.attrs).reverse ps with
        (_ | why) | ⟨b, ps2⟩ <;> rw [hres] at h <;> simp only [] at h
      · obtain ⟨shape, id, hk, hf0, hf⟩ := reduceRes_eq_error_none.1 hres
        simp only [hk] at h
        refine .inr (.inr (.inl ⟨p, shape, id, rfl, hk, hf0, hf, ?_⟩))
        split at h <;> cases h
        · exact ⟨rfl, rfl, .inr ⟨_, _, _, _, rfl⟩⟩
        · exact ⟨rfl, rfl, .inl rfl⟩
      · cases h; exact .inr (.inl ⟨_, rfl, rfl, .inr (.inr ⟨_, _, hres⟩)⟩)
      · split at h
        · split at h <;> cases h
          exact .inr (.inr (.inr ⟨p, _, b, rfl, hres, .inr rfl⟩))
        · cases h; exact .inr (.inr (.inr ⟨p, _, b, rfl, hres, .inl rfl⟩))

theorem doAct_not_synErr (cfg : PCfg) (w : List Nat) (a : Act) (ps : PState) :
    ∀ i t e s ps', doAct cfg w a ps ≠ .done (.synErr i t e s) ps' := by
  intro i t e s ps' h
  rcases doAct_eq_done h with ⟨_, _, -, -, h, -⟩ | ⟨_, h, -⟩ |
    ⟨_, _, _, -, -, -, -, -, -, h | ⟨_, _, _, _, h⟩⟩ | ⟨_, _, _, -, -, h | h⟩ <;> cases h

theorem doAct_reduce_inv (h : doAct cfg w (.reduce p) ps = .cont ps1) :
    cfg.T.prodLen[p]?.getD 0 ≤ ps.states.length ∧ ∃ (t' : Nat) (rest' : List Nat) (g : Int),
      ps.states.drop (cfg.T.prodLen[p]?.getD 0) = t' :: rest' ∧
      (cfg.T.goto_[t']?).bind (·[cfg.T.prodNT[p]?.getD 0]?) = some g ∧ 0 ≤ g ∧
      ps1.states = g.toNat :: t' :: rest' ∧ ps1.next = ps.next ∧ ps1.ntok = ps.ntok := by
  obtain ⟨b, ps2, t', rest', g, hn, hres, hd, hgo, hg, rfl⟩ := doAct_reduce_eq_cont.1 h
  obtain ⟨-, -, f3, f4⟩ := reduceRes_frame hres
  exact ⟨hn, t', rest', g, hd, hgo, hg, rfl, f3, f4⟩

theorem step_ne_oof {o : Outcome} {ps' : PState} (h : step cfg w ps = .done o ps') :
    o ≠ .outOfFuel := by
  rintro rfl
  rcases hst : ps.states with _ | ⟨top, rest⟩
  · rw [step_nil hst] at h; cases h
  · by_cases hlt : ps.next.2 < cfg.T.numSymbols
    · rw [step_cons hst hlt] at h
      rcases hl : lookupAct cfg.T cfg.errTerm w ps top with ⟨o, ps1⟩ | ⟨a, ps1⟩ <;> rw [hl] at h
      · cases h
        have := lookupAct_log cfg.T cfg.errTerm w ps top
        rw [hl] at this
        rcases this.2.2 with ⟨_, h⟩ | ⟨_, _, _, _, h⟩ <;> cases h
      · rcases doAct_eq_done h with ⟨_, _, -, -, h, -⟩ | ⟨_, h, -⟩ |
          ⟨_, _, _, -, -, -, -, -, -, h | ⟨_, _, _, _, h⟩⟩ | ⟨_, _, _, -, -, h | h⟩ <;> cases h
    · rw [step_range hst (Nat.le_of_not_lt hlt)] at h; cases h

end

/-- `Steps cfg w ps ps'`: finitely many iterations of the `Parse` loop lead from `ps` to `ps'` -/
inductive Steps (cfg : PCfg) (w : List Nat) : PState → PState → Prop
  | refl (ps : PState) : Steps cfg w ps ps
  | head {ps ps1 ps2 : PState} : step cfg w ps = .cont ps1 → Steps cfg w ps1 ps2 → Steps cfg w ps ps2

theorem Steps.trans {cfg : PCfg} {w : List Nat} {a b c : PState} (h1 : Steps cfg w a b)
    (h2 : Steps cfg w b c) : Steps cfg w a c := by
  induction h1 with
  | refl => exact h2
  | head hs _ ih => exact .head hs (ih h2)

theorem Steps.single {cfg : PCfg} {w : List Nat} {a b : PState} (h : step cfg w a = .cont b) :
    Steps cfg w a b := .head h (.refl b)

theorem Steps.snoc_inv {cfg : PCfg} {w : List Nat} {a b : PState} (h : Steps cfg w a b) :
    a = b ∨ ∃ c, Steps cfg w a c ∧ step cfg w c = .cont b := by
  induction h with
  | refl => exact .inl rfl
  | @head ps ps1 ps2 hs _ ih =>
    right
    rcases ih with rfl | ⟨c, h1, h2⟩
    · exact ⟨ps, .refl _, hs⟩
    · exact ⟨c, .head hs h1, h2⟩

theorem Steps.inv {cfg : PCfg} {w : List Nat} {I : PState → Prop}
    (hI : ∀ a b, I a → step cfg w a = .cont b → I b) {a b : PState} (h : Steps cfg w a b) :
    I a → I b := by
  induction h with
  | refl => exact id
  | head hs _ ih => exact fun ha => ih (hI _ _ ha hs)

theorem Steps.parseLoop {cfg : PCfg} {w : List Nat} {a b : PState} (h : Steps cfg w a b) :
    ∃ n, ∀ fuel, parseLoop cfg w (n + fuel) a = parseLoop cfg w fuel b := by
  induction h with
  | refl => exact ⟨0, fun fuel => by rw [Nat.zero_add]⟩
  | @head ps ps1 ps2 hs _ ih =>
    obtain ⟨n, hn⟩ := ih
    refine ⟨n + 1, fun fuel => ?_⟩
    rw [show n + 1 + fuel = (n + fuel) + 1 by omega, parseLoop_succ, hs]
    exact hn fuel

theorem steps_done {cfg : PCfg} {w : List Nat} {a b : PState} {o : Outcome} {ps' : PState}
    (h : Steps cfg w a b) (hd : step cfg w b = .done o ps') :
    ∃ n, ∀ fuel, n ≤ fuel → parseLoop cfg w fuel a = (o, ps') := by
  obtain ⟨n, hn⟩ := h.parseLoop
  refine ⟨n + 1, fun fuel hle => ?_⟩
  obtain ⟨k, rfl⟩ : ∃ k, fuel = n + (k + 1) := ⟨fuel - n - 1, by omega⟩
  rw [hn, parseLoop_succ, hd]
  rfl

theorem parseLoop_done {cfg : PCfg} {w : List Nat} : ∀ (fuel : Nat) (ps : PState),
    (parseLoop cfg w fuel ps).1 ≠ .outOfFuel →
    ∃ b o ps', Steps cfg w ps b ∧ step cfg w b = .done o ps' ∧
      parseLoop cfg w fuel ps = (o, ps') := by
  intro fuel
  induction fuel with
  | zero => intro ps h; exact absurd rfl h
  | succ fuel ih =>
    intro ps h
    rw [parseLoop_succ] at h ⊢
    rcases hs : step cfg w ps with ⟨o, ps1⟩ | ps1
    · exact ⟨ps, o, ps1, .refl _, hs, rfl⟩
    · rw [hs] at h
      obtain ⟨b, o, ps', h1, h2, h3⟩ := ih ps1 h
      exact ⟨b, o, ps', .head hs h1, h2, h3⟩

theorem parseLoop_synErr {cfg : PCfg} (hr : ∀ s : Nat, cfg.T.canRecover[s]?.getD false = false)
    (w : List Nat) (fuel : Nat) (ps0 : PState) {i typ : Nat} {exp : List Nat} {top : Nat}
    {ps' : PState} (h : parseLoop cfg w fuel ps0 = (.synErr i typ exp top, ps')) :
    ∃ rest, Steps cfg w ps0 ps' ∧ ps'.states = top :: rest ∧ cfg.T.act top ps'.next.2 = none ∧
      ps'.next = (i, typ) ∧ exp = cfg.T.rowExpected top ∧ typ < cfg.T.numSymbols := by
  obtain ⟨b, o, ps1, hrun, hd, he⟩ := parseLoop_done fuel ps0 (by rw [h]; exact Outcome.noConfusion)
  cases h.symm.trans he
  rcases hst : b.states with _ | ⟨top0, rest⟩
  · rw [step_nil hst] at hd; cases hd
  · rcases step_cases hr hst with ⟨-, e⟩ | ⟨hlt, ⟨ha, e⟩ | ⟨a, -, e⟩⟩ <;> rw [e] at hd
    · cases hd
    · cases hd; exact ⟨rest, hrun, hst, ha, rfl, rfl, hlt⟩
    · exact absurd hd (doAct_not_synErr cfg w _ b _ _ _ _ _)

theorem parseLoop_fuel_mono {cfg : PCfg} {w : List Nat} : ∀ {fuel : Nat} {ps : PState},
    (parseLoop cfg w fuel ps).1 ≠ .outOfFuel → ∀ k : Nat,
    parseLoop cfg w (fuel + k) ps = parseLoop cfg w fuel ps := by
  intro fuel
  induction fuel with
  | zero => intro ps h; exact absurd rfl h
  | succ fuel ih =>
    intro ps h k
    rw [show fuel + 1 + k = (fuel + k) + 1 by omega, parseLoop_succ, parseLoop_succ]
    rw [parseLoop_succ] at h
    rcases hs : step cfg w ps with ⟨o, ps1⟩ | ps1
    · rfl
    · rw [hs] at h
      exact ih h k

theorem parseLoop_det {cfg : PCfg} {w : List Nat} {f1 f2 : Nat} {ps : PState}
    (h1 : (parseLoop cfg w f1 ps).1 ≠ .outOfFuel) (h2 : (parseLoop cfg w f2 ps).1 ≠ .outOfFuel) :
    parseLoop cfg w f1 ps = parseLoop cfg w f2 ps := by
  rw [← parseLoop_fuel_mono h1 f2, ← parseLoop_fuel_mono h2 f1, Nat.add_comm]

/-- `I` after an iteration that continues, `Q` on the answer of one that ends the parse -/
def StepR.Post (I : PState → Prop) (Q : Outcome → PState → Prop) : StepR → Prop
  | .cont ps => I ps
  | .done o ps => Q o ps

theorem parseLoop_post {cfg : PCfg} {w : List Nat} {I : PState → Prop}
    {Q : Outcome → PState → Prop} (hs : ∀ ps, I ps → (step cfg w ps).Post I Q)
    (h0 : ∀ ps, I ps → Q .outOfFuel ps) : ∀ (fuel : Nat) (ps : PState), I ps →
    Q (parseLoop cfg w fuel ps).1 (parseLoop cfg w fuel ps).2 := by
  intro fuel
  induction fuel with
  | zero => exact h0
  | succ fuel ih =>
    intro ps hI
    rw [parseLoop_succ]
    have := hs ps hI
    rcases hst : step cfg w ps with ⟨o, ps1⟩ | ps1 <;> rw [hst] at this
    · exact this
    · exact ih ps1 this

theorem step_cont_cases {cfg : PCfg} (hr : ∀ s : Nat, cfg.T.canRecover[s]?.getD false = false)
    {w : List Nat} {ps ps1 : PState} (h : step cfg w ps = .cont ps1) :
    (ps1.ntok = ps.ntok ∧ ∀ w', step cfg w' ps = .cont ps1) ∨
    (ps1.ntok = ps.ntok + 1 ∧
      ∀ w', step cfg w' ps = .cont { ps1 with next := scanTok w' ps.ntok }) := by
  obtain ⟨top, rest, a, hst, hlt, ha, hdo⟩ := step_cont_inv hr h
  cases a with
  | accept => exact absurd hdo doAct_accept_ne_cont
  | shift s => cases hdo; exact .inr ⟨rfl, fun w' => step_act hst ha hlt⟩
  | reduce p =>
    obtain ⟨-, _, _, _, -, -, -, -, -, e⟩ := doAct_reduce_inv hdo
    exact .inl ⟨e, fun w' => (step_act hst ha hlt).trans hdo⟩

theorem step_agree {cfg : PCfg} (hr : ∀ s : Nat, cfg.T.canRecover[s]?.getD false = false)
    {w w' : List Nat} {ps ps1 : PState} (h : step cfg w ps = .cont ps1)
    (hag : ps1.ntok = ps.ntok + 1 → scanTok w ps.ntok = scanTok w' ps.ntok) :
    step cfg w' ps = .cont ps1 := by
  rcases step_cont_cases hr h with ⟨-, h'⟩ | ⟨e, h'⟩
  · exact h' w'
  · rw [h' w', ← hag e, ← h' w, h]

theorem step_ntok {cfg : PCfg} (hr : ∀ s : Nat, cfg.T.canRecover[s]?.getD false = false)
    {w : List Nat} {ps ps1 : PState} (h : step cfg w ps = .cont ps1) :
    ps.ntok ≤ ps1.ntok ∧ ps1.ntok ≤ ps.ntok + 1 := by
  rcases step_cont_cases hr h with ⟨e, -⟩ | ⟨e, -⟩ <;> omega

theorem Steps.ntok_le {cfg : PCfg} (hr : ∀ s : Nat, cfg.T.canRecover[s]?.getD false = false)
    {w : List Nat} {a b : PState} (h : Steps cfg w a b) : a.ntok ≤ b.ntok :=
  h.inv (I := fun x => a.ntok ≤ x.ntok) (fun _ _ hI hs => Nat.le_trans hI (step_ntok hr hs).1)
    (Nat.le_refl _)

/-- a run depends only on the tokens it has scanned -/
theorem Steps.agree {cfg : PCfg} (hr : ∀ s : Nat, cfg.T.canRecover[s]?.getD false = false)
    {w w' : List Nat} {a b : PState} (h : Steps cfg w a b) :
    (∀ j, a.ntok ≤ j → j < b.ntok → scanTok w j = scanTok w' j) → Steps cfg w' a b := by
  induction h with
  | refl => intro _; exact .refl _
  | @head ps ps1 ps2 hs hrest ih =>
    intro hag
    have h1 := step_ntok hr hs
    have h2 := hrest.ntok_le hr
    have hs' := step_agree hr hs fun hc => hag _ (Nat.le_refl _) (by omega)
    exact .head hs' (ih fun j hj1 hj2 => hag j (by omega) hj2)

theorem Steps.transfer {cfg : PCfg} (hr : ∀ s : Nat, cfg.T.canRecover[s]?.getD false = false)
    {u w : List Nat} {b : PState} (h : Steps cfg u (initPS u) b)
    (hag : ∀ j, j < b.ntok → scanTok u j = scanTok w j) : Steps cfg w (initPS w) b := by
  have h1 : 1 ≤ b.ntok := h.ntok_le hr
  have hinit : initPS u = initPS w := by
    unfold initPS
    rw [hag 0 h1]
  rw [← hinit]
  exact h.agree hr fun j _ hj => hag j hj

end Gocc
