import Gocc.Proofs.ParseTermRV
/-
Termination of `Parse` WITH error recovery.

Invariant of the real run (`RInv`): the stack is a path of the automaton, the attribute stack is
as high, the look-ahead is the last token scanned and scanning stopped at end of input; preserved
by iterations without recovery and by `Error`.

Lock-step: the control flow of the parser without recovery (whose semantic actions never fail)
depends only on the stack of states, the TYPE of the look-ahead and the types of the tokens still
to come.  Two configurations with the same stack and the same token types ahead — on different
inputs, with different attributes, token indices, call logs — make the same moves, stop together,
hence run in lock-step to the end (`sim_run`).

A PHASE — the run of the parser without recovery from a configuration whose top state has an
action on the look-ahead — ends, and if it ends in a failed action lookup at least one token has
been scanned since its start (`phase`).  Proof: the stack is reached by the parser without
recovery on a virtual input `u0` (`VStk.rv`); on `u0 ++ rest of the real input` the parser without
recovery terminates (`parseLoop_terminates`), and the real phase runs in lock-step with it; the
first token of the phase has an action, so `u0` followed by it is a viable prefix, and the failed
lookup comes later (`stuck_ext`).

After a failed lookup `Error` gives up (Parse returns) or resumes in a configuration whose top
state has an action on the look-ahead — the next phase.  The number of tokens scanned grows from
phase to phase and is bounded by `|w| + 1` (`rec_from`).

No hypothesis about `canRecover` or `errTerm` is needed (not even `RecWF`): whatever states are
flagged, and whatever terminal is shifted by `Error`, the new stack is a path of the automaton.
-/
namespace Gocc.ParseTerm
open Gocc

def RInv (T : PTables) (w : List Nat) (ps : PState) : Prop :=
  (∃ γ, VStk T ps.states γ) ∧ ps.attrs.length = ps.states.length ∧ RecScanInv w ps

theorem doAct_cont_len {cfg : PCfg} {w : List Nat} {a : Act} {ps ps' : PState}
    (h : doAct cfg w a ps = .cont ps') (hl : ps.attrs.length = ps.states.length) :
    ps'.attrs.length = ps'.states.length := by
  cases a with
  | accept => exact absurd h doAct_accept_ne_cont
  | shift s => cases h; simp [hl]
  | reduce p =>
    obtain ⟨b, ps2, t', rest', g, -, -, hd, -, -, rfl⟩ := doAct_reduce_eq_cont.1 h
    have := congrArg List.length hd
    simp only [List.length_drop, List.length_cons] at this ⊢
    omega

theorem step_rinv {G : NGrammar} {cfg : PCfg} {c : CertLA} {fc : FirstCert}
    (VF : ValidFacts G cfg.T c fc) (hr : ∀ s : Nat, cfg.T.canRecover[s]?.getD false = false)
    {w : List Nat} {ps ps1 : PState}
    (hI : RInv cfg.T w ps) (hs : step cfg w ps = .cont ps1) : RInv cfg.T w ps1 := by
  obtain ⟨⟨γ, hS⟩, hl, hsc⟩ := hI
  obtain ⟨top, rest, a, hst, hlt, ha, hdo⟩ := step_cont_inv hr hs
  refine ⟨?_, doAct_cont_len hdo hl, ?_⟩
  · cases a with
    | accept => exact absurd hdo doAct_accept_ne_cont
    | shift s =>
      cases hdo
      rw [hst] at hS
      exact ⟨_, by simp only [hst]; exact .push (X := Sym.t ps.next.2) hS ha⟩
    | reduce p =>
      obtain ⟨-, t', rest', g, hd, hg, hg0, hs1, -⟩ := doAct_reduce_inv hdo
      exact ⟨_, by
        rw [hs1]
        exact hS.pop_push hd (X := Sym.nt (cfg.T.prodNT[p]?.getD 0)) ⟨g, hg, hg0, rfl⟩⟩
  · have := step_scanInv (cfg := cfg) (fun _ _ ha => shift_ne_eof VF ha rfl) w hsc
    rw [hs] at this
    exact this

/-- `Error` recovered: the new stack is a prefix of the old one plus the state entered on the
    error terminal — a path of the automaton again -/
theorem recover_rinv {T : PTables} {e : Nat} {w : List Nat} {ps ps1 : PState} {tok : Nat × Nat}
    (h : recover T e w ps = .ok (true, tok, ps1)) (hI : RInv T.noRecovery w ps) :
    RInv T.noRecovery w ps1 ∧ ps.ntok ≤ ps1.ntok ∧
      ∃ top rest a, ps1.states = top :: rest ∧ T.act top ps1.next.2 = some a := by
  obtain ⟨⟨γ, hS⟩, hl, hsc⟩ := hI
  obtain ⟨k, r, rest, s', j, -, hd, hact, hst1, hat1, -, hnt1, hsome, -, -, -⟩ := recover_true h
  refine ⟨⟨⟨_, by rw [hst1]; exact hS.pop_push hd (X := Sym.t e) hact⟩, ?_, recover_scanInv h hsc⟩,
    by omega, ?_⟩
  · have hdl := congrArg List.length hd
    rw [hat1, hst1]
    simp only [List.length_cons, List.length_drop] at hdl ⊢
    omega
  · obtain ⟨a, ha⟩ := Option.isSome_iff_exists.1 hsome
    exact ⟨s', r :: rest, a, hst1, ha⟩

/-- same stack of states, same token types from the look-ahead on; both attribute stacks are as
    high as the state stacks -/
structure Sim (w wv : List Nat) (ps pv : PState) : Prop where
  st : ps.states = pv.states
  ty : ps.next.2 = pv.next.2
  la : ps.attrs.length = ps.states.length
  lv : pv.attrs.length = pv.states.length
  str : ∀ k, (scanTok w (ps.ntok + k)).2 = (scanTok wv (pv.ntok + k)).2

/-- a reduce move that succeeds on one stack of states succeeds on every configuration with the
    same stack (the semantic actions never fail) -/
theorem doAct_reduce_sim {cfg : PCfg} (hA : ActsOk cfg) {p n A : Nat}
    (hn : cfg.T.prodLen[p]? = some n) (hnt : cfg.T.prodNT[p]? = some A) {w wv : List Nat}
    {ps pv pv1 : PState} (hst : ps.states = pv.states) (hla : ps.attrs.length = ps.states.length)
    (hlv : pv.attrs.length = pv.states.length)
    (h : doAct cfg wv (.reduce p) pv = .cont pv1) :
    ∃ ps1, doAct cfg w (.reduce p) ps = .cont ps1 ∧ ps1.states = pv1.states ∧
      ps1.attrs.length = ps1.states.length ∧ pv1.attrs.length = pv1.states.length ∧
      ps1.next = ps.next ∧ ps1.ntok = ps.ntok ∧ pv1.next = pv.next ∧ pv1.ntok = pv.ntok := by
  obtain ⟨hle, t', rest', g, hd, hg, hg0, hs1, hnx1, hnt1⟩ := doAct_reduce_inv h
  simp only [hn, hnt, Option.getD_some] at hd hg hle
  obtain ⟨ps1, e1, e2, e3, e4, e5⟩ := doAct_reduce hA w hn hnt (ps := ps) (ss := pv.states.take n)
    (by rw [hst, ← hd, List.take_append_drop]) (by rw [List.length_take]; omega) hla hg hg0
  exact ⟨ps1, e1, e2.trans hs1.symm, e3, doAct_cont_len h hlv, e4, e5, hnx1, hnt1⟩

section
variable {G : NGrammar} {cfg : PCfg} {fc fcv : FirstCert} {c : CertLA}
  (VF : ValidFacts G cfg.T c fcv) (F : CompleteFacts G cfg.T fc c)
  (hr : ∀ s : Nat, cfg.T.canRecover[s]?.getD false = false) (hA : ActsOk cfg)
  {w wv : List Nat} {ps pv : PState}
include VF F

theorem reduce_tables {top p : Nat} {rest : List Nat} {γ : List Sym}
    (hS : VStk cfg.T (top :: rest) γ) {t : Nat} (ha : cfg.T.act top t = some (.reduce p)) :
    cfg.T.prodLen[p]? = some (G.body p).length ∧ cfg.T.prodNT[p]? = some (G.head p) := by
  have hp : p < G.prods.size := (hS.valid VF p _ _ (by simpa using VF.reduceJ top _ p ha)).1
  exact ⟨F.prodLen p hp, F.prodNT p hp⟩

include hr hA

theorem step_sim_cont {pv1 : PState} {γ : List Sym} (hS : VStk cfg.T pv.states γ)
    (h : Sim w wv ps pv) (hs : step cfg wv pv = .cont pv1) :
    ∃ ps1, step cfg w ps = .cont ps1 ∧ Sim w wv ps1 pv1 ∧
      ps1.ntok + pv.ntok = pv1.ntok + ps.ntok := by
  obtain ⟨top, rest, a, hst, hlt, ha, hdo⟩ := step_cont_inv hr hs
  have hstep : step cfg w ps = doAct cfg w a ps :=
    step_act (by rw [h.st, hst]) (by rw [h.ty]; exact ha) (by rw [h.ty]; exact hlt)
  cases a with
  | accept => exact absurd hdo doAct_accept_ne_cont
  | shift s =>
    cases hdo
    refine ⟨_, hstep, ⟨congrArg (s :: ·) h.st, h.str 0, congrArg (· + 1) h.la,
      congrArg (· + 1) h.lv, fun k => ?_⟩, by simp only; omega⟩
    rw [Nat.add_right_comm, Nat.add_right_comm pv.ntok]
    exact h.str (k + 1)
  | reduce p =>
    obtain ⟨hn, hnt⟩ := reduce_tables VF F (hst ▸ hS) ha
    obtain ⟨ps1, e1, e2, e3, e4, e5, e6, e7, e8⟩ := doAct_reduce_sim hA hn hnt h.st h.la h.lv hdo
    exact ⟨ps1, by rw [hstep, e1],
      ⟨e2, by rw [e5, e7]; exact h.ty, e3, e4, fun k => by rw [e6, e8]; exact h.str k⟩, by omega⟩

theorem step_sim_done {pv' : PState} {ov : Outcome} {γ : List Sym} (hS : VStk cfg.T pv.states γ)
    (h : Sim w wv ps pv) (hs : step cfg wv pv = .done ov pv') :
    ∃ o ps', step cfg w ps = .done o ps' ∧
      ((∃ i t e s, o = Outcome.synErr i t e s) →
        ∃ top rest, pv.states = top :: rest ∧ cfg.T.act top pv.next.2 = none) := by
  obtain ⟨top, rest, hst⟩ := VStk.ne_nil hS
  have hst' : ps.states = top :: rest := by rw [h.st, hst]
  rcases step_cases hr hst with ⟨hn, -⟩ | ⟨hlt, ⟨ha, -⟩ | ⟨a, ha, e⟩⟩
  · exact ⟨_, ps, step_range hst' (by rw [h.ty]; exact hn), by rintro ⟨i, t, e, s, h'⟩; cases h'⟩
  · exact ⟨_, _, step_noact hr w hst' (by rw [h.ty]; exact hlt) (by rw [h.ty]; exact ha),
      fun _ => ⟨top, rest, hst, ha⟩⟩
  · have hstep : step cfg w ps = doAct cfg w a ps :=
      step_act hst' (by rw [h.ty]; exact ha) (by rw [h.ty]; exact hlt)
    rw [e] at hs
    rcases hd : doAct cfg w a ps with ⟨o, ps'⟩ | ps1
    · refine ⟨o, ps', by rw [hstep, hd], ?_⟩
      rintro ⟨i, t, e, s, rfl⟩
      exact absurd hd (doAct_not_synErr cfg w a ps _ _ _ _ _)
    · exfalso
      cases a with
      | accept => exact absurd hd doAct_accept_ne_cont
      | shift s => cases hs
      | reduce p =>
        obtain ⟨hn, hnt⟩ := reduce_tables VF F (hst ▸ hS) ha
        obtain ⟨pv1, c1, -⟩ := doAct_reduce_sim (w := wv) hA hn hnt h.st.symm h.lv h.la hd
        rw [c1] at hs
        cases hs

/-- lock-step to the end: the run from `pv` on `wv` ends, so does the run from `ps` on `w`; when
    the latter ends in a syntax error the former is stuck as well -/
theorem sim_run {ov : Outcome} {pv' : PState} (hsim : Sim w wv ps pv)
    (hrun : Steps cfg wv (initPS wv) pv) (hH : HaltsWith cfg wv pv ov pv') :
    ∃ b bv o ps', Steps cfg w ps b ∧ Steps cfg wv pv bv ∧ Sim w wv b bv ∧
      b.ntok + pv.ntok = bv.ntok + ps.ntok ∧ step cfg w b = .done o ps' ∧
      ((∃ i t e s, o = Outcome.synErr i t e s) →
        ∃ top rest, bv.states = top :: rest ∧ cfg.T.act top bv.next.2 = none) := by
  obtain ⟨bv, hsteps, hd⟩ := hH
  induction hsteps generalizing ps with
  | refl pv =>
    obtain ⟨γ, m, hS, -⟩ := hrun.vinv VF F hr (vinv_init VF wv)
    obtain ⟨o, ps', h1, h2⟩ := step_sim_done VF F hr hA hS hsim hd
    exact ⟨ps, pv, o, ps', .refl _, .refl _, hsim, Nat.add_comm _ _, h1, h2⟩
  | @head pv pv1 bv hs _ ih =>
    obtain ⟨γ, m, hS, -⟩ := hrun.vinv VF F hr (vinv_init VF wv)
    obtain ⟨ps1, h1, h2, h3⟩ := step_sim_cont VF F hr hA hS hsim hs
    obtain ⟨b, bv', o, ps', q1, q2, q3, q4, q5, q6⟩ := ih h2 (hrun.trans (.single hs)) hd
    exact ⟨b, bv', o, ps', .head h1 q1, .head hs q2, q3, by omega, q5, q6⟩

end

theorem scanTok_append_right (u x : List Nat) (k : Nat) :
    (scanTok (u ++ x) (u.length + k)).2 = (scanTok x k).2 := by
  rw [scanTok_eq, scanTok_eq, List.getElem?_append_right (by omega), Nat.add_sub_cancel_left]

theorem scanTok_drop (w : List Nat) (n k : Nat) :
    (scanTok (w.drop n) k).2 = (scanTok w (n + k)).2 := by
  rw [scanTok_eq, scanTok_eq, List.getElem?_drop]

/-- an action of a state is justified by an item of the state: what the rest of the item's body,
    followed by a string beginning with the item's look-ahead, derives begins with the token of
    the action -/
theorem act_item {G : NGrammar} {T : PTables} {c : CertLA} {fc : FirstCert}
    (VF : ValidFacts G T c fc) {top t : Nat} {a0 : Act} (ha : T.act top t = some a0) :
    ∃ p d la, (p, d, la) ∈ c[top]?.getD [] ∧
      ∀ y2 z, NDerives G ((G.body p).drop d) y2 → z.head?.getD 1 = la →
        (y2 ++ z).head?.getD 1 = t := by
  cases a0 with
  | shift s' =>
    obtain ⟨p, d, la, hm, hX⟩ := VF.shiftJ top _ s' ha
    refine ⟨p, d, la, hm, fun y2 z hy2 _ => ?_⟩
    rw [drop_of_getElem? hX] at hy2
    obtain ⟨w', rfl, -⟩ := NDerives.t_inv hy2
    rfl
  | reduce p =>
    refine ⟨p, _, _, VF.reduceJ top _ p ha, fun y2 z hy2 hz => ?_⟩
    rw [List.drop_length] at hy2
    rw [hy2.nil_inv]
    exact hz
  | accept =>
    obtain ⟨h1, hm⟩ := VF.acceptJ top _ ha
    refine ⟨0, _, 1, hm, fun y2 z hy2 hz => ?_⟩
    rw [List.drop_length] at hy2
    rw [hy2.nil_inv, h1]
    exact hz

section
variable {G : NGrammar} {cfg : PCfg} {fc : FirstCert} {c : CertLA} {vc : VCert}
  (hf : firstOk G fc = true) (hc : complete G cfg.T fc c = true)
  (hv : validItems G cfg.T c vc = true)
  (hr : ∀ s : Nat, cfg.T.canRecover[s]?.getD false = false) (hA : ActsOk cfg)
include hf hc hv hr hA

/-- from a configuration with a valid stack whose top state has an action on the
    look-ahead, the parser without recovery ends; if it ends in a failed lookup, it has scanned at
    least one more token -/
theorem phase (w : List Nat) {cps : PState} (hI : RInv cfg.T w cps) {top : Nat}
    {rest : List Nat} {a0 : Act} (hst : cps.states = top :: rest)
    (ha : cfg.T.act top cps.next.2 = some a0) :
    ∃ b o ps', Steps cfg w cps b ∧ step cfg w b = .done o ps' ∧
      ((∃ i t e s, o = Outcome.synErr i t e s) → cps.ntok < b.ntok) := by
  have VF := validFacts_of hv
  have F := completeFacts_of hc
  obtain ⟨⟨γ, hS⟩, hat, hnx, hn1, hn2⟩ := hI
  obtain ⟨p, d, la, hm, hitem⟩ := act_item VF ha
  -- the stack is reached on a sentence `x0 y1 y2 z`
  obtain ⟨hp, δ, z, hγ, -, hz, ⟨x0, hx0⟩, hctx⟩ :=
    VStk.rv VF F hf hA hS p d la (by simpa [hst] using hm)
  obtain ⟨y1, hy1⟩ : ∃ y, NDerives G ((G.body p).take d) y :=
    productive_of_all fun X hXm => VF.prodB p hp X (List.mem_of_mem_take hXm)
  obtain ⟨y2, hy2⟩ : ∃ y, NDerives G ((G.body p).drop d) y :=
    productive_of_all fun X hXm => VF.prodB p hp X (List.mem_of_mem_drop hXm)
  obtain ⟨hsent, pv, hrunv, hstv, hntv, hnxv, hatv⟩ := hctx x0 y1 y2 hx0 hy1 hy2
  have htt := hitem y2 z hy2 hz
  have huv : x0 ++ y1 ++ y2 ++ z = (x0 ++ y1) ++ (y2 ++ z) := by simp
  rw [huv] at hsent hrunv hnxv
  generalize x0 ++ y1 = u0 at hsent hrunv hnxv hntv
  -- the virtual input: `u0`, then the real input from the look-ahead on
  have hty0 : (scanTok (u0 ++ w.drop (cps.ntok - 1)) u0.length).2 = cps.next.2 := by
    have := scanTok_append_right u0 (w.drop (cps.ntok - 1)) 0
    rw [Nat.add_zero] at this
    rw [this, scanTok_drop, Nat.add_zero, hnx]
  have hagree : ∀ j, j ≤ u0.length →
      scanTok (u0 ++ (y2 ++ z)) j = scanTok (u0 ++ w.drop (cps.ntok - 1)) j := fun j hj => by
    refine scanTok_congr (by rw [List.take_left, List.take_left]) ?_ hj
    rw [List.getElem?_append_right (Nat.le_refl _), List.getElem?_append_right (Nat.le_refl _),
      Nat.sub_self, ← List.head?_eq_getElem?, htt, List.getElem?_drop, Nat.add_zero, hnx,
      scanTok_eq]
  have hrunv' := hrunv.transfer hr fun j hj => hagree j (by omega)
  have hsim : Sim w (u0 ++ w.drop (cps.ntok - 1)) cps pv := by
    refine ⟨hstv.symm, ?_, hat, hatv, fun k => ?_⟩
    · rw [hnxv, hagree _ (Nat.le_refl _), hty0]
    · rw [hntv, show u0.length + 1 + k = u0.length + (1 + k) by omega, scanTok_append_right,
        scanTok_drop]
      congr 2
      omega
  -- the parser without recovery terminates on the virtual input
  obtain ⟨o, psf, hH, -⟩ := parseLoop_terminates hf hc hv hr hA (u0 ++ w.drop (cps.ntok - 1))
  obtain ⟨b, bv, o', ps', q1, q2, q3, q4, q5, q6⟩ :=
    sim_run VF F hr hA hsim hrunv' (hH.of_prefix hrunv')
  refine ⟨b, o', ps', q1, q5, fun hsyn => ?_⟩
  obtain ⟨topv, restv, hstb, hab⟩ := q6 hsyn
  have hrunb := hrunv'.trans q2
  obtain ⟨γb, m, -, -, hntb, hnxb, hleb, -⟩ := hrunb.vinv VF F hr (vinv_init VF _)
  have hmono := q2.ntok_le hr
  by_cases hm : m = u0.length
  · exfalso
    subst hm
    have hstuck := stuck_ext hf hc hr hA hrunb hstb hab hntb hnxb hleb (x := y2 ++ z)
      (by rw [hnxb, hty0]; exact htt)
    rw [List.take_left] at hstuck
    exact hstuck hsent
  · omega

end

theorem steps_of_noRecovery {cfg : PCfg} {w : List Nat} {a b : PState}
    (h : Steps cfg.noRecovery w a b) : Steps cfg w a b := by
  induction h with
  | refl => exact .refl _
  | @head ps ps1 ps2 hs _ ih =>
    rcases step_noRecovery cfg w ps with heq | ⟨_, _, -, -, hsyn⟩
    · exact .head (by rw [heq]; exact hs) ih
    · rw [hsyn] at hs; cases hs

/-- a phase and its end: the parser without recovery runs from `a` to `b` and stops there.  The
    real parser runs alike and stops there too, or `Error` resumes in a configuration `ps1` that
    starts the next phase; if the real parser terminates from every such `ps1`, it terminates
    from `a`. -/
theorem phase_end {G : NGrammar} {cfg : PCfg} {c : CertLA} {fc : FirstCert}
    (VF : ValidFacts G cfg.T.noRecovery c fc)
    (hactlt : ∀ s t a, cfg.T.act s t = some a → t < cfg.T.numSymbols)
    {w : List Nat} {a b : PState} {o : Outcome} {ps' : PState}
    (hI : RInv cfg.T.noRecovery w a) (h1 : Steps cfg.noRecovery w a b)
    (hd : step cfg.noRecovery w b = .done o ps')
    (hnext : ∀ ps1, RInv cfg.T.noRecovery w ps1 → b.ntok ≤ ps1.ntok →
      (∃ top rest a, ps1.states = top :: rest ∧ cfg.T.act top ps1.next.2 = some a) →
      (∃ i t e s, o = Outcome.synErr i t e s) → ∃ o1 ps1', HaltsWith cfg w ps1 o1 ps1') :
    ∃ o1 ps1', HaltsWith cfg w a o1 ps1' := by
  have hIb := h1.inv (fun _ _ => step_rinv (cfg := cfg.noRecovery) VF (noRecovery_hr cfg.T)) hI
  suffices ∃ o1 ps1', HaltsWith cfg w b o1 ps1' by
    obtain ⟨o1, ps1', hH⟩ := this
    exact ⟨o1, ps1', hH.of_steps (steps_of_noRecovery h1)⟩
  rcases step_noRecovery cfg w b with heq | ⟨top, rest, hst, hnone, hsyn⟩
  · exact ⟨_, _, b, .refl b, heq.trans hd⟩
  · rw [hsyn] at hd
    cases hd
    rcases step_decomp cfg w b with ⟨o2, ps2, hs2, -⟩ | ⟨a, ps1, top1, rest1, hs2, hst1, ha1, hor⟩
    · exact ⟨_, _, b, .refl b, hs2⟩
    · rcases hor with ⟨rfl, ha⟩ | ⟨tok, hrec⟩
      · rw [hst] at hst1
        cases hst1
        rw [hnone] at ha
        cases ha
      · obtain ⟨hI1, hle, hstart⟩ := recover_rinv hrec hIb
        obtain ⟨o1, ps1', hH⟩ := hnext ps1 hI1 hle hstart ⟨_, _, _, _, rfl⟩
        exact ⟨o1, ps1', hH.of_step_eq (hs2.trans (step_act hst1 ha1 (hactlt _ _ _ ha1)).symm)⟩

section
variable {G : NGrammar} {cfg : PCfg} {fc : FirstCert} {c : CertLA} {vc : VCert}
  (hf : firstOk G fc = true) (hc : complete G cfg.T.noRecovery fc c = true)
  (hv : validItems G cfg.T.noRecovery c vc = true) (hA : ActsOk cfg)
include hf hc hv hA

/-- from the start of a phase the real parser terminates (induction on the number of tokens
    that can still be scanned) -/
theorem rec_from (w : List Nat) :
    ∀ (μ : Nat) (cps : PState), RInv cfg.T.noRecovery w cps →
      (∃ top rest a0, cps.states = top :: rest ∧ cfg.T.act top cps.next.2 = some a0) →
      w.length + 1 - cps.ntok < μ → ∃ o ps', HaltsWith cfg w cps o ps' := by
  intro μ
  induction μ with
  | zero => intro _ _ _ hμ; exact absurd hμ (Nat.not_lt_zero _)
  | succ μ ih =>
    intro cps hI ⟨top, rest, a0, hst, ha⟩ hμ
    obtain ⟨b, o, ps', h1, h2, h3⟩ :=
      phase (cfg := cfg.noRecovery) hf hc hv (noRecovery_hr cfg.T) hA w hI hst ha
    exact phase_end (validFacts_of hv) (completeFacts_of hc).actLt hI h1 h2
      fun ps1 hI1 hle hstart hsyn => by
        have := h3 hsyn
        have := hI1.2.2.2.2
        exact ih ps1 hI1 hstart (by omega)

/-- TERMINATION WITH RECOVERY: on every input the loop of `Parse` ends, whatever states are
    flagged as recovery states -/
theorem rec_terminates (w : List Nat) : ∃ o ps', HaltsWith cfg w (initPS w) o ps' := by
  -- the first phase: the parser without recovery on the real input
  obtain ⟨o0, ps0, ⟨b, h1, h2⟩, -⟩ :=
    parseLoop_terminates (cfg := cfg.noRecovery) hf hc hv (noRecovery_hr cfg.T) hA w
  exact phase_end (validFacts_of hv) (completeFacts_of hc).actLt
    ⟨⟨[], .base⟩, rfl, scanInv_init w⟩ h1 h2
    fun ps1 hI1 _ hstart _ => rec_from hf hc hv hA w (w.length + 2) ps1 hI1 hstart (by omega)

end

end Gocc.ParseTerm
