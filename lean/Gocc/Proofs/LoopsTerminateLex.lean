import Gocc.Proofs.LoopsTerminateLexItems
import Gocc.Proofs.LoopsTerminateCount
/-
Termination of the unbounded loop `ItemSets.Closure` (internal/lexer/items/itemsets.go), modelled by
`lexLoop` on fuel.  The sets stay pairwise different duplicate-free lists of dotted positions (`TInvL`),
so there are at most `2 ^ |lexUniv C|` of them; and a result with at most `i + fuel` sets was reached
through the loop's own exit, so that more fuel changes neither a result nor a panic.
-/
namespace Gocc.LoopsT
open Gocc.LexGenC

theorem forIn_except_inv {α β ε : Type} (P : β → Prop) (f : α → β → Except ε (ForInStep β)) :
    ∀ (l : List α) (b r : β), (∀ a ∈ l, ∀ b s, P b → f a b = .ok s → P s.value) → P b →
      forIn l b f = .ok r → P r := by
  intro l
  induction l with
  | nil => intro b r _ hb h; cases h; exact hb
  | cons a l ih =>
    intro b r hf hb h
    rw [List.forIn_cons] at h
    cases hs : f a b with
    | error e => rw [hs] at h; cases h
    | ok s =>
      rw [hs] at h
      have hP := hf a List.mem_cons_self b s hb hs
      cases s with
      | done b' => cases h; exact hP
      | yield b' => exact ih b' r (fun a' ha' => hf a' (List.mem_cons_of_mem _ ha')) hP h

/-- a property of the collection that survives recording a successor set of `sets[i]`
    (`ItemSets.Add`, then a change of the targets of set `i`) survives the expansion of set `i` -/
theorem expandSet_inv {C : LexCtx} {P : Array LState → Prop} {sets r : Array LState} {i : Nat}
    (hstep : ∀ (b s' : Array LState) (items : List LItem) (no : Nat) (f : LState → LState), P b →
      (∀ s, (f s).items = s.items) →
      ((∃ c, nextSet C sets[i]!.items c = .ok items) ∨ nextDot C sets[i]!.items = .ok items) →
      addSet C b items = .ok (s', no) → P (s'.modify i f))
    (hP : P sets) (h : expandSet C sets i = .ok r) : P r := by
  unfold expandSet at h
  simp only [bind, Except.bind] at h
  split at h
  · cases h
  · rename_i x hx
    have hloop : P x.1 := by
      refine forIn_except_inv (fun acc : Array LState × Nat => P acc.1) _ _ _ _ ?_ hP hx
      intro c _ b s hb hs
      split at hs
      · cases hs
      · rename_i items hitems
        split at hs
        · split at hs
          · cases hs
          · rename_i v hv
            cases hs
            simp only [ForInStep.value]
            exact hstep _ _ _ v.2 _ hb (fun _ => rfl) (.inl ⟨c, hitems⟩) hv
        · cases hs; exact hb
    split at h
    · cases h
    · rename_i items hitems
      split at h
      · split at h
        · cases h
        · rename_i v hv
          cases h
          exact hstep _ _ _ v.2 _ hloop (fun _ => rfl) (.inr hitems) hv
      · cases h; exact hloop

theorem lexLoop_succ_of_lt (C : LexCtx) (fuel : Nat) {i : Nat} {sets : Array LState}
    (h : i < sets.size) :
    lexLoop C (fuel + 1) i sets = (expandSet C sets i).bind (lexLoop C fuel (i + 1)) := by
  rw [lexLoop, if_pos h]; rfl

theorem lexLoop_of_not_lt (C : LexCtx) {i : Nat} {sets : Array LState} (h : ¬ i < sets.size) :
    ∀ k, lexLoop C k i sets = .ok sets
  | 0 => rfl
  | k + 1 => by rw [lexLoop, if_neg h]

theorem lexLoop_inv {C : LexCtx} {P : Array LState → Prop}
    (hexp : ∀ (s r : Array LState) (i : Nat), P s → expandSet C s i = .ok r → P r) :
    ∀ (fuel i : Nat) (sets R : Array LState), lexLoop C fuel i sets = .ok R → P sets → P R := by
  intro fuel
  induction fuel with
  | zero => intro i sets R h hP; cases h; exact hP
  | succ fuel ih =>
    intro i sets R h hP
    by_cases hlt : i < sets.size
    · rw [lexLoop_succ_of_lt C fuel hlt] at h
      cases hs : expandSet C sets i with
      | error e => rw [hs] at h; cases h
      | ok s => rw [hs] at h; exact ih _ _ _ h (hexp _ _ _ hP hs)
    · rw [lexLoop_of_not_lt C hlt] at h; cases h; exact hP

theorem addSet_size_le {C : LexCtx} {sets s' : Array LState} {items : List LItem} {no : Nat}
    (h : addSet C sets items = .ok (s', no)) : sets.size ≤ s'.size := by
  unfold addSet at h
  split at h
  · cases h; exact Nat.le_refl _
  · simp only [bind, Except.bind] at h
    split at h
    · cases h
    · cases h; rw [Array.size_push]; exact Nat.le_succ _

theorem lexLoop_size_le {C : LexCtx} {fuel i : Nat} {sets R : Array LState}
    (h : lexLoop C fuel i sets = .ok R) : sets.size ≤ R.size :=
  lexLoop_inv (P := fun s => sets.size ≤ s.size)
    (fun _ _ _ hs he => expandSet_inv (P := fun s => sets.size ≤ s.size)
      (fun _ _ _ _ _ hb _ _ hv => by rw [Array.size_modify]; exact Nat.le_trans hb (addSet_size_le hv))
      hs he) _ _ _ _ h (Nat.le_refl _)

abbrev TInvL (C : LexCtx) (sets : Array LState) : Prop := Distinct LState.items (GoodL C) sets

theorem goodL_univ {C : LexCtx} (l : List LItem) (h : GoodL C l) :
    l.Nodup ∧ ∀ x ∈ l, x ∈ lexUniv C :=
  ⟨h.1, fun x hx => pos_mem_lexUniv (h.2 x hx)⟩

/-- `ItemSets.Add(items)` for a list that is its own closure: the new set, if any, differs from
    all existing sets -/
theorem addSet_tinv {C : LexCtx} {sets s' : Array LState} {items : List LItem} {no : Nat}
    (h : addSet C sets items = .ok (s', no)) (hinv : TInvL C sets) (hg : GoodL C items)
    (hcl : closureL C items = .ok items) : TInvL C s' := by
  unfold addSet at h
  split at h
  · cases h; exact hinv
  · rename_i hf
    rw [newLState, hcl] at h
    cases h
    exact hinv.push _ hg (Array.findIdx?_eq_none_iff.1 hf)

theorem getBang_items_good {C : LexCtx} {sets : Array LState} (h : TInvL C sets) (i : Nat) :
    ∀ x ∈ sets[i]!.items, Pos C x := by
  by_cases hi : i < sets.size
  · rw [getElem!_pos sets i hi]
    exact (h.good i sets[i] (Array.getElem?_eq_getElem hi)).2
  · rw [getElem!_neg sets i hi]
    exact nofun

theorem expandSet_tinv {C : LexCtx} {sets r : Array LState} {i : Nat} (hinv : TInvL C sets)
    (h : expandSet C sets i = .ok r) : TInvL C r := by
  have hcur := getBang_items_good hinv i
  refine expandSet_inv (fun b s' items no f hb hf hitems hv => ?_) hinv h
  have hg : GoodL C items ∧ closureL C items = .ok items := by
    rcases hitems with ⟨c, hc⟩ | hd
    · exact ⟨nextSet_good hcur hc, closureL_idem hc⟩
    · exact ⟨nextDot_good hcur hd, closureL_idem hd⟩
  exact (addSet_tinv hv hb hg.1 hg.2).modify _ _ hf

theorem tinvL_init {C : LexCtx} {s0 : LState} (h : newLState C (itemsSet0 C) = .ok s0) :
    TInvL C #[s0] := by
  refine .singleton ?_
  unfold newLState at h
  simp only [bind, Except.bind] at h
  split at h
  · cases h
  · rename_i cl hcl
    cases h
    exact closureL_good hcl (itemsSet0_good C)

/-- if the result has at most `i + fuel` sets, the loop left through `i = len(sets)`: more fuel
    changes nothing; a panic (`Unknown production`) is reached with any larger fuel as well -/
theorem lexLoop_add (C : LexCtx) : ∀ (fuel i : Nat) (sets : Array LState)
    (r : Except String (Array LState)), lexLoop C fuel i sets = r →
    (∀ R, r = .ok R → R.size ≤ i + fuel) → ∀ k, lexLoop C (fuel + k) i sets = r := by
  intro fuel
  induction fuel with
  | zero =>
    intro i sets r h hsz k
    cases h
    exact lexLoop_of_not_lt C (Nat.not_lt.2 (hsz sets rfl)) _
  | succ fuel ih =>
    intro i sets r h hsz k
    rw [Nat.add_right_comm]
    by_cases hlt : i < sets.size
    · rw [lexLoop_succ_of_lt C _ hlt] at h ⊢
      cases hs : expandSet C sets i with
      | error e => rw [hs] at h; exact h
      | ok s =>
        rw [hs] at h
        exact ih (i + 1) s r h (fun R hR => by have := hsz R hR; omega) k
    · rw [lexLoop_of_not_lt C hlt] at h ⊢; exact h

theorem lexLoop_sub (C : LexCtx) : ∀ (fuel i : Nat) (sets R : Array LState) (k : Nat),
    lexLoop C (fuel + k) i sets = .ok R → R.size ≤ i + fuel → lexLoop C fuel i sets = .ok R := by
  intro fuel
  induction fuel with
  | zero =>
    intro i sets R k h hsz
    have hnlt : ¬ i < sets.size := fun hlt => by have := lexLoop_size_le h; omega
    rw [lexLoop_of_not_lt C hnlt] at h
    exact h
  | succ fuel ih =>
    intro i sets R k h hsz
    rw [Nat.add_right_comm] at h
    by_cases hlt : i < sets.size
    · rw [lexLoop_succ_of_lt C _ hlt] at h ⊢
      cases hs : expandSet C sets i with
      | error e => rw [hs] at h; cases h
      | ok s => rw [hs] at h; exact ih (i + 1) s R k h (by omega)
    · rw [lexLoop_of_not_lt C hlt] at h ⊢; exact h

theorem lexLoop_stable (C : LexCtx) (fuel i : Nat) (sets R : Array LState)
    (h : lexLoop C fuel i sets = .ok R) (hsz : R.size ≤ i + fuel) (k : Nat) :
    lexLoop C (fuel + k) i sets = .ok R :=
  lexLoop_add C fuel i sets _ h (fun _ e => by cases e; exact hsz) k

theorem lexLoop_error_stable (C : LexCtx) (fuel i : Nat) (sets : Array LState) (e : String)
    (h : lexLoop C fuel i sets = .error e) (k : Nat) : lexLoop C (fuel + k) i sets = .error e :=
  lexLoop_add C fuel i sets _ h (fun _ e => by cases e) k

theorem lexLoop_sharp (C : LexCtx) (init R : Array LState) (N : Nat)
    (h : lexLoop C N 0 init = .ok R) (hN : R.size ≤ N) :
    ∀ fuel, R.size ≤ fuel → lexLoop C fuel 0 init = .ok R := by
  intro fuel hf
  by_cases hle : fuel ≤ N
  · obtain ⟨k, rfl⟩ : ∃ k, N = fuel + k := ⟨N - fuel, by omega⟩
    exact lexLoop_sub C fuel 0 init R k h (by omega)
  · obtain ⟨k, rfl⟩ : ∃ k, fuel = N + k := ⟨fuel - N, by omega⟩
    exact lexLoop_stable C N 0 init R h (by omega) k

def lexBound (C : LexCtx) : Nat := 2 ^ (lexUniv C).length

theorem lexBound_le (C : LexCtx) : lexBound C ≤ 2 ^ (C.fuel - 8) := by
  unfold lexBound
  apply Nat.pow_le_pow_right (by omega)
  have := lexUniv_length C
  omega

theorem lexLoop_bounded {C : LexCtx} {s0 : LState} (h0 : newLState C (itemsSet0 C) = .ok s0)
    {fuel : Nat} {R : Array LState} (h : lexLoop C fuel 0 #[s0] = .ok R) :
    TInvL C R ∧ R.size ≤ lexBound C := by
  have := lexLoop_inv (fun _ _ _ => expandSet_tinv) fuel 0 _ R h (tinvL_init h0)
  exact ⟨this, this.size_le goodL_univ⟩

theorem lexLoop_fixed {C : LexCtx} {s0 : LState} (h0 : newLState C (itemsSet0 C) = .ok s0)
    (fuel : Nat) (hf : lexBound C ≤ fuel) (k : Nat) :
    lexLoop C (fuel + k) 0 #[s0] = lexLoop C fuel 0 #[s0] :=
  lexLoop_add C fuel 0 _ _ rfl (fun R hR => by have := (lexLoop_bounded h0 hR).2; omega) k

end Gocc.LoopsT
