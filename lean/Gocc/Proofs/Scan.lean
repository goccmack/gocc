import Gocc.Spec.Pos
/-
Proofs for C08 / C16 (lexer half): the position rule, equations and the proof rule for the loop
of `Scan`, the sequence of cursors `scanStates`, and the fuelled `scanF` that closed examples evaluate.
-/
namespace Gocc

/-! ### the recursive position rule equals the declarative one -/

theorem advLC_fst (r : Int) (l c : Nat) : (advLC r l c).1 = if r = 10 then l + 1 else l := by
  simp only [advLC, apply_ite Prod.fst, ite_self]

theorem advLC_snd (r : Int) (l c : Nat) :
    (advLC r l c).2 = if r = 10 ∨ r = 13 then 1 else if r = 9 then c + 4 else c + 1 := by
  unfold advLC
  by_cases h10 : r = 10
  · rw [if_pos h10, if_pos (Or.inl h10)]
  · rw [if_neg h10]
    by_cases h13 : r = 13
    · rw [if_pos h13, if_pos (Or.inr h13)]
    · rw [if_neg h13, if_neg (not_or.2 ⟨h10, h13⟩)]; split <;> rfl

theorem colAdv_snoc (rs : List Int) (r : Int) : colAdv (rs ++ [r]) =
    if r = 10 ∨ r = 13 then 0 else if r = 9 then colAdv rs + 4 else colAdv rs + 1 := by
  unfold colAdv; rw [List.foldl_append]; rfl

theorem lineOf_snoc (rs : List Int) (r : Int) :
    lineOf (rs ++ [r]) = (advLC r (lineOf rs) (colOf rs)).1 := by
  rw [advLC_fst]
  simp only [lineOf, List.count_append, List.count_singleton, beq_iff_eq]
  split <;> omega

theorem colOf_snoc (rs : List Int) (r : Int) :
    colOf (rs ++ [r]) = (advLC r (lineOf rs) (colOf rs)).2 := by
  unfold colOf
  rw [advLC_snd, colAdv_snoc]
  split
  · rfl
  · split <;> omega

theorem reachR_line_col {src : List Nat} {st : LexSt} {rs : List Int} (h : ReachR src st rs) :
    st.line = lineOf rs ∧ st.col = colOf rs := by
  induction h with
  | zero => exact ⟨rfl, rfl⟩
  | step _ _ ih =>
    obtain ⟨h1, h2⟩ := ih
    simp only [lcStep, lineOf_snoc, colOf_snoc, h1, h2, and_self]

theorem reachR_pos_le {src : List Nat} {st : LexSt} {rs : List Int} (h : ReachR src st rs) :
    st.pos ≤ src.length := by
  induction h with
  | zero => exact Nat.zero_le _
  | step _ hlt _ => exact (decodeRune_drop hlt).2

theorem Reach.pos_le {src : List Nat} {st : LexSt} (h : Reach src st) : st.pos ≤ src.length := by
  obtain ⟨rs, h⟩ := h; exact reachR_pos_le h

theorem Reach.zero (src : List Nat) : Reach src newLexer := ⟨[], ReachR.zero⟩

/-- a property of cursors that survives reading one more rune: `Reach src` for the position rule,
    `fun _ => True` when only the specification is wanted -/
def RuneClosed (src : List Nat) (Q : LexSt → Prop) : Prop :=
  ∀ st, Q st → st.pos < src.length → Q (lcStep src st)

theorem Reach.runeClosed (src : List Nat) : RuneClosed src (Reach src) :=
  fun _ ⟨_, h⟩ hlt => ⟨_, ReachR.step h hlt⟩

/-! ### a reachable triple is determined by its offset -/

theorem reachR_mono_aux {src : List Nat} {st' : LexSt} {rs' : List Int} (h' : ReachR src st' rs') :
    ∀ {st : LexSt} {rs : List Int}, ReachR src st rs → rs.length ≤ rs'.length →
      (rs.length = rs'.length → st = st') ∧ (rs.length < rs'.length → st.pos < st'.pos) := by
  induction h' with
  | zero =>
    intro st rs h hle
    cases h with
    | zero => exact ⟨fun _ => rfl, fun hlt => absurd hlt (Nat.lt_irrefl _)⟩
    | step _ _ => rw [List.length_append] at hle; exact absurd hle (Nat.not_succ_le_zero _)
  | @step st1 rs1 h1 hlt1 ih =>
    intro st rs h hle
    have hpos : st1.pos < (lcStep src st1).pos := Nat.lt_add_of_pos_right (decodeRune_drop hlt1).1
    rw [List.length_append, List.length_singleton] at hle ⊢
    by_cases hc : rs.length ≤ rs1.length
    · obtain ⟨heq, hlt⟩ := ih h hc
      refine ⟨fun he => by omega, fun _ => ?_⟩
      by_cases hc' : rs.length = rs1.length
      · rw [heq hc']; exact hpos
      · exact Nat.lt_trans (hlt (by omega)) hpos
    · cases h with
      | zero => exact absurd (Nat.zero_le _) hc
      | @step st0 rs0 h0 hlt0 =>
        rw [List.length_append, List.length_singleton] at hc hle ⊢
        have e := (ih h0 (by omega)).1 (by omega)
        subst e
        exact ⟨fun _ => rfl, fun hlt => by omega⟩

theorem Reach.unique {src : List Nat} {st st' : LexSt} (h : Reach src st) (h' : Reach src st')
    (hp : st.pos = st'.pos) : st = st' := by
  obtain ⟨rs, h⟩ := h; obtain ⟨rs', h'⟩ := h'
  rcases Nat.lt_trichotomy rs.length rs'.length with hlt | heq | hgt
  · have := (reachR_mono_aux h' h (by omega)).2 hlt; omega
  · exact (reachR_mono_aux h' h (by omega)).1 heq
  · have := (reachR_mono_aux h h' (by omega)).2 hgt; omega

theorem iter_eof (T : LexTables) (src : List Nat) (L : Loop) (h : src.length ≤ L.pos) :
    iter T src L =
      if L.typ = tokINVALID then { L with end_ := L.pos, state := -1 } else { L with state := -1 } := by
  have hge : L.pos ≥ src.length := h
  unfold iter
  simp only [hge, if_true, ne_eq, not_true_eq_false, if_false]

theorem iter_state_eof (T : LexTables) (src : List Nat) (L : Loop) (h : ¬ L.pos < src.length) :
    (iter T src L).state = -1 := by
  rw [iter_eof T src L (by omega)]; split <;> rfl

theorem iter_lt (T : LexTables) (src : List Nat) (L : Loop) (h : L.pos < src.length) :
    iter T src L =
      let r := (decodeRune (src.drop L.pos)).1
      let pos := L.pos + (decodeRune (src.drop L.pos)).2
      let next := T.trans L.state.toNat r
      let lc := advLC r L.line L.col
      if next ≠ -1 then
        if T.accept next.toNat ≠ -1 then
          { L with pos := pos, line := lc.1, col := lc.2, typ := T.accept next.toNat, end_ := pos, state := next }
        else if T.ignore next.toNat then
          { L with pos := pos, line := lc.1, col := lc.2, start := pos, startLine := lc.1, startCol := lc.2,
                   state := 0, typ := if pos ≥ src.length then tokEOF else tokINVALID }
        else
          { L with pos := pos, line := lc.1, col := lc.2, state := next }
      else if L.typ = tokINVALID then
        { L with pos := pos, line := lc.1, col := lc.2, end_ := pos, state := -1 }
      else
        { L with pos := pos, state := -1 } := by
  have hge : ¬ (L.pos ≥ src.length) := by omega
  have hr : (decodeRune (src.drop L.pos)).1 ≠ -1 := by
    have := decodeRune_nonneg (src.drop L.pos); omega
  unfold iter
  simp only [hge, if_false, ne_eq, hr, not_false_eq_true, if_true]

theorem loop_done {T : LexTables} {src : List Nat} {L : Loop} (h : L.state = -1) : loop T src L = L := by
  rw [loop, if_pos h]

theorem loop_live {T : LexTables} {src : List Nat} {L : Loop} (h : L.state ≠ -1) :
    loop T src L = if L.pos < src.length then loop T src (iter T src L) else iter T src L := by
  rw [loop, if_neg h, dite_eq_ite]

/-- the proof rule for `for state != -1`: an invariant of the live passes that turns into `Post`
    on the pass that ends the loop -/
theorem loop_rule {T : LexTables} {src : List Nat} {Inv Post : Loop → Prop}
    (step : ∀ L, L.state ≠ -1 → Inv L →
      if (iter T src L).state = -1 then Post (iter T src L) else Inv (iter T src L))
    (L : Loop) (h : if L.state = -1 then Post L else Inv L) : Post (loop T src L) := by
  fun_induction loop T src L with
  | case1 L hs => rwa [if_pos hs] at h
  | case2 L hs hlt ih => rw [if_neg hs] at h; exact ih (step L hs h)
  | case3 L hs hlt =>
    rw [if_neg hs] at h
    have := step L hs h
    rwa [if_pos (iter_state_eof T src L hlt)] at this

/-- the loop variables at entry of `Scan` -/
def loop0 (st : LexSt) : Loop :=
  { pos := st.pos, line := st.line, col := st.col, start := st.pos,
    startLine := st.line, startCol := st.col, end_ := 0, typ := tokINVALID, state := 0 }

theorem loop0_state (st : LexSt) : (loop0 st).state ≠ -1 := show (0 : Int) ≠ -1 by decide

/-- what `Scan` returns once the loop has ended -/
def scanOut (L : Loop) : Tok × LexSt :=
  if L.end_ > L.start then
    ({ typ := L.typ, litStart := L.start, litEnd := L.end_, offset := L.start,
       line := L.startLine, col := L.startCol }, ⟨L.end_, L.line, L.col⟩)
  else
    ({ typ := L.typ, litStart := 0, litEnd := 0, offset := L.start,
       line := L.startLine, col := L.startCol }, ⟨L.pos, L.line, L.col⟩)

theorem scanOut_hi {L : Loop} (h : L.start < L.end_) : scanOut L =
    ({ typ := L.typ, litStart := L.start, litEnd := L.end_, offset := L.start,
       line := L.startLine, col := L.startCol }, ⟨L.end_, L.line, L.col⟩) :=
  if_pos h

theorem scanOut_lo {L : Loop} (h : L.end_ ≤ L.start) : scanOut L =
    ({ typ := L.typ, litStart := 0, litEnd := 0, offset := L.start,
       line := L.startLine, col := L.startCol }, ⟨L.pos, L.line, L.col⟩) :=
  if_neg (Nat.not_lt.2 h)

theorem scan_eq (T : LexTables) (src : List Nat) (st : LexSt) : scan T src st =
    if st.pos ≥ src.length then
      ({ typ := tokEOF, litStart := 0, litEnd := 0, offset := st.pos, line := st.line, col := st.col }, st)
    else scanOut (loop T src (loop0 st)) := rfl

theorem scan_eof (T : LexTables) (src : List Nat) (st : LexSt) (h : st.pos ≥ src.length) :
    scan T src st =
      ({ typ := tokEOF, litStart := 0, litEnd := 0, offset := st.pos, line := st.line, col := st.col }, st) := by
  rw [scan_eq, if_pos h]

theorem scan_lt (T : LexTables) (src : List Nat) (st : LexSt) (h : st.pos < src.length) :
    scan T src st = scanOut (loop T src (loop0 st)) := by
  rw [scan_eq, if_neg (Nat.not_le.2 h)]

/-- the cursor after `k` calls of `Scan` on a lexer started in state `st` -/
def scanStatesFrom (T : LexTables) (src : List Nat) (st : LexSt) : Nat → LexSt
  | 0 => st
  | k + 1 => (scan T src (scanStatesFrom T src st k)).2

def scanStates (T : LexTables) (src : List Nat) (k : Nat) : LexSt := scanStatesFrom T src newLexer k

/-- the token returned by call number `k` (counting from 0) on a new lexer -/
def scanTokAt (T : LexTables) (src : List Nat) (k : Nat) : Tok := (scan T src (scanStates T src k)).1

theorem scanStates_zero (T : LexTables) (src : List Nat) : scanStates T src 0 = newLexer := rfl

theorem scanStates_succ (T : LexTables) (src : List Nat) (k : Nat) :
    scanStates T src (k + 1) = (scan T src (scanStates T src k)).2 := rfl

theorem scanStatesFrom_add (T : LexTables) (src : List Nat) (st : LexSt) (k j : Nat) :
    scanStatesFrom T src st (k + j) = scanStatesFrom T src (scanStatesFrom T src st k) j := by
  induction j with
  | zero => rfl
  | succ j ih => rw [← Nat.add_assoc, scanStatesFrom, ih]; rfl

theorem scanN_getElem? (T : LexTables) (src : List Nat) (k : Nat) (st : LexSt) (i : Nat) (hi : i < k) :
    (scanN T src k st)[i]? = some (scan T src (scanStatesFrom T src st i)).1 := by
  induction k generalizing st i with
  | zero => omega
  | succ k ih =>
    cases i with
    | zero => simp [scanN, scanStatesFrom]
    | succ i =>
      simp only [scanN, List.getElem?_cons_succ]
      rw [ih _ i (by omega), Nat.add_comm i 1, scanStatesFrom_add]; rfl

theorem scanN_length (T : LexTables) (src : List Nat) (k : Nat) (st : LexSt) :
    (scanN T src k st).length = k := by
  induction k generalizing st with
  | zero => rfl
  | succ k ih => simp [scanN, ih]

theorem scanN_eq_of_scan_eq {T1 T2 : LexTables} {src : List Nat}
    (h : ∀ st, scan T1 src st = scan T2 src st) (k : Nat) (st : LexSt) :
    scanN T1 src k st = scanN T2 src k st := by
  induction k generalizing st with
  | zero => rfl
  | succ k ih => simp only [scanN, h st, ih]

theorem scanStatesFrom_eof (T : LexTables) (src : List Nat) (st : LexSt) (h : st.pos ≥ src.length) (k : Nat) :
    scanStatesFrom T src st k = st := by
  induction k with
  | zero => rfl
  | succ k ih => rw [scanStatesFrom, ih, scan_eof T src st h]

/-! ### `loop` with fuel (structural recursion, so that closed examples can be evaluated) -/

def loopFuel (T : LexTables) (src : List Nat) : Nat → Loop → Loop
  | 0, L => L
  | n + 1, L => if L.state = -1 then L else loopFuel T src n (iter T src L)

theorem loopFuel_done {T : LexTables} {src : List Nat} {L : Loop} (n : Nat) (h : L.state = -1) :
    loopFuel T src n L = L := by
  cases n with
  | zero => rfl
  | succ n => exact if_pos h

theorem loop_eq_fuel (T : LexTables) (src : List Nat) :
    ∀ (n : Nat) (L : Loop), src.length - L.pos + 1 ≤ n → loop T src L = loopFuel T src n L
  | 0, _, hn => absurd hn (Nat.not_succ_le_zero _)
  | n + 1, L, hn => by
    rw [loopFuel]
    by_cases hs : L.state = -1
    · rw [if_pos hs, loop_done hs]
    rw [if_neg hs, loop_live hs]
    by_cases hlt : L.pos < src.length
    · have := iter_pos_lt T src L hlt
      rw [if_pos hlt]; exact loop_eq_fuel T src n _ (by omega)
    · rw [if_neg hlt, loopFuel_done n (iter_state_eof T src L hlt)]

def scanF (T : LexTables) (src : List Nat) (st : LexSt) : Tok × LexSt :=
  if st.pos ≥ src.length then
    ({ typ := tokEOF, litStart := 0, litEnd := 0, offset := st.pos, line := st.line, col := st.col }, st)
  else
    let L := loopFuel T src (src.length - st.pos + 1) (loop0 st)
    if L.end_ > L.start then
      ({ typ := L.typ, litStart := L.start, litEnd := L.end_, offset := L.start, line := L.startLine, col := L.startCol },
       ⟨L.end_, L.line, L.col⟩)
    else
      ({ typ := L.typ, litStart := 0, litEnd := 0, offset := L.start, line := L.startLine, col := L.startCol },
       ⟨L.pos, L.line, L.col⟩)

theorem scan_eq_scanF (T : LexTables) (src : List Nat) (st : LexSt) : scan T src st = scanF T src st := by
  rw [scan_eq, loop_eq_fuel T src _ (loop0 st) (Nat.le_refl _)]
  rfl

def scanNF (T : LexTables) (src : List Nat) : Nat → LexSt → List Tok
  | 0, _ => []
  | k + 1, st => let r := scanF T src st; r.1 :: scanNF T src k r.2

theorem scanN_eq_scanNF (T : LexTables) (src : List Nat) (k : Nat) (st : LexSt) :
    scanN T src k st = scanNF T src k st := by
  induction k generalizing st with
  | zero => rfl
  | succ k ih => simp only [scanN, scanNF, scan_eq_scanF, ih]

end Gocc
