import Gocc.Proofs.ValidateC
import Gocc.Model.ValidateV
/-
The validity validator `validItems` is correct: every item of every state on the parser's stack
is VALID for the string of grammar symbols spelled by the stack, hence every existing action is
justified by a derivation (`act_viable`), and a parser that is stuck has no sentence ahead
(`stuck_not_sentence`, from the completeness validator).

The proofs use `complete` only through `CompleteFacts.prodLen/prodNT` (invariant) and
`parse_accepts` (stuck parsers); `safe`/`safeEnds` are not needed.
-/
namespace Gocc

/-- the symbol derives some terminal string -/
def SymProd (G : NGrammar) : Sym → Prop
  | .t _ => True
  | .nt B => ∃ y, NDerives G [Sym.nt B] y

theorem productive_of_all {G : NGrammar} : ∀ {α : List Sym}, (∀ X, X ∈ α → SymProd G X) →
    ∃ y, NDerives G α y
  | [], _ => ⟨[], .nil⟩
  | .t a :: α, h => by
    obtain ⟨y, hy⟩ := productive_of_all (List.forall_mem_cons.1 h).2
    exact ⟨a :: y, .term hy⟩
  | .nt B :: α, h => by
    obtain ⟨y, hy⟩ := productive_of_all (List.forall_mem_cons.1 h).2
    obtain ⟨y0, hy0⟩ : SymProd G (.nt B) := h _ (List.mem_cons_self ..)
    exact ⟨y0 ++ y, hy0.append hy⟩

theorem hasNT_mem {l : List (Nat × Nat)} {B : Nat} (h : hasNT l B = true) : ∃ p, (B, p) ∈ l := by
  simp only [hasNT, List.any_eq_true, beq_iff_eq] at h
  obtain ⟨⟨A, p⟩, hm, rfl⟩ := h
  exact ⟨p, hm⟩

theorem symProd_of_hasNT {G : NGrammar} {l : List (Nat × Nat)}
    (hl : ∀ A p, (A, p) ∈ l → ∃ y, NDerives G [Sym.nt A] y) {f : Nat → Bool} {X : Sym}
    (h : (match X with | .t a => f a | .nt B => hasNT l B) = true) : SymProd G X := by
  rcases X with a | B
  · trivial
  · obtain ⟨p, hp⟩ := hasNT_mem h
    exact hl B p hp

theorem prodList_sound {G : NGrammar} : ∀ {l : List (Nat × Nat)}, prodListOk G l = true →
    ∀ A p, (A, p) ∈ l → ∃ y, NDerives G [Sym.nt A] y
  | [], _, A, p, hm => by cases hm
  | (A0, p0) :: rest, h, A, p, hm => by
    simp only [prodListOk, Bool.and_eq_true, decide_eq_true_eq, beq_iff_eq, List.all_eq_true] at h
    obtain ⟨⟨⟨hp, hh⟩, hb⟩, hrest⟩ := h
    rcases List.mem_cons.mp hm with e | hm'
    · cases e
      obtain ⟨y, hy⟩ := productive_of_all fun X hX =>
        symProd_of_hasNT (prodList_sound hrest) (hb X hX)
      exact ⟨y, hh ▸ .of_body hp hy⟩
    · exact prodList_sound hrest A p hm'

theorem nullable_of_all {G : NGrammar} {N : Nat → Bool}
    (hN : ∀ B, N B = true → NDerives G [Sym.nt B] []) : ∀ {α : List Sym},
    (∀ X, X ∈ α → (match X with | .t _ => false | .nt B => N B) = true) → NDerives G α []
  | [], _ => .nil
  | .t _ :: _, h => nomatch h _ List.mem_cons_self
  | .nt B :: α, h => by
    simpa using (hN B (h _ List.mem_cons_self)).append
      (nullable_of_all hN (List.forall_mem_cons.1 h).2)

theorem nullable_of_hasNT {G : NGrammar} {l : List (Nat × Nat)}
    (hl : ∀ A p, (A, p) ∈ l → NDerives G [Sym.nt A] []) (B : Nat) (h : hasNT l B = true) :
    NDerives G [Sym.nt B] [] :=
  let ⟨p, hp⟩ := hasNT_mem h
  hl B p hp

theorem nullList_sound {G : NGrammar} : ∀ {l : List (Nat × Nat)}, nullListOk G l = true →
    ∀ A p, (A, p) ∈ l → NDerives G [Sym.nt A] []
  | [], _, A, p, hm => by cases hm
  | (A0, p0) :: rest, h, A, p, hm => by
    simp only [nullListOk, Bool.and_eq_true, decide_eq_true_eq, beq_iff_eq, List.all_eq_true] at h
    obtain ⟨⟨⟨hp, hh⟩, hb⟩, hrest⟩ := h
    rcases List.mem_cons.mp hm with e | hm'
    · cases e
      exact hh ▸ .of_body hp (nullable_of_all (nullable_of_hasNT (nullList_sound hrest)) hb)
    · exact nullList_sound hrest A p hm'

/-- every body symbol of every production is productive -/
def BodiesProd (G : NGrammar) : Prop := ∀ p, p < G.prods.size → ∀ X, X ∈ G.body p → SymProd G X

theorem NDerives.split {G : NGrammar} {l : List Sym} {d : Nat} {X : Sym} (hX : l[d]? = some X)
    {y1 y2 : List Nat} (h1 : NDerives G (l.take d) y1)
    (h2 : NDerives G (X :: l.drop (d + 1)) y2) : NDerives G l (y1 ++ y2) := by
  obtain ⟨hlt, rfl⟩ := List.getElem?_eq_some_iff.mp hX
  rw [← List.drop_eq_getElem_cons hlt] at h2
  exact List.take_append_drop d l ▸ h1.append h2

theorem firstList_sound {G : NGrammar} (hP : BodiesProd G) {null : List (Nat × Nat)}
    (hN : ∀ A p, (A, p) ∈ null → NDerives G [Sym.nt A] []) :
    ∀ {l : List (Nat × Nat × Nat × Nat)}, firstListOk G null l = true →
    ∀ A b p i, (A, b, p, i) ∈ l → ∃ y, NDerives G [Sym.nt A] (b :: y)
  | [], _, A, b, p, i, hm => by cases hm
  | (A0, b0, p0, i0) :: rest, h, A, b, p, i, hm => by
    simp only [firstListOk, Bool.and_eq_true, decide_eq_true_eq, beq_iff_eq, List.all_eq_true] at h
    obtain ⟨⟨⟨⟨hp, hh⟩, hpre⟩, hX⟩, hrest⟩ := h
    rcases List.mem_cons.mp hm with e | hm'
    · cases e
      have h1 : NDerives G ((G.body p0).take i0) [] := nullable_of_all (nullable_of_hasNT hN) hpre
      -- the productive rest
      obtain ⟨y2, h3⟩ : ∃ y, NDerives G ((G.body p0).drop (i0 + 1)) y :=
        productive_of_all fun X hXm => hP p0 hp X (List.mem_of_mem_drop hXm)
      -- the symbol at position `i0`
      rcases hx : (G.body p0)[i0]? with _ | X
      · rw [hx] at hX; simp at hX
      · rw [hx] at hX
        obtain ⟨y1, h2⟩ : ∃ y, NDerives G [X] (b0 :: y) := by
          rcases X with c | B
          · simp only [beq_iff_eq] at hX
            subst hX
            exact ⟨[], .term .nil⟩
          · simp only [List.any_eq_true, Bool.and_eq_true, beq_iff_eq] at hX
            obtain ⟨⟨B', b', p', i'⟩, hm2, rfl, rfl⟩ := hX
            exact firstList_sound hP hN hrest _ _ p' i' hm2
        exact ⟨y1 ++ y2, hh ▸ .of_body hp (.split hx h1 (NDerives.append (α := [X]) h2 h3))⟩
    · exact firstList_sound hP hN hrest A b p i hm'

theorem inFirst_sound {G : NGrammar} {fc : FirstCert}
    (hN : ∀ B, fc.isNullable B = true → NDerives G [Sym.nt B] [])
    (hF : ∀ B b, fc.hasFirst B b = true → ∃ y, NDerives G [Sym.nt B] (b :: y)) {b : Nat} :
    ∀ {β : List Sym}, (∀ X, X ∈ β → SymProd G X) → InFirst fc b β → ∃ y, NDerives G β (b :: y)
  | [], _, h => h.elim
  | .t c :: β, hP, h => by
    obtain rfl : c = b := h
    obtain ⟨y, hy⟩ := productive_of_all (List.forall_mem_cons.1 hP).2
    exact ⟨y, .term hy⟩
  | .nt B :: β, hP, h => by
    rcases h with h | ⟨hn, h⟩
    · obtain ⟨y0, hy0⟩ := hF B b h
      obtain ⟨y, hy⟩ := productive_of_all (List.forall_mem_cons.1 hP).2
      exact ⟨y0 ++ y, hy0.append hy⟩
    · obtain ⟨y, hy⟩ := inFirst_sound hN hF (List.forall_mem_cons.1 hP).2 h
      exact ⟨y, by simpa using (hN B hn).append hy⟩

/-- (exactness of FIRST) a terminal in `firstOfSeq fc β a` begins a string derived from `β z`,
    when `a` begins `z` (1 = end of input) -/
theorem firstOfSeq_exact {G : NGrammar} {fc : FirstCert}
    (hN : ∀ B, fc.isNullable B = true → NDerives G [Sym.nt B] [])
    (hF : ∀ B b, fc.hasFirst B b = true → ∃ y, NDerives G [Sym.nt B] (b :: y))
    {a b : Nat} {z : List Nat} (hz : z.head?.getD 1 = a) {β : List Sym}
    (hP : ∀ X, X ∈ β → SymProd G X) (h : b ∈ firstOfSeq fc β a) :
    ∃ y, NDerives G β y ∧ (y ++ z).head?.getD 1 = b := by
  rcases mem_firstOfSeq_iff.1 h with hf | ⟨hn, rfl⟩
  · obtain ⟨y, hy⟩ := inFirst_sound hN hF hP hf
    exact ⟨b :: y, hy, rfl⟩
  · exact ⟨[], nullable_of_all hN (List.all_eq_true.1 hn), hz⟩

structure ValidFacts (G : NGrammar) (T : PTables) (c : CertLA) (fc : FirstCert) : Prop where
  prodB : BodiesProd G
  noTok : ∀ p, p < G.prods.size → Sym.t 0 ∉ G.body p ∧ Sym.t 1 ∉ G.body p
  nullS : ∀ B, fc.isNullable B = true → NDerives G [Sym.nt B] []
  firstS : ∀ B b, fc.hasFirst B b = true → ∃ y, NDerives G [Sym.nt B] (b :: y)
  just : ∀ s, itemsJust G fc s (c[s]?.getD []).reverse = true
  edge : ∀ s X s', Edge T s X s' → s' ≠ 0 ∧ ∀ p d a, (p, d + 1, a) ∈ c[s']?.getD [] →
    (G.body p)[d]? = some X ∧ (p, d, a) ∈ c[s]?.getD []
  shiftJ : ∀ s t s', T.act s t = some (.shift s') →
    ∃ p d a, (p, d, a) ∈ c[s]?.getD [] ∧ (G.body p)[d]? = some (Sym.t t)
  reduceJ : ∀ s t p, T.act s t = some (.reduce p) → (p, (G.body p).length, t) ∈ c[s]?.getD []
  acceptJ : ∀ s t, T.act s t = some .accept → t = 1 ∧ (0, (G.body 0).length, 1) ∈ c[s]?.getD []

theorem edgeOkLA_mem {G : NGrammar} {c : CertLA} {s s' : Nat} {X : Sym}
    (he : edgeOkLA G c s X s' = true) : s' ≠ 0 ∧ ∀ p d a, (p, d + 1, a) ∈ c[s']?.getD [] →
      (G.body p)[d]? = some X ∧ (p, d, a) ∈ c[s]?.getD [] := by
  simp only [edgeOkLA, Bool.and_eq_true, bne_iff_ne, ne_eq, List.all_eq_true] at he
  refine ⟨he.1, fun p d a hm => ?_⟩
  simpa using he.2 (p, d + 1, a) hm

theorem validFacts_of {G : NGrammar} {T : PTables} {c : CertLA} {vc : VCert}
    (h : validItems G T c vc = true) : ValidFacts G T c vc.fc := by
  simp only [validItems, Bool.and_eq_true, List.all_eq_true, List.mem_range] at h
  obtain ⟨⟨⟨⟨⟨⟨hPL, hB⟩, hNL⟩, hFL⟩, hJ⟩, hAct⟩, hGo⟩ := h
  have hprod : BodiesProd G := fun p hp X hX =>
    symProd_of_hasNT (prodList_sound hPL) (hB p hp X hX)
  have hnull := nullList_sound hNL
  refine
    { prodB := hprod, noTok := ?_, nullS := ?_, firstS := ?_, just := ?_, edge := ?_,
      shiftJ := ?_, reduceJ := ?_, acceptJ := ?_ }
  · intro p hp
    constructor <;> intro hm <;> simpa using hB p hp _ hm
  · intro B hn
    simp only [FirstCert.isNullable, VCert.fc, List.contains_eq_mem, List.mem_map,
      decide_eq_true_eq] at hn
    obtain ⟨⟨A, p⟩, hm, rfl⟩ := hn
    exact hnull A p hm
  · intro B b hf
    simp only [FirstCert.hasFirst, VCert.fc, List.contains_eq_mem, List.mem_map,
      decide_eq_true_eq, Prod.mk.injEq] at hf
    obtain ⟨⟨A, b', p, i⟩, hm, rfl, rfl⟩ := hf
    exact firstList_sound hprod hnull hFL A b' p i hm
  · intro s
    by_cases hs : s < c.size
    · exact hJ s hs
    · rw [Array.getElem?_eq_none (Nat.le_of_not_lt hs)]; rfl
  · intro s X s' he
    rcases X with t | A
    · obtain ⟨hs, ht, hj⟩ := act_getD (show T.act s t = some (.shift s') from he)
      have h1 := hAct s hs t ht
      simp only [hj, Bool.and_eq_true] at h1
      exact edgeOkLA_mem h1.1
    · obtain ⟨g, hg, hg0, rfl⟩ := he
      obtain ⟨hs, hA, hj⟩ := goto_getD hg
      have h1 := hGo s hs A hA
      simp only [hj, Bool.or_eq_true, decide_eq_true_eq] at h1
      exact edgeOkLA_mem (h1.resolve_left (by omega))
  · intro s t s' ha
    obtain ⟨hs, ht, hj⟩ := act_getD ha
    have h1 := hAct s hs t ht
    simp only [hj, Bool.and_eq_true, List.any_eq_true, beq_iff_eq] at h1
    obtain ⟨⟨p, d, a⟩, hm, hx⟩ := h1.2
    exact ⟨p, d, a, hm, hx⟩
  · intro s t p ha
    obtain ⟨hs, ht, hj⟩ := act_getD ha
    have h1 := hAct s hs t ht
    simpa only [hj, CertLA.has_iff] using h1
  · intro s t ha
    obtain ⟨hs, ht, hj⟩ := act_getD ha
    have h1 := hAct s hs t ht
    simpa only [hj, Bool.and_eq_true, beq_iff_eq, CertLA.has_iff] using h1

/-- the LR(1) item `(p, d, a)` is valid for the string `γ` of grammar symbols: `γ = δ β₁` with
    `β₁` the part of the body before the dot, and there is a terminal string `z` beginning with
    `a` (or empty, `a` = 1) such that `x y z` is a sentence whenever `δ` derives `x` and the body
    derives `y` -/
def IV (G : NGrammar) (γ : List Sym) (p d a : Nat) : Prop :=
  p < G.prods.size ∧ ∃ δ z, γ = δ ++ (G.body p).take d ∧ d ≤ (G.body p).length ∧
    z.head?.getD 1 = a ∧
    ∀ x y, NDerives G δ x → NDerives G (G.body p) y → NSentence G (x ++ y ++ z)

theorem IV.start {G : NGrammar} (h0 : 0 < G.prods.size) : IV G [] 0 0 1 := by
  refine ⟨h0, [], [], by simp, Nat.zero_le _, rfl, ?_⟩
  intro x y hx hy
  have := hx.nil_inv
  subst this
  simpa [NSentence] using hy

theorem IV.closure {G : NGrammar} {T : PTables} {c : CertLA} {fc : FirstCert}
    (VF : ValidFacts G T c fc) {γ : List Sym} {p d a q b : Nat} (h : IV G γ p d a)
    (hX : (G.body p)[d]? = some (Sym.nt (G.head q))) (hq : q < G.prods.size)
    (hb : b ∈ firstOfSeq fc ((G.body p).drop (d + 1)) a) : IV G γ q 0 b := by
  obtain ⟨hp, δ, z, hγ, -, hz, hctx⟩ := h
  obtain ⟨y2, hy2, hb2⟩ := firstOfSeq_exact VF.nullS VF.firstS hz
    (fun X hXm => VF.prodB p hp X (List.mem_of_mem_drop hXm)) hb
  refine ⟨hq, γ, y2 ++ z, by simp, Nat.zero_le _, hb2, ?_⟩
  intro x' y' hx' hy'
  rw [hγ] at hx'
  obtain ⟨x, y1, rfl, hx, hy1⟩ := hx'.append_inv
  have := hctx x _ hx (.split hX hy1 (.nt hq hy' hy2))
  simpa [List.append_assoc] using this

theorem IV.advance {G : NGrammar} {γ : List Sym} {p d a : Nat} {X : Sym} (h : IV G γ p d a)
    (hX : (G.body p)[d]? = some X) : IV G (γ ++ [X]) p (d + 1) a := by
  obtain ⟨hp, δ, z, hγ, -, hz, hctx⟩ := h
  refine ⟨hp, δ, z, ?_, ?_, hz, hctx⟩
  · rw [hγ, List.take_add_one, hX]; simp
  · have := (List.getElem?_eq_some_iff.mp hX).1; omega

/-- the stack of states with the grammar symbols of its entries (top first): consecutive states
    are linked by edges of the tables -/
inductive VStk (T : PTables) : List Nat → List Sym → Prop
  | base : VStk T [0] []
  | push {s ss γ X s'} : VStk T (s :: ss) γ → Edge T s X s' → VStk T (s' :: s :: ss) (X :: γ)

theorem VStk.length {T : PTables} {ss : List Nat} {γ : List Sym} (h : VStk T ss γ) :
    ss.length = γ.length + 1 := by
  induction h with
  | base => rfl
  | push _ _ ih => simp [ih]

theorem VStk.drop {T : PTables} {ss : List Nat} {γ : List Sym} (h : VStk T ss γ) :
    ∀ k, k ≤ γ.length → VStk T (ss.drop k) (γ.drop k) := by
  induction h with
  | base => intro k hk; simp at hk; subst hk; exact .base
  | push h1 h2 ih =>
    intro k hk
    cases k with
    | zero => exact .push h1 h2
    | succ k => simpa using ih k (by simpa using hk)

theorem VStk.pop_push {T : PTables} {ss : List Nat} {γ : List Sym} (hS : VStk T ss γ) {k r : Nat}
    {rest : List Nat} (hd : ss.drop k = r :: rest) {X : Sym} {s' : Nat} (he : Edge T r X s') :
    VStk T (s' :: r :: rest) (X :: γ.drop k) := by
  have hlen := hS.length
  have hdl := congrArg List.length hd
  simp only [List.length_drop, List.length_cons] at hdl
  have hS' := hS.drop k (by omega)
  rw [hd] at hS'
  exact .push hS' he

/-- how `itemsJust` justifies the items of one state: the start item, closure items from earlier
    items of the list, kernel items from outside (`kernel`) -/
theorem itemsJust_ind {G : NGrammar} {fc : FirstCert} {s : Nat} {Q : Nat → Nat → Nat → Prop}
    (start : s = 0 → 0 < G.prods.size → Q 0 0 1)
    (closure : ∀ {p d a q b}, Q p d a → (G.body p)[d]? = some (Sym.nt (G.head q)) →
      q < G.prods.size → b ∈ firstOfSeq fc ((G.body p).drop (d + 1)) a → Q q 0 b) :
    ∀ {L : List (Nat × Nat × Nat)}, itemsJust G fc s L = true →
      (kernel : s ≠ 0 → ∀ p d a, (p, d + 1, a) ∈ L → Q p (d + 1) a) →
      ∀ p d a, (p, d, a) ∈ L → Q p d a
  | [], _, _, p, d, a, hm => by cases hm
  | (q, d0, b) :: earlier, h, hk, p, d, a, hm => by
    simp only [itemsJust, Bool.and_eq_true] at h
    have ih := itemsJust_ind start closure h.2
      (fun hs p d a hm => hk hs p d a (List.mem_cons_of_mem _ hm))
    rcases List.mem_cons.mp hm with e | hm'
    · obtain ⟨hpq, hdd, hab⟩ : p = q ∧ d = d0 ∧ a = b := by simpa using e
      subst hpq hdd hab
      have h1 := h.1
      rcases d with _ | d
      · simp only [beq_self_eq_true, if_true, Bool.and_eq_true, decide_eq_true_eq,
          Bool.or_eq_true, beq_iff_eq] at h1
        obtain ⟨hq, ⟨⟨hs, hq0⟩, hb⟩ | hc⟩ := h1
        · subst hs hq0 hb
          exact start rfl hq
        · simp only [closureJust, List.any_eq_true, Bool.and_eq_true, beq_iff_eq,
            List.contains_eq_mem, decide_eq_true_eq] at hc
          obtain ⟨⟨p', d', a'⟩, hm2, hX, hb⟩ := hc
          exact closure (ih p' d' a' hm2) hX hq hb
      · have hs : s ≠ 0 := by simpa using h1
        exact hk hs p d a (List.mem_cons_self ..)
    · exact ih p d a hm'

/-- induction over the justification of the items along a stack: what holds of the start item on
    the initial stack, passes from an item to its closure items, and along an edge from an item to
    the item behind the dot, holds of every item of the top state (`γ` bottom first) -/
theorem VStk.items_ind {G : NGrammar} {T : PTables} {c : CertLA} {fc : FirstCert}
    (VF : ValidFacts G T c fc) {P : List Nat → List Sym → Nat → Nat → Nat → Prop}
    (start : 0 < G.prods.size → P [0] [] 0 0 1)
    (closure : ∀ {ss γ p d a q b}, P ss γ p d a → (G.body p)[d]? = some (Sym.nt (G.head q)) →
      q < G.prods.size → b ∈ firstOfSeq fc ((G.body p).drop (d + 1)) a → P ss γ q 0 b)
    (advance : ∀ {s r γ p d a X s'}, P (s :: r) γ p d a → (p, d, a) ∈ c[s]?.getD [] →
      (G.body p)[d]? = some X → Edge T s X s' → P (s' :: s :: r) (γ ++ [X]) p (d + 1) a)
    {ss : List Nat} {γ : List Sym} (h : VStk T ss γ) :
    ∀ p d a, (p, d, a) ∈ c[ss.headD 0]?.getD [] → P ss γ.reverse p d a := by
  induction h with
  | base =>
    intro p d a hm
    exact itemsJust_ind (s := 0) (fun _ => start) closure (VF.just 0) (fun h => absurd rfl h)
      p d a (by simpa using hm)
  | @push s ss γ X s' h1 he ih =>
    intro p d a hm
    obtain ⟨hs', hk⟩ := VF.edge s X s' he
    refine itemsJust_ind (s := s') (fun h => absurd h hs') closure (VF.just s') ?_ p d a
      (by simpa using hm)
    intro _ p d a hm
    obtain ⟨hX, hm'⟩ := hk p d a (by simpa using hm)
    rw [List.reverse_cons]
    exact advance (ih p d a (by simpa using hm')) (by simpa using hm') hX he

theorem VStk.valid {G : NGrammar} {T : PTables} {c : CertLA} {fc : FirstCert}
    (VF : ValidFacts G T c fc) {ss : List Nat} {γ : List Sym} (h : VStk T ss γ) :
    ∀ p d a, (p, d, a) ∈ c[ss.headD 0]?.getD [] → IV G γ.reverse p d a :=
  VStk.items_ind VF (P := fun _ γ => IV G γ) IV.start (IV.closure VF)
    (fun h _ hX _ => h.advance hX) h

theorem shift_ne_eof {G : NGrammar} {T : PTables} {c : CertLA} {fc : FirstCert}
    (VF : ValidFacts G T c fc) {s a s' : Nat} (ha : T.act s a = some (.shift s')) : a ≠ 1 := by
  obtain ⟨p, d, la, -, hX⟩ := VF.shiftJ s a s' ha
  rintro rfl
  have hm := List.mem_of_getElem? hX
  exact (VF.noTok p (NGrammar.lt_size_of_mem hm)).2 hm

theorem sentence_no_eof {G : NGrammar} {T : PTables} {c : CertLA} {fc : FirstCert}
    (VF : ValidFacts G T c fc) {k : Nat} (hk : k = 0 ∨ k = 1) {u : List Nat} (h : NSentence G u) :
    k ∉ u := by
  have hb : ∀ p, p < G.prods.size → Sym.t k ∉ G.body p := by
    intro p hp
    rcases hk with rfl | rfl
    · exact (VF.noTok p hp).1
    · exact (VF.noTok p hp).2
  exact NDerives.no_tok hb h fun hm => hb 0 (NGrammar.lt_size_of_mem hm) hm

theorem IV.complete_item {G : NGrammar} {T : PTables} {c : CertLA} {fc : FirstCert}
    (VF : ValidFacts G T c fc) {γ : List Sym} {p a : Nat} {u : List Nat}
    (h : IV G γ p (G.body p).length a) (hu : NDerives G γ u) :
    (a ≠ 1 → ∃ v, NSentence G (u ++ a :: v)) ∧ (a = 1 → NSentence G u) := by
  obtain ⟨hp, δ, z, hγ, -, hz, hctx⟩ := h
  rw [hγ, List.take_length] at hu
  obtain ⟨x, y, rfl, hx, hy⟩ := hu.append_inv
  have hs := hctx x y hx hy
  rcases z with _ | ⟨b, z⟩
  · simp only [List.head?_nil, Option.getD_none] at hz
    subst hz
    exact ⟨fun h => absurd rfl h, fun _ => by simpa using hs⟩
  · simp only [List.head?_cons, Option.getD_some] at hz
    subst hz
    refine ⟨fun _ => ⟨z, hs⟩, fun h1 => ?_⟩
    subst h1
    exact absurd (by simp) (sentence_no_eof VF (.inr rfl) hs)

/-- (key lemma) the stack spells `γ`, `γ` derives the consumed input `u`, and the top state has
    an action on terminal `a`: then `u a` is a prefix of a sentence (`u` is a sentence when `a`
    is end of input) -/
theorem act_viable {G : NGrammar} {T : PTables} {c : CertLA} {fc : FirstCert}
    (VF : ValidFacts G T c fc) {top : Nat} {rest : List Nat} {γ : List Sym}
    (hS : VStk T (top :: rest) γ) {u : List Nat} (hu : NDerives G γ.reverse u) {a : Nat} {act : Act}
    (ha : T.act top a = some act) :
    (a ≠ 1 → ∃ v, NSentence G (u ++ a :: v)) ∧ (a = 1 → NSentence G u) := by
  have hval := hS.valid VF
  simp only [List.headD_cons] at hval
  cases act with
  | shift s' =>
    obtain ⟨p, d, la, hm, hX⟩ := VF.shiftJ top a s' ha
    obtain ⟨hp, δ, z, hγ, -, hz, hctx⟩ := hval p d la hm
    refine ⟨fun _ => ?_, fun h => absurd h (shift_ne_eof VF ha)⟩
    rw [hγ] at hu
    obtain ⟨x, y1, rfl, hx, hy1⟩ := hu.append_inv
    obtain ⟨y2, hy2⟩ : ∃ y, NDerives G ((G.body p).drop (d + 1)) y :=
      productive_of_all fun X hXm => VF.prodB p hp X (List.mem_of_mem_drop hXm)
    refine ⟨y2 ++ z, ?_⟩
    have := hctx x _ hx (.split hX hy1 (.term hy2))
    simpa [List.append_assoc] using this
  | reduce p => exact (hval p _ a (VF.reduceJ top a p ha)).complete_item VF hu
  | accept =>
    obtain ⟨rfl, hm⟩ := VF.acceptJ top a ha
    exact (hval 0 _ 1 hm).complete_item VF hu

/-- the invariant: the stack spells a string `γ` of grammar symbols that derives the `m` tokens
    consumed so far, which are a prefix of a sentence; the look-ahead is token `m` -/
def VInv (G : NGrammar) (T : PTables) (w : List Nat) (ps : PState) : Prop :=
  ∃ γ m, VStk T ps.states γ ∧ NDerives G γ.reverse (w.take m) ∧ ps.ntok = m + 1 ∧
    ps.next = scanTok w m ∧ m ≤ w.length ∧ NViablePrefix G (w.take m)

theorem body0_productive {G : NGrammar} {T : PTables} {c : CertLA} {fc : FirstCert}
    (VF : ValidFacts G T c fc) : ∃ v, NSentence G v :=
  productive_of_all fun X hX => VF.prodB 0 (NGrammar.lt_size_of_mem hX) X hX

theorem vinv_init {G : NGrammar} {T : PTables} {c : CertLA} {fc : FirstCert}
    (VF : ValidFacts G T c fc) (w : List Nat) : VInv G T w (initPS w) := by
  obtain ⟨v, hv⟩ := body0_productive VF
  exact ⟨[], 0, .base, .nil, rfl, rfl, Nat.zero_le _, v, by simpa using hv⟩

theorem step_vinv {G : NGrammar} {cfg : PCfg} {c : CertLA} {fc fc' : FirstCert}
    (VF : ValidFacts G cfg.T c fc) (F : CompleteFacts G cfg.T fc' c)
    (hr : ∀ s : Nat, cfg.T.canRecover[s]?.getD false = false)
    {w : List Nat} {ps ps1 : PState} (hI : VInv G cfg.T w ps) (h : step cfg w ps = .cont ps1) :
    VInv G cfg.T w ps1 := by
  obtain ⟨top, rest, a, hst, -, ha, hdo⟩ := step_cont_inv hr h
  obtain ⟨γ, m, hS, hu, hnt, hnx, hle, hvp⟩ := hI
  rw [hst] at hS
  have hav := act_viable VF hS hu ha
  cases a with
  | accept => exact absurd hdo doAct_accept_ne_cont
  | shift s' =>
    simp only [doAct, StepR.cont.injEq] at hdo
    subst hdo
    have hne := shift_ne_eof VF ha
    have hlt : m < w.length := scanTok_lt (w := w) (m := m) (by rw [← hnx]; exact hne)
    have hty : ps.next.2 = w[m] := by rw [hnx]; exact scanTok_snd_lt hlt
    have htake : w.take (m + 1) = w.take m ++ [ps.next.2] := by
      rw [List.take_add_one, hty]; simp [hlt]
    refine ⟨Sym.t ps.next.2 :: γ, m + 1, ?_, ?_, by simp [hnt], by simp [hnt], hlt, ?_⟩
    · simp only [hst]
      exact .push hS ha
    · rw [List.reverse_cons, htake]
      exact hu.append (.term .nil)
    · obtain ⟨v, hv⟩ := hav.1 hne
      exact ⟨v, by rw [htake]; simpa using hv⟩
  | reduce p =>
    obtain ⟨hn, t', rest', g, hd, hg, hg0, hs1, hnx1, hnt1⟩ := doAct_reduce_inv hdo
    have hm := VF.reduceJ top _ p ha
    obtain ⟨hp, δ, z, hγ, -, -, -⟩ := hS.valid VF p _ _ (by simpa using hm)
    rw [List.take_length] at hγ
    rw [F.prodLen p hp, F.prodNT p hp] at *
    simp only [Option.getD_some] at hn hd hg
    have hδ : (γ.drop (G.body p).length).reverse = δ := by
      rw [List.reverse_drop, ← List.length_reverse, hγ, List.length_append, Nat.add_sub_cancel,
        List.take_left]
    rw [hγ] at hu
    obtain ⟨x, y, hxy, hx, hy⟩ := hu.append_inv
    refine ⟨Sym.nt (G.head p) :: γ.drop (G.body p).length, m, ?_, ?_, by rw [hnt1, hnt],
      by rw [hnx1, hnx], hle, hvp⟩
    · rw [hs1]
      exact (hst ▸ hS).pop_push hd ⟨g, hg, hg0, rfl⟩
    · rw [List.reverse_cons, hδ, hxy]
      exact hx.append (.of_body hp hy)

theorem Steps.vinv {G : NGrammar} {cfg : PCfg} {c : CertLA} {fc fc' : FirstCert}
    (VF : ValidFacts G cfg.T c fc) (F : CompleteFacts G cfg.T fc' c)
    (hr : ∀ s : Nat, cfg.T.canRecover[s]?.getD false = false)
    {w : List Nat} {a b : PState} (h : Steps cfg w a b) : VInv G cfg.T w a → VInv G cfg.T w b :=
  h.inv fun _ _ hI hs => step_vinv VF F hr hI hs

theorem stuck_not_sentence {G : NGrammar} {cfg : PCfg} {fc : FirstCert} {c : CertLA}
    (hf : firstOk G fc = true) (hc : complete G cfg.T fc c = true)
    (hr : ∀ s : Nat, cfg.T.canRecover[s]?.getD false = false) (hA : ActsOk cfg)
    {w : List Nat} {ps : PState} (hrun : Steps cfg w (initPS w) ps)
    {top : Nat} {rest : List Nat} (hst : ps.states = top :: rest)
    (ha : cfg.T.act top ps.next.2 = none) : ¬ NSentence G w := by
  intro hs
  obtain ⟨fuel, r, hacc⟩ := parse_accepts hf hc hA hs (initPS w)
  rw [parse_eq] at hacc
  obtain ⟨o, ps', hd, hno⟩ := step_noact_done hr w hst ha
  obtain ⟨n, hn⟩ := steps_done hrun hd
  have h1 := parseLoop_fuel_mono (cfg := cfg) (w := w) (fuel := fuel) (ps := initPS w)
    (by rw [hacc]; exact Outcome.noConfusion) n
  rw [hn _ (Nat.le_add_left n fuel)] at h1
  rw [← h1] at hacc
  exact hno r hacc

/-- (first offending token) the parser is stuck after consuming `w.take m`: no string beginning
    with the look-ahead continues the consumed input to a sentence -/
theorem stuck_ext {G : NGrammar} {cfg : PCfg} {fc : FirstCert} {c : CertLA}
    (hf : firstOk G fc = true) (hc : complete G cfg.T fc c = true)
    (hr : ∀ s : Nat, cfg.T.canRecover[s]?.getD false = false) (hA : ActsOk cfg)
    {w : List Nat} {ps : PState} (hrun : Steps cfg w (initPS w) ps)
    {top : Nat} {rest : List Nat} (hst : ps.states = top :: rest)
    (ha : cfg.T.act top ps.next.2 = none) {m : Nat} (hnt : ps.ntok = m + 1)
    (hnx : ps.next = scanTok w m) (hle : m ≤ w.length) {x : List Nat}
    (hx : x.head?.getD 1 = ps.next.2) : ¬ NSentence G (w.take m ++ x) := by
  refine stuck_not_sentence hf hc hr hA (hrun.transfer hr fun j hj => ?_) hst ha
  by_cases hjm : j < m
  · exact scanTok_take_append x hjm hle
  · obtain rfl : j = m := by omega
    rw [scanTok_take_at x hle, hx, ← hnx]
    have := scanTok_fst w j
    rw [← hnx] at this
    rw [← this]

/-- the error state is entered by a shift (or is the initial one): no step was made with the
    offending token as look-ahead.  Hence the same stack is reached on every input that agrees
    with `w` on the consumed tokens. -/
theorem err_state_fresh {G : NGrammar} {cfg : PCfg} {fc : FirstCert} {c : CertLA} {fcv : FirstCert}
    (VF : ValidFacts G cfg.T c fcv) (hf : firstOk G fc = true) (hc : complete G cfg.T fc c = true)
    (hr : ∀ s : Nat, cfg.T.canRecover[s]?.getD false = false) (hA : ActsOk cfg)
    {w : List Nat} {ps : PState} (hrun : Steps cfg w (initPS w) ps)
    {top : Nat} {rest : List Nat} (hst : ps.states = top :: rest)
    (ha : cfg.T.act top ps.next.2 = none) {m : Nat} (hnt : ps.ntok = m + 1)
    (hnx : ps.next = scanTok w m) (hle : m ≤ w.length) (w' : List Nat)
    (hag : ∀ j, j < m → scanTok w j = scanTok w' j) :
    Steps cfg w' (initPS w') { ps with next := scanTok w' m } := by
  have F := completeFacts_of hc
  rcases hrun.snoc_inv with heq | ⟨c0, h1, h2⟩
  · subst heq
    have : m = 0 := by simp [initPS] at hnt; omega
    subst this
    exact .refl _
  · obtain ⟨top0, rest0, a, hst0, hlt0, ha0, hdo⟩ := step_cont_inv hr h2
    cases a with
    | accept => exact absurd hdo doAct_accept_ne_cont
    | reduce p =>
      exfalso
      obtain ⟨-, _, _, _, -, -, -, -, e1, e2⟩ := doAct_reduce_inv hdo
      obtain ⟨γ, m0, hS, hu, hnt0, hnx0, -, -⟩ := h1.vinv VF F hr (vinv_init VF w)
      have : m0 = m := by omega
      subst this
      rw [hst0] at hS
      have hav := act_viable VF hS hu ha0
      rw [← e1] at hav
      have stuck := fun x => stuck_ext hf hc hr hA hrun hst ha hnt hnx hle (x := x)
      by_cases h1 : ps.next.2 = 1
      · exact stuck [] (by simp [h1]) (by simpa using hav.2 h1)
      · obtain ⟨v, hv⟩ := hav.1 h1
        exact stuck (ps.next.2 :: v) (by simp) hv
    | shift s' =>
      simp only [doAct, StepR.cont.injEq] at hdo
      subst hdo
      simp only at hnt
      have hcm : c0.ntok = m := by omega
      refine (h1.transfer hr fun j hj => hag j (by omega)).trans (.single ?_)
      rw [step_act hst0 ha0 hlt0]
      simp only [doAct, hcm]

theorem synErr_state {G : NGrammar} {cfg : PCfg} {fc : FirstCert} {c : CertLA} {fcv : FirstCert}
    (VF : ValidFacts G cfg.T c fcv) (F : CompleteFacts G cfg.T fc c)
    (hr : ∀ s : Nat, cfg.T.canRecover[s]?.getD false = false)
    {w : List Nat} {fuel : Nat} {old : PState} {i typ : Nat} {exp : List Nat} {top : Nat}
    (h : (parse cfg w fuel old).1 = .synErr i typ exp top) :
    ∃ ps rest γ, ps = (parse cfg w fuel old).2 ∧ Steps cfg w (initPS w) ps ∧
      ps.states = top :: rest ∧ cfg.T.act top ps.next.2 = none ∧ ps.next = scanTok w i ∧
      ps.next.2 = typ ∧ exp = cfg.T.rowExpected top ∧ VStk cfg.T (top :: rest) γ ∧
      NDerives G γ.reverse (w.take i) ∧ ps.ntok = i + 1 ∧ i ≤ w.length ∧
      NViablePrefix G (w.take i) := by
  have h' : parseLoop cfg w fuel (initPS w) = (.synErr i typ exp top, (parse cfg w fuel old).2) := by
    rw [← h]; rfl
  obtain ⟨rest, hrun, hst, ha, hnx, hexp, -⟩ := parseLoop_synErr hr w fuel (initPS w) h'
  obtain ⟨γ, m, hS, hu, hnt, hnx', hle, hvp⟩ := hrun.vinv VF F hr (vinv_init VF w)
  obtain rfl : i = m := by
    have := scanTok_fst w m
    rwa [← hnx', hnx] at this
  rw [hst] at hS
  exact ⟨_, rest, γ, rfl, hrun, hst, ha, hnx', by rw [hnx], hexp, hS, hu, hnt, hle, hvp⟩

theorem complete_numSymbols {G : NGrammar} {T : PTables} {fc : FirstCert} {c : CertLA}
    (h : complete G T fc c = true) : 1 < T.numSymbols := by
  simp only [complete, Bool.and_eq_true, decide_eq_true_eq] at h
  exact h.1.1.1.1.1.1

end Gocc
