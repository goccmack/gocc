import Gocc.Proofs.Numbering
/-
FIRST sets.  The store (`FirstSets`, an association list) is read through `get`; `firstS` is
characterised by the sequence rule `InFirstSeq`.  `GetFirstSets` (`firstPass` / `firstSetsFuel` /
`firstSets`): the Go loop `for again` has no iteration bound, the model runs it on fuel; the number
of stored (head, terminal) pairs strictly increases with every productive pass and is bounded, so
the fuel is never exhausted (`firstSets_spec`).
-/
namespace Gocc

theorem FirstSets.get_eq (fs : FirstSets) (A : String) :
    fs.get A = ((fs.find? (·.1 == A)).map (·.2)).getD [] := by
  unfold FirstSets.get
  split <;> rename_i h <;> rw [h] <;> rfl

theorem get_of_find {fs : FirstSets} {A : String} {o : Option (String × List String)}
    (h : fs.find? (·.1 == A) = o) : fs.get A = (o.map (·.2)).getD [] := by
  rw [FirstSets.get_eq, h]

theorem get_nil_or_mem (fs : FirstSets) (A : String) : fs.get A = [] ∨ (A, fs.get A) ∈ fs := by
  rcases h : fs.find? (·.1 == A) with _ | ⟨k, s⟩
  · exact .inl (get_of_find h)
  · have hk : k = A := by simpa using List.find?_some h
    rw [get_of_find h]
    exact .inr (hk ▸ List.mem_of_find?_eq_some h)

theorem mem_fsGet {fs : FirstSets} {n t : String} (h : t ∈ fs.get n) : ∃ e ∈ fs, t ∈ e.2 := by
  rcases get_nil_or_mem fs n with h' | h'
  · rw [h'] at h; cases h
  · exact ⟨_, h', h⟩

theorem get_of_mem {fs : FirstSets} (hk : (fs.map (·.1)).Nodup) {e : String × List String}
    (he : e ∈ fs) : fs.get e.1 = e.2 := by
  induction fs with
  | nil => cases he
  | cons a as ih =>
    rw [List.map_cons, List.nodup_cons] at hk
    rw [FirstSets.get_eq, List.find?_cons]
    rcases List.mem_cons.1 he with rfl | he'
    · rw [beq_self_eq_true]; rfl
    · have : (a.1 == e.1) = false := by
        rw [beq_eq_false_iff_ne]
        exact fun h => hk.1 (List.mem_map.2 ⟨e, he', h.symm⟩)
      rw [this, ← FirstSets.get_eq]
      exact ih hk.2 he'

/-- the update performed by `addTok` on an existing key -/
def bump (n t : String) (e : String × List String) : String × List String :=
  if e.1 == n then (e.1, e.2 ++ [t]) else e

theorem bump_fst (n t : String) (e : String × List String) : (bump n t e).1 = e.1 := by
  unfold bump; split <;> rfl

theorem addTok_eq (fs : FirstSets) (n t : String) :
    fs.addTok n t =
      match fs.find? (·.1 == n) with
      | some (_, s) => if s.contains t then (fs, false) else (fs.map (bump n t), true)
      | none => (fs ++ [(n, [t])], true) := by
  have : (fun (x : String × List String) =>
      match x with | (m, s') => if m == n then (m, s' ++ [t]) else (m, s')) = bump n t := by
    funext ⟨m, s⟩; rfl
  unfold FirstSets.addTok
  rw [this]
  rfl

theorem get_addTok (fs : FirstSets) (n t A : String) :
    (fs.addTok n t).1.get A = if A = n then addNoDup (fs.get n) t else fs.get A := by
  rw [addTok_eq]
  rcases hn : fs.find? (·.1 == n) with _ | ⟨m, s⟩
  · have hfind : (fs ++ [(n, [t])]).find? (·.1 == A) =
        (fs.find? (·.1 == A)).or (if n == A then some (n, [t]) else none) := by
      rw [List.find?_append, List.find?_singleton]
    rw [hn]
    dsimp only
    rw [get_of_find hfind]
    by_cases hA : A = n
    · rw [hA, if_pos rfl, hn, get_of_find hn, if_pos (beq_self_eq_true n)]
      rfl
    · rw [if_neg hA, if_neg (by simpa using Ne.symm hA), Option.or_none, ← FirstSets.get_eq]
  · have hm : m = n := by simpa using List.find?_some hn
    subst hm
    have hget : fs.get m = s := get_of_find hn
    rw [hn]
    dsimp only
    split
    · rename_i hc
      split
      · rename_i hA
        rw [hA, hget, addNoDup, if_pos hc]
      · rfl
    · rename_i hc
      have hfind : (fs.map (bump m t)).find? (·.1 == A) =
          (fs.find? (·.1 == A)).map (bump m t) := by
        rw [List.find?_map]
        congr 2
        funext e
        simp only [Function.comp, bump_fst]
      rw [get_of_find hfind]
      by_cases hA : A = m
      · rw [hA, if_pos rfl, hn, hget, addNoDup, if_neg hc]
        simp only [Option.map_some, Option.getD_some, bump, beq_self_eq_true, if_true]
      · rw [if_neg hA]
        rcases hfa : fs.find? (·.1 == A) with _ | e
        · rw [get_of_find hfa, hfa]; rfl
        · have ha : e.1 = A := by simpa using List.find?_some hfa
          rw [get_of_find hfa, hfa]
          simp only [Option.map_some, Option.getD_some, bump]
          rw [if_neg (by rw [ha]; simpa using hA)]

theorem addTok_flag (fs : FirstSets) (n t : String) :
    (fs.addTok n t).2 = !(fs.get n).contains t := by
  rw [addTok_eq]
  rcases hn : fs.find? (·.1 == n) with _ | ⟨m, s⟩
  · rw [hn, get_of_find hn]; rfl
  · rw [hn, get_of_find hn]
    dsimp only
    split <;> rename_i hc
    · rw [Option.map_some, Option.getD_some, hc]; rfl
    · rw [Option.map_some, Option.getD_some, Bool.not_eq_true] at *; rw [hc]; rfl

theorem keys_addTok (fs : FirstSets) (n t : String) :
    (fs.addTok n t).1.map (·.1) = addNoDup (fs.map (·.1)) n := by
  rw [addTok_eq, addNoDup]
  split
  · rename_i m s hn
    have hm : m = n := by simpa using List.find?_some hn
    rw [if_pos (List.contains_iff_mem.2 (List.mem_map.2 ⟨_, List.mem_of_find?_eq_some hn, hm⟩))]
    split
    · rfl
    · rw [List.map_map]
      exact List.map_congr_left fun e _ => bump_fst n t e
  · rename_i hn
    rw [if_neg, List.map_append]; rfl
    rw [List.contains_iff_mem]
    intro h
    obtain ⟨e, he, rfl⟩ := List.mem_map.1 h
    exact absurd (beq_self_eq_true _) (List.find?_eq_none.1 hn e he)

theorem addSet_fold (n : String) : ∀ (ts : List String) (acc : FirstSets × Bool),
    (∀ A, ((ts.foldl (fun (acc : FirstSets × Bool) t =>
        let r := acc.1.addTok n t; (r.1, acc.2 || r.2)) acc).1).get A =
      if A = n then ts.foldl addNoDup (acc.1.get n) else acc.1.get A) ∧
    (ts.foldl (fun (acc : FirstSets × Bool) t =>
        let r := acc.1.addTok n t; (r.1, acc.2 || r.2)) acc).2 =
      (acc.2 || ts.any fun t => !(acc.1.get n).contains t) := by
  intro ts
  induction ts with
  | nil => intro acc; exact ⟨fun A => by split <;> simp_all, by simp⟩
  | cons t ts ih =>
    intro acc
    obtain ⟨h1, h2⟩ := ih ((acc.1.addTok n t).1, acc.2 || (acc.1.addTok n t).2)
    rw [List.foldl_cons]
    refine ⟨fun A => ?_, ?_⟩
    · rw [h1 A, get_addTok, get_addTok, if_pos rfl]
      split <;> rfl
    · rw [h2, get_addTok, if_pos rfl, addTok_flag, List.any_cons, Bool.or_assoc]
      congr 1
      -- a later token is new for the grown set iff it is new for the old one or is `t` again
      cases hc : (acc.1.get n).contains t
      · rfl
      · rw [addNoDup, if_pos hc]

theorem get_addSet (fs : FirstSets) (n : String) (ts : List String) (A : String) :
    (fs.addSet n ts).1.get A = if A = n then ts.foldl addNoDup (fs.get n) else fs.get A :=
  (addSet_fold n ts (fs, false)).1 A

theorem addSet_flag (fs : FirstSets) (n : String) (ts : List String) :
    (fs.addSet n ts).2 = ts.any fun t => !(fs.get n).contains t :=
  (addSet_fold n ts (fs, false)).2.trans (Bool.false_or _)

theorem isTerminal_iff {S : PSymbols} {x : String} : S.isTerminal x = true ↔ x ∉ S.ntList := by
  rw [PSymbols.isTerminal, Bool.not_eq_true', ← Bool.not_eq_true, List.contains_iff_mem]

theorem first_nt {S : PSymbols} {fs : FirstSets} {y : String} (hy : y ∈ S.ntList) :
    first S fs y = fs.get y := by
  rw [first, if_neg fun h => isTerminal_iff.1 h hy]

theorem first_t {S : PSymbols} {fs : FirstSets} {y : String} (hy : y ∉ S.ntList) :
    first S fs y = [y] := by
  rw [first, if_pos (isTerminal_iff.2 hy)]

/-- `t` is in the FIRST set (as stored, marker `empty` included) of a symbol of `syms` all of whose
    predecessors have the marker `empty` in theirs -/
def InFirstSeq (S : PSymbols) (fs : FirstSets) (t : String) : List String → Prop
  | [] => False
  | x :: rest => t ∈ first S fs x ∨ ("empty" ∈ first S fs x ∧ InFirstSeq S fs t rest)

theorem InFirstSeq.exists {S : PSymbols} {fs : FirstSets} {t : String} :
    ∀ {syms : List String}, InFirstSeq S fs t syms → ∃ y ∈ syms, t ∈ first S fs y
  | _ :: _, .inl h => ⟨_, List.mem_cons_self .., h⟩
  | _ :: _, .inr ⟨_, h⟩ => let ⟨y, hy, hty⟩ := h.exists; ⟨y, List.mem_cons_of_mem _ hy, hty⟩

theorem go_fst_iff {S : PSymbols} {fs : FirstSets} {t : String} :
    ∀ (ys acc : List String) (ce : Bool), t ∈ (firstS.go S fs acc ce ys).1 ↔
      t ∈ acc ∨ (ce = true ∧ InFirstSeq S fs t ys) := by
  intro ys
  induction ys with
  | nil => intro acc ce; simp [firstS.go, InFirstSeq]
  | cons y ys ih =>
    intro acc ce
    rw [firstS.go]
    cases ce
    · simp
    · rw [if_pos rfl, ih, foldl_addNoDup_mem_iff, List.contains_iff_mem, InFirstSeq, or_assoc]
      simp

theorem go_snd_iff {S : PSymbols} {fs : FirstSets} :
    ∀ (ys acc : List String) (ce : Bool), (firstS.go S fs acc ce ys).2 = true ↔
      ce = true ∧ ∀ y ∈ ys, "empty" ∈ first S fs y := by
  intro ys
  induction ys with
  | nil => intro acc ce; simp [firstS.go]
  | cons y ys ih =>
    intro acc ce
    rw [firstS.go]
    cases ce
    · simp
    · rw [if_pos rfl, ih, List.contains_iff_mem]
      simp

theorem mem_firstS_iff {S : PSymbols} {fs : FirstSets} {syms : List String} {t : String} :
    t ∈ firstS S fs syms ↔
      InFirstSeq S fs t syms ∧ (t = "empty" → ∀ y ∈ syms, "empty" ∈ first S fs y) := by
  cases syms with
  | nil => simp [firstS, InFirstSeq]
  | cons x rest =>
    have h1 := go_fst_iff (S := S) (fs := fs) (t := t) rest ((first S fs x).foldl addNoDup [])
      ((first S fs x).contains "empty")
    have h2 := go_snd_iff (S := S) (fs := fs) rest ((first S fs x).foldl addNoDup [])
      ((first S fs x).contains "empty")
    rw [foldl_addNoDup_mem_iff, List.contains_iff_mem] at h1
    rw [List.contains_iff_mem] at h2
    simp only [List.not_mem_nil, false_or] at h1
    rw [firstS]
    split
    · rename_i hf
      rw [h1, InFirstSeq]
      have := h2.1 hf
      exact ⟨fun h => ⟨h, fun _ y hy => by
        rcases List.mem_cons.1 hy with rfl | hy
        · exact this.1
        · exact this.2 y hy⟩, fun h => h.1⟩
    · rename_i hf
      rw [List.mem_filter, h1, InFirstSeq]
      refine and_congr_right fun _ => ?_
      constructor
      · intro hne he
        simp [he] at hne
      · intro hall
        have : t ≠ "empty" := fun he => hf (h2.2 ⟨hall he x (List.mem_cons_self ..),
          fun y hy => hall he y (List.mem_cons_of_mem _ hy)⟩)
        simpa using this

theorem mem_first1_iff {C : LRCtx} {i : Item} {t : String} :
    t ∈ first1 C i ↔ t ∈ firstS C.S C.fs ((C.body i).drop (i.d + 1) ++ [i.la]) := by
  unfold first1 sortStrings
  exact List.mem_mergeSort

theorem mem_firstS {S : PSymbols} {fs : FirstSets} {syms : List String} {t : String}
    (h : t ∈ firstS S fs syms) : ∃ y ∈ syms, t ∈ first S fs y :=
  (mem_firstS_iff.1 h).1.exists

theorem mem_firstS' {S : PSymbols} {fs : FirstSets} {syms : List String} {t : String}
    (h : t ∈ firstS S fs syms) : t ∈ syms ∨ ∃ e ∈ fs, t ∈ e.2 := by
  obtain ⟨y, hy, hty⟩ := mem_firstS h
  unfold first at hty
  split at hty
  · exact .inl (List.mem_singleton.1 hty ▸ hy)
  · exact .inr (mem_fsGet hty)

/-- universe of set elements -/
def firstU (S : PSymbols) : List String := "empty" :: S.typeMap

/-- well-formedness of the symbol table w.r.t. the productions (what `NewSymbols` establishes) -/
def WFp (S : PSymbols) (prods : List SProd) : Prop :=
  ∀ p ∈ prods, p.head ∈ S.ntList ∧ ∀ s ∈ p.body, s.name ∈ S.typeMap

instance (S : PSymbols) (prods : List SProd) : Decidable (WFp S prods) := by
  unfold WFp; infer_instance

structure FInv (S : PSymbols) (fs : FirstSets) : Prop where
  keys : (fs.map (·.1)).Nodup
  heads : ∀ e ∈ fs, e.1 ∈ S.ntList
  vals : ∀ e ∈ fs, e.2.Nodup ∧ ∀ t ∈ e.2, t ∈ firstU S

theorem FInv.nil (S : PSymbols) : FInv S [] :=
  ⟨by simp, by simp, by simp⟩

theorem newSymbols_WFp {prods : List SProd} {S0 : PSymbols} (h : newSymbols prods = .ok S0) :
    WFp S0 prods := fun p hp =>
  ⟨(mem_newSymbols_ntList h).2 ⟨p, hp, rfl⟩, fun s hs =>
    (mem_newSymbols_typeMap h).2 (.inr (.inr ⟨p, hp, .inr ⟨s, hs, rfl⟩⟩))⟩

theorem WFp_addTokens {prods : List SProd} {S : PSymbols} (h : WFp S prods) (ids : List String) :
    WFp (S.addTokens ids) prods := by
  intro p hp
  have := h p hp
  refine ⟨this.1, fun s hs => ?_⟩
  show s.name ∈ ids.foldl addNoDup S.typeMap
  exact foldl_addNoDup_mem_iff.2 (Or.inl (this.2 s hs))

theorem FInv.get {S : PSymbols} {fs : FirstSets} (h : FInv S fs) (A : String) :
    (fs.get A).Nodup ∧ ∀ t ∈ fs.get A, t ∈ firstU S := by
  rcases get_nil_or_mem fs A with h' | h'
  · rw [h']; exact ⟨List.nodup_nil, fun _ h => nomatch h⟩
  · exact h.vals _ h'

theorem addTok_inv {S : PSymbols} {fs : FirstSets} (h : FInv S fs) {n t : String}
    (hn : n ∈ S.ntList) (ht : t ∈ firstU S) : FInv S (fs.addTok n t).1 := by
  have hkeys : ((fs.addTok n t).1.map (·.1)).Nodup := by
    rw [keys_addTok]; exact addNoDup_nodup h.keys
  refine ⟨hkeys, fun e he => ?_, fun e he => ?_⟩
  · have : e.1 ∈ (fs.addTok n t).1.map (·.1) := List.mem_map.2 ⟨e, he, rfl⟩
    rw [keys_addTok, mem_addNoDup] at this
    rcases this with hk | hk
    · obtain ⟨e0, he0, h0⟩ := List.mem_map.1 hk
      exact h0 ▸ h.heads e0 he0
    · exact hk ▸ hn
  · rw [← get_of_mem hkeys he, get_addTok]
    split
    · refine ⟨addNoDup_nodup (h.get n).1, fun x hx => ?_⟩
      rcases mem_addNoDup.1 hx with hx | rfl
      · exact (h.get n).2 x hx
      · exact ht
    · exact h.get _

/-- the measure: number of stored (head, terminal-or-"empty") pairs -/
def fsSize (fs : FirstSets) : Nat := (fs.map (·.2.length)).sum

theorem fsSize_le_mul (fs : FirstSets) (M : Nat) (h : ∀ e ∈ fs, e.2.length ≤ M) :
    fsSize fs ≤ fs.length * M := by
  induction fs with
  | nil => simp [fsSize]
  | cons e es ih =>
    have h1 := h e (List.mem_cons_self ..)
    have h2 := ih (fun x hx => h x (List.mem_cons_of_mem _ hx))
    simp only [fsSize, List.map_cons, List.sum_cons, List.length_cons, Nat.succ_mul] at *
    omega

theorem FInv.size_le {S : PSymbols} {fs : FirstSets} (h : FInv S fs) :
    fsSize fs ≤ S.ntList.length * (S.typeMap.length + 1) := by
  have h1 : fsSize fs ≤ fs.length * (S.typeMap.length + 1) := by
    apply fsSize_le_mul
    intro e he
    have := (h.vals e he)
    have := List.Nodup.length_le_of_subset this.1 (fun t ht => this.2 t ht)
    simpa [firstU] using this
  have h2 : fs.length ≤ S.ntList.length := by
    have := List.Nodup.length_le_of_subset h.keys (l₂ := S.ntList) (by
      intro k hk
      rcases List.mem_map.1 hk with ⟨e, he, rfl⟩
      exact h.heads e he)
    simpa using this
  exact Nat.le_trans h1 (Nat.mul_le_mul_right _ h2)

theorem fsSize_map_bump (fs : FirstSets) (n t : String) :
    fsSize (fs.map (bump n t)) = fsSize fs + fs.countP (·.1 == n) := by
  induction fs with
  | nil => rfl
  | cons e es ih =>
    simp only [fsSize, List.map_cons, List.sum_cons, List.countP_cons] at ih ⊢
    rw [ih]
    cases h : e.1 == n <;> simp [bump, h] <;> omega

theorem addTok_progress (fs : FirstSets) (n t : String) :
    fsSize fs ≤ fsSize (fs.addTok n t).1 ∧
    ((fs.addTok n t).2 = true → fsSize fs < fsSize (fs.addTok n t).1) ∧
    ((fs.addTok n t).2 = false → (fs.addTok n t).1 = fs) := by
  rw [addTok_eq]
  split
  · rename_i m s hfind
    split
    · simp
    · have := fsSize_map_bump fs n t
      have := List.countP_pos_iff.2 ⟨_, List.mem_of_find?_eq_some hfind, List.find?_some hfind⟩
      simp only [Bool.true_eq_false, false_implies, and_true, true_implies]
      omega
  · simp [fsSize]

/-- progress relation between accumulator states `(sets, again)` of a pass -/
def FR (a r : FirstSets × Bool) : Prop :=
  fsSize a.1 ≤ fsSize r.1 ∧ (a.2 = true → r.2 = true) ∧
  (a.2 = false → r.2 = true → fsSize a.1 < fsSize r.1) ∧ (r.2 = false → r.1 = a.1)

theorem FR.refl (a : FirstSets × Bool) : FR a a :=
  ⟨Nat.le_refl _, id, fun h1 h2 => by simp [h1] at h2, fun _ => rfl⟩

theorem FR.trans (a b c : FirstSets × Bool) (h1 : FR a b) (h2 : FR b c) : FR a c := by
  obtain ⟨a1, a2, a3, a4⟩ := h1
  obtain ⟨b1, b2, b3, b4⟩ := h2
  refine ⟨Nat.le_trans a1 b1, fun h => b2 (a2 h), ?_, ?_⟩
  · intro ha hc
    cases hb : b.2 with
    | true => have := a3 ha hb; omega
    | false => have := b3 hb hc; omega
  · intro hc
    have hb : b.2 = false := by
      cases hb : b.2 with
      | true => have := b2 hb; simp [hc] at this
      | false => rfl
    rw [b4 hc, a4 hb]

theorem FR.fix {a r : FirstSets × Bool} (h : FR a r) (hr : r.2 = false) : r = a := by
  have ha : a.2 = false := by
    cases ha : a.2 with
    | false => rfl
    | true => rw [h.2.1 ha] at hr; cases hr
  exact Prod.ext (h.2.2.2 hr) (hr.trans ha.symm)

theorem FR.of_progress (acc : FirstSets × Bool) (fs' : FirstSets) (b : Bool)
    (h : fsSize acc.1 ≤ fsSize fs' ∧ (b = true → fsSize acc.1 < fsSize fs') ∧
      (b = false → fs' = acc.1)) : FR acc (fs', acc.2 || b) := by
  obtain ⟨h1, h2, h3⟩ := h
  refine ⟨h1, ?_, ?_, ?_⟩
  · intro h; simp [h]
  · intro ha hb
    simp only [ha, Bool.false_or] at hb
    exact h2 hb
  · intro hb
    simp only [Bool.or_eq_false_iff] at hb
    exact h3 hb.2

theorem addSet_spec {S : PSymbols} {fs : FirstSets} (h : FInv S fs) {n : String}
    (hn : n ∈ S.ntList) (ts : List String) (hts : ∀ t ∈ ts, t ∈ firstU S) :
    FInv S (fs.addSet n ts).1 ∧ FR (fs, false) (fs.addSet n ts) := by
  unfold FirstSets.addSet
  exact foldl_inv_rel (fun (b : FirstSets × Bool) => FInv S b.1) FR (fun t => t ∈ firstU S)
    (fun (acc : FirstSets × Bool) t => let r := acc.1.addTok n t; (r.1, acc.2 || r.2))
    FR.refl FR.trans
    (fun b t ht hb => ⟨addTok_inv hb hn ht, FR.of_progress b _ _ (addTok_progress b.1 n t)⟩)
    ts (fs, false) hts h

/-- the body of the loop of `firstPass` -/
def passStep (S : PSymbols) (acc : FirstSets × Bool) (p : SProd) : FirstSets × Bool :=
  let fs := acc.1
  match p.body with
  | [] => let r := fs.addTok p.head "empty"; (r.1, acc.2 || r.2)
  | s0 :: _ =>
    if S.isTerminal s0.name then
      let r := fs.addTok p.head s0.name; (r.1, acc.2 || r.2)
    else
      let f := firstS S fs (p.body.map (·.name))
      if !sameSet f (fs.get p.head) then
        let r := fs.addSet p.head f; (r.1, acc.2 || r.2)
      else acc

theorem firstPass_eq (S : PSymbols) (prods : List SProd) (fs : FirstSets) :
    firstPass S prods fs = prods.foldl (passStep S) (fs, false) := rfl

theorem passStep_spec {S : PSymbols} {acc : FirstSets × Bool} {p : SProd}
    (hp : p.head ∈ S.ntList ∧ ∀ s ∈ p.body, s.name ∈ S.typeMap) (hacc : FInv S acc.1) :
    FInv S (passStep S acc p).1 ∧ FR acc (passStep S acc p) := by
  obtain ⟨hh, hb⟩ := hp
  unfold passStep
  dsimp only
  split
  · exact ⟨addTok_inv hacc hh (List.mem_cons_self ..),
      FR.of_progress acc _ _ (addTok_progress acc.1 p.head "empty")⟩
  · rename_i s0 rest hbody
    have hs0 : s0.name ∈ S.typeMap := hb s0 (by rw [hbody]; exact List.mem_cons_self ..)
    split
    · exact ⟨addTok_inv hacc hh (List.mem_cons_of_mem _ hs0),
        FR.of_progress acc _ _ (addTok_progress acc.1 p.head s0.name)⟩
    · split
      · have hsub : ∀ t ∈ firstS S acc.1 (p.body.map (·.name)), t ∈ firstU S := by
          intro t ht
          rcases mem_firstS' ht with h' | ⟨e, he, hte⟩
          · rcases List.mem_map.1 h' with ⟨s, hs, rfl⟩
            exact List.mem_cons_of_mem _ (hb s hs)
          · exact (hacc.vals e he).2 t hte
        have := addSet_spec hacc hh _ hsub
        exact ⟨this.1, FR.of_progress acc _ _ ⟨this.2.1, this.2.2.2.1 rfl, this.2.2.2.2⟩⟩
      · exact ⟨hacc, FR.refl acc⟩

theorem foldl_passStep_spec {S : PSymbols} {l : List SProd}
    (hl : ∀ p ∈ l, p.head ∈ S.ntList ∧ ∀ s ∈ p.body, s.name ∈ S.typeMap)
    {acc : FirstSets × Bool} (hacc : FInv S acc.1) :
    FInv S (l.foldl (passStep S) acc).1 ∧ FR acc (l.foldl (passStep S) acc) :=
  foldl_inv_rel (fun (b : FirstSets × Bool) => FInv S b.1) FR
    (fun (p : SProd) => p.head ∈ S.ntList ∧ ∀ s ∈ p.body, s.name ∈ S.typeMap) (passStep S)
    FR.refl FR.trans (fun _ _ hp hb => passStep_spec hp hb) l acc hl hacc

theorem firstPass_spec {S : PSymbols} {prods : List SProd} (hW : WFp S prods) (fs : FirstSets)
    (hfs : FInv S fs) :
    FInv S (firstPass S prods fs).1 ∧ FR (fs, false) (firstPass S prods fs) :=
  foldl_passStep_spec hW hfs

def firstPassN (S : PSymbols) (prods : List SProd) : Nat → FirstSets → FirstSets
  | 0, fs => fs
  | k + 1, fs => firstPassN S prods k (firstPass S prods fs).1

/-- The `for again` loop: from an invariant state the passes stop adding after `n` productive
    passes, `n` at most the room the measure has left, and every fuel above `n` returns the state
    reached then.  (`m` only drives the induction.) -/
theorem firstSetsFuel_spec {S : PSymbols} {prods : List SProd} (hW : WFp S prods) :
    ∀ (m : Nat) (fs : FirstSets), FInv S fs →
      S.ntList.length * (S.typeMap.length + 1) < fsSize fs + m →
      ∃ n, fsSize fs + n ≤ S.ntList.length * (S.typeMap.length + 1) ∧
        (∀ k, k < n → (firstPass S prods (firstPassN S prods k fs)).2 = true) ∧
        (firstPass S prods (firstPassN S prods n fs)).2 = false ∧
        (∀ fuel, n < fuel → firstSetsFuel S prods fuel fs = firstPassN S prods n fs) ∧
        FInv S (firstPassN S prods n fs) := by
  intro m
  induction m with
  | zero =>
    intro fs hfs hb
    have := hfs.size_le
    omega
  | succ m ih =>
    intro fs hfs hb
    obtain ⟨hinv, hfr⟩ := firstPass_spec hW fs hfs
    cases hr : (firstPass S prods fs).2 with
    | false =>
      refine ⟨0, hfs.size_le, fun k hk => absurd hk (Nat.not_lt_zero _), hr, fun fuel hf => ?_, hfs⟩
      obtain ⟨f, rfl⟩ := Nat.exists_eq_succ_of_ne_zero (Nat.ne_of_gt hf)
      rw [firstSetsFuel, hr]
      exact congrArg Prod.fst (hfr.fix hr)
    | true =>
      have hgt : fsSize fs < fsSize (firstPass S prods fs).1 := hfr.2.2.1 rfl hr
      obtain ⟨n, hn1, hn2, hn3, hn4, hn5⟩ := ih (firstPass S prods fs).1 hinv (by omega)
      refine ⟨n + 1, by omega, ?_, hn3, fun fuel hf => ?_, hn5⟩
      · intro k hk
        cases k with
        | zero => exact hr
        | succ k => exact hn2 k (by omega)
      · obtain ⟨f, rfl⟩ := Nat.exists_eq_succ_of_ne_zero (Nat.ne_of_gt (Nat.zero_lt_of_lt hf))
        rw [firstSetsFuel, hr]
        exact hn4 f (by omega)


theorem firstSets_spec {S : PSymbols} {prods : List SProd} (hW : WFp S prods) :
    ∃ n, n ≤ S.ntList.length * (S.typeMap.length + 1) ∧
      (∀ k, k < n → (firstPass S prods (firstPassN S prods k [])).2 = true) ∧
      (firstPass S prods (firstPassN S prods n [])).2 = false ∧
      firstSets S prods = firstPassN S prods n [] ∧ FInv S (firstSets S prods) ∧
      ∀ fuel, n < fuel → firstSetsFuel S prods fuel [] = firstSets S prods := by
  obtain ⟨n, h1, h2, h3, h4, h5⟩ := firstSetsFuel_spec hW
    (S.ntList.length * (S.typeMap.length + 1) + 1) [] (FInv.nil S)
    (by rw [fsSize, List.map_nil, List.sum_nil]; omega)
  rw [fsSize, List.map_nil, List.sum_nil, Nat.zero_add] at h1
  have h : firstSets S prods = firstPassN S prods n [] := h4 _ (by
    have : S.ntList.length * (S.typeMap.length + 1) ≤ S.ntList.length * (S.typeMap.length + 2) :=
      Nat.mul_le_mul_left _ (Nat.le_succ _)
    omega)
  exact ⟨n, h1, h2, h3, h, h ▸ h5, fun fuel hf => (h4 fuel hf).trans h.symm⟩

theorem firstSets_inv {S : PSymbols} {prods : List SProd} (hW : WFp S prods) :
    FInv S (firstSets S prods) :=
  let ⟨_, _, _, _, _, h, _⟩ := firstSets_spec hW
  h

theorem first_fixpoint {S : PSymbols} {prods : List SProd} (hW : WFp S prods) :
    (firstPass S prods (firstSets S prods)).2 = false :=
  let ⟨_, _, _, h3, h4, _⟩ := firstSets_spec hW
  h4 ▸ h3

end Gocc
