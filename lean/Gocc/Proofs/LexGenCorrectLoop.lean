import Gocc.Proofs.LexGenCorrectStep
import Gocc.Proofs.LoopsTerminateCount
/-
The loop invariants of `lexLoop` / `expandSet`.

Without references `expandSet` never fails and is the pure function `expandSetP`
(`expandSet_eq`); the invariant is carried through that one, since `LoopsT.expandSet_inv`
(LoopsTerminateLex) only carries properties that do not mention which class is being recorded.
Invariant `LInv C i sets`: every state is well-formed (`StOK`: duplicate-free, production-sorted
items, classes / matchAny / row length as `newLState` made them), state 0 has the items
`itemsSet0 C`, every state `m < i` is `Expanded` (for every class `c` the recorded target is
`-1` if `moveSet C items c` is empty and otherwise the index of a state with the same item set; the
same for `.`), every state `m ≥ i` is `Fresh` (all targets `-1`).
`genLexer_spec`: a successful `genLexer` with at most 100000 states (the fuel of `lexLoop`, one unit
per expanded state) satisfies `LInv` with all states expanded.
-/
namespace Gocc
namespace LexGenC

open WorkList

def mkState (C : LexCtx) (items : List LItem) : LState :=
  { items := items, classes := (symbolClasses C items).1, matchAny := (symbolClasses C items).2,
    trans := (symbolClasses C items).1.map fun _ => -1 }

theorem newLState_eq {C : LexCtx} (hC : NoRefC C) (items : List LItem) :
    newLState C items = .ok (mkState C items) := by
  unfold newLState
  rw [closureL_id hC]
  rfl

def addSetP (C : LexCtx) (sets : Array LState) (items : List LItem) : Array LState × Nat :=
  findOrPush (fun s => sameLItems s.items items) (mkState C items) sets

theorem addSet_eq {C : LexCtx} (hC : NoRefC C) (sets : Array LState) (items : List LItem) :
    addSet C sets items = .ok (addSetP C sets items) := by
  unfold addSet addSetP findOrPush
  cases sets.findIdx? (fun s => sameLItems s.items items) with
  | some k => rfl
  | none => simp only [newLState_eq hC]; rfl

/-- `ItemSets.Add(N)` and the recording `w` of the returned index at state `i`; nothing for an
    empty `N` -/
def recordIf (C : LexCtx) (s : Array LState) (i : Nat) (N : List LItem)
    (w : Int → LState → LState) : Array LState :=
  if !N.isEmpty then (addSetP C s N).1.modify i (w ((addSetP C s N).2 : Int)) else s

def classStep (C : LexCtx) (i : Nat) (items : List LItem) (acc : Array LState × Nat) (c : CR) :
    Array LState × Nat :=
  (recordIf C acc.1 i (moveSet C items c) fun t st => { st with trans := st.trans.set acc.2 t },
    acc.2 + 1)

def expandSetP (C : LexCtx) (sets : Array LState) (i : Nat) : Array LState :=
  let cur := sets[i]!
  recordIf C (cur.classes.foldl (classStep C i cur.items) (sets, 0)).1 i (dotSet C cur.items)
    fun t st => { st with dotTrans := t }

theorem forIn_ok_foldl {α β ε : Type} {f : α → β → Except ε (ForInStep β)} {g : β → α → β}
    (h : ∀ a b, f a b = .ok (.yield (g b a))) : ∀ (l : List α) (b : β),
    forIn l b f = .ok (l.foldl g b)
  | [], _ => rfl
  | a :: l, b => by rw [List.forIn_cons, h]; exact forIn_ok_foldl h l (g b a)

theorem expandSet_eq {C : LexCtx} (hC : NoRefC C) (sets : Array LState) (i : Nat) :
    expandSet C sets i = .ok (expandSetP C sets i) := by
  unfold expandSet expandSetP
  simp only []
  rw [forIn_ok_foldl (g := classStep C i sets[i]!.items)]
  · simp only [nextDot_eq hC, addSet_eq hC, recordIf, bind, Except.bind, pure, Except.pure]
    split <;> rfl
  · intro c acc
    simp only [nextSet_eq hC, addSet_eq hC, classStep, recordIf, bind, Except.bind, pure, Except.pure]
    split <;> rfl

def lexLoopP (C : LexCtx) : Nat → Nat → Array LState → Array LState
  | 0, _, sets => sets
  | fuel + 1, i, sets => if i < sets.size then lexLoopP C fuel (i + 1) (expandSetP C sets i) else sets

theorem lexLoop_eq {C : LexCtx} (hC : NoRefC C) : ∀ (fuel i : Nat) (sets : Array LState),
    lexLoop C fuel i sets = .ok (lexLoopP C fuel i sets) := by
  intro fuel
  induction fuel with
  | zero => intro i sets; rfl
  | succ fuel ih =>
    intro i sets
    unfold lexLoop lexLoopP
    split
    · simp only [expandSet_eq hC, bind, Except.bind]
      exact ih _ _
    · rfl

theorem genLexer_eq {prods : List LProd} (hC : NoRefC { prods := prods.toArray }) :
    genLexer prods = .ok (lexLoopP { prods := prods.toArray } 100000 0
      #[mkState { prods := prods.toArray } (itemsSet0 { prods := prods.toArray })]) := by
  unfold genLexer
  simp only [newLState_eq hC, bind, Except.bind]
  exact lexLoop_eq hC _ _ _

def SameSet (a b : List LItem) : Prop := ∀ x, x ∈ a ↔ x ∈ b

structure StOK (C : LexCtx) (st : LState) : Prop where
  nodup : st.items.Nodup
  sorted : ProdSorted st.items
  classes : st.classes = (symbolClasses C st.items).1
  any : st.matchAny = (symbolClasses C st.items).2
  tlen : st.trans.length = st.classes.length

def Fresh (st : LState) : Prop := (∀ t ∈ st.trans, t = -1) ∧ st.dotTrans = -1

/-- the recorded target `t` stands for the item list `N`: `WorkList.TargetOf LState.items` written
    out, so the `TargetOf` lemmas apply to it as they stand -/
def Target (sets : Array LState) (t : Int) (N : List LItem) : Prop :=
  (N = [] → t = -1) ∧
  (N ≠ [] → ∃ (j : Nat) (st : LState), sets[j]? = some st ∧ t = (j : Int) ∧ SameSet st.items N)

def ClassDone (C : LexCtx) (sets : Array LState) (items : List LItem) (classes : List CR)
    (trans : List Int) (k : Nat) : Prop :=
  ∀ c, classes[k]? = some c → Target sets (trans[k]?.getD (-1)) (moveSet C items c)

def Expanded (C : LexCtx) (sets : Array LState) (st : LState) : Prop :=
  (∀ k, ClassDone C sets st.items st.classes st.trans k) ∧
  Target sets st.dotTrans (dotSet C st.items)

def Ext (s s' : Array LState) : Prop :=
  ∀ (m : Nat) (st : LState), s[m]? = some st → ∃ st', s'[m]? = some st' ∧ st'.items = st.items

theorem Ext.trans {a b c : Array LState} (h1 : Ext a b) (h2 : Ext b c) : Ext a c := fun m st hm =>
  let ⟨st', hm', e⟩ := h1 m st hm
  let ⟨st'', hm'', e'⟩ := h2 m st' hm'
  ⟨st'', hm'', e'.trans e⟩

theorem ext_modify {a : Array LState} (i : Nat) {g : LState → LState}
    (hg : ∀ st, (g st).items = st.items) : Ext a (a.modify i g) := by
  intro m st hm
  rw [Array.getElem?_modify]
  split
  · exact ⟨_, by rw [hm]; rfl, hg st⟩
  · exact ⟨st, hm, rfl⟩

theorem Target.ext {s s' : Array LState} {t : Int} {N : List LItem} (h : Target s t N)
    (he : Ext s s') : Target s' t N :=
  TargetOf.ext (items := LState.items) h he

theorem Expanded.ext {C : LexCtx} {s s' : Array LState} {st : LState} (h : Expanded C s st)
    (he : Ext s s') : Expanded C s' st :=
  ⟨fun k c hc => (h.1 k c hc).ext he, h.2.ext he⟩

theorem stOK_mkState (C : LexCtx) {N : List LItem} (hn : N.Nodup) (hs : ProdSorted N) :
    StOK C (mkState C N) :=
  ⟨hn, hs, rfl, rfl, by simp [mkState]⟩

theorem fresh_mkState (C : LexCtx) (N : List LItem) : Fresh (mkState C N) := by
  refine ⟨?_, rfl⟩
  intro t ht
  simp only [mkState, List.mem_map] at ht
  obtain ⟨_, _, rfl⟩ := ht
  rfl

/-- the part of the invariant that does not concern the state being expanded -/
structure FInv (C : LexCtx) (i : Nat) (s : Array LState) : Prop where
  ok : ∀ (m : Nat) (st : LState), s[m]? = some st → StOK C st
  zero : ∃ st, s[0]? = some st ∧ st.items = itemsSet0 C
  before : ∀ (m : Nat) (st : LState), s[m]? = some st → m < i → Expanded C s st
  after : ∀ (m : Nat) (st : LState), s[m]? = some st → i < m → Fresh st

def KeepsShape (w : Int → LState → LState) : Prop :=
  ∀ t st, (w t st).items = st.items ∧ (w t st).classes = st.classes ∧
    (w t st).matchAny = st.matchAny ∧ (w t st).trans.length = st.trans.length

theorem record_get {C : LexCtx} {s : Array LState} {N : List LItem} {i : Nat} (hilt : i < s.size)
    {g : LState → LState} {m : Nat} {x : LState}
    (h : ((addSetP C s N).1.modify i g)[m]? = some x) :
    (m ≠ i ∧ s[m]? = some x) ∨ (m = i ∧ ∃ y, s[i]? = some y ∧ x = g y) ∨
      (m = s.size ∧ x = mkState C N) := by
  rw [Array.getElem?_modify] at h
  split at h
  · rename_i him
    obtain ⟨y, hy, rfl⟩ := Option.map_eq_some_iff.1 h
    rcases findOrPush_get hy with hy | ⟨hm, _⟩
    · exact .inr (.inl ⟨him.symm, y, him ▸ hy, rfl⟩)
    · omega
  · rename_i him
    exact (findOrPush_get h).elim (fun h => .inl ⟨fun e => him e.symm, h⟩) fun h => .inr (.inr h)

theorem record_cur {C : LexCtx} {s : Array LState} {N : List LItem} {i : Nat} {y : LState}
    (g : LState → LState) (h : s[i]? = some y) :
    ((addSetP C s N).1.modify i g)[i]? = some (g y) := by
  rw [Array.getElem?_modify, if_pos rfl, addSetP, findOrPush_get_old h]; rfl

/-- for an empty `N` nothing happens, which is recording `-1` in a slot that holds `-1` (`hw0`) -/
theorem recordIf_inv {C : LexCtx} {s : Array LState} {N : List LItem} {i : Nat} {st : LState}
    (h : FInv C i s) (hst : s[i]? = some st) (hN : N.Nodup) (hNs : ProdSorted N)
    {w : Int → LState → LState} (hw : KeepsShape w) (hw0 : w (-1) st = st) :
    ∃ t : Int, FInv C i (recordIf C s i N w) ∧ Ext s (recordIf C s i N w) ∧
      (recordIf C s i N w)[i]? = some (w t st) ∧ Target (recordIf C s i N w) t N := by
  have hilt : i < s.size := (Array.getElem?_eq_some_iff.1 hst).1
  unfold recordIf
  split
  · rename_i hne
    replace hne : N ≠ [] := List.isEmpty_eq_false_iff.1 (Bool.not_eq_true' _ ▸ hne)
    have hmod := ext_modify (a := (addSetP C s N).1) i fun st => (hw (addSetP C s N).2 st).1
    have hext : Ext s ((addSetP C s N).1.modify i (w (addSetP C s N).2)) :=
      Ext.trans (fun m st hm => ⟨st, findOrPush_get_old hm, rfl⟩) hmod
    refine ⟨_, ⟨?_, ?_, ?_, ?_⟩, hext, record_cur _ hst, ?_⟩
    · intro m st' hm
      rcases record_get hilt hm with ⟨_, h0⟩ | ⟨rfl, st, hst, rfl⟩ | ⟨_, rfl⟩
      · exact h.ok m st' h0
      · have hk := h.ok m st hst
        obtain ⟨f1, f2, f3, f4⟩ := hw (addSetP C s N).2 st
        exact ⟨f1 ▸ hk.nodup, f1 ▸ hk.sorted, by rw [f1, f2]; exact hk.classes,
          by rw [f1, f3]; exact hk.any, by rw [f4, f2]; exact hk.tlen⟩
      · exact stOK_mkState C hN hNs
    · obtain ⟨st, h0, hi0⟩ := h.zero
      obtain ⟨st', h0', hi0'⟩ := hext 0 st h0
      exact ⟨st', h0', hi0'.trans hi0⟩
    · intro m st' hm hmi
      rcases record_get hilt hm with ⟨_, h0⟩ | ⟨rfl, _⟩ | ⟨rfl, _⟩
      · exact (h.before m st' h0 hmi).ext hext
      · omega
      · omega
    · intro m st' hm hmi
      rcases record_get hilt hm with ⟨_, h0⟩ | ⟨rfl, _⟩ | ⟨_, rfl⟩
      · exact h.after m st' h0 hmi
      · omega
      · exact fresh_mkState C N
    · exact Target.ext (targetOf_findOrPush hne
        (fun m st hm hs => LoopsT.mem_iff_of_sameList (h.ok m st hm).nodup hs) rfl) hmod
  · rename_i he
    obtain rfl : N = [] := List.isEmpty_iff.1 (by simpa using he)
    exact ⟨-1, h, fun m st hm => ⟨st, hm, rfl⟩, hw0.symm ▸ hst, TargetOf.nil _⟩

/-- invariant while state `i` is being expanded: the classes `< k` are recorded -/
structure PInv (C : LexCtx) (i : Nat) (items : List LItem) (classes : List CR) (k : Nat)
    (s : Array LState) : Prop where
  frame : FInv C i s
  cur : ∃ st, s[i]? = some st ∧ st.items = items ∧ st.classes = classes ∧ st.dotTrans = -1 ∧
      (∀ k', k' < k → ClassDone C s items classes st.trans k') ∧
      (∀ k', k ≤ k' → st.trans[k']?.getD (-1) = -1)

theorem classStep_inv {C : LexCtx} {i : Nat} {items : List LItem} {classes : List CR} {k : Nat}
    {s : Array LState} {c : CR} (h : PInv C i items classes k s) (hc : classes[k]? = some c) :
    PInv C i items classes (k + 1) (classStep C i items (s, k) c).1 := by
  obtain ⟨st, hst, hitems, hclasses, hdot, hdone, htodo⟩ := h.cur
  have hstok := h.frame.ok i st hst
  have hlt : k < st.trans.length := by
    rw [hstok.tlen, hclasses]; exact (List.getElem?_eq_some_iff.1 hc).1
  have hk : st.trans[k] = -1 := by
    have := htodo k (Nat.le_refl _); rwa [List.getElem?_eq_getElem hlt] at this
  obtain ⟨t, g1, g2, g3, g4⟩ := recordIf_inv (N := moveSet C items c) h.frame hst
    (nodup_moveSet C items c) (prodSorted_moveSet C c (hitems ▸ hstok.sorted))
    (w := fun t st => { st with trans := st.trans.set k t }) (fun _ _ => ⟨rfl, rfl, rfl, by simp⟩)
    (by rw [← hk, List.set_getElem_self])
  refine ⟨g1, _, g3, hitems, hclasses, hdot, fun k' hk' c' hc' => ?_, fun k' hk' => ?_⟩
  · dsimp only
    rw [List.getElem?_set]
    by_cases hkk : k = k'
    · subst hkk
      cases hc.symm.trans hc'
      rw [if_pos rfl, if_pos hlt]
      exact g4
    · rw [if_neg hkk]
      exact (hdone k' (by omega) c' hc').ext g2
  · dsimp only
    rw [List.getElem?_set, if_neg (by omega)]
    exact htodo k' (by omega)

structure LInv (C : LexCtx) (i : Nat) (s : Array LState) : Prop where
  ok : ∀ (m : Nat) (st : LState), s[m]? = some st → StOK C st
  zero : ∃ st, s[0]? = some st ∧ st.items = itemsSet0 C
  before : ∀ (m : Nat) (st : LState), s[m]? = some st → m < i → Expanded C s st
  after : ∀ (m : Nat) (st : LState), s[m]? = some st → i ≤ m → Fresh st

theorem expandSetP_inv {C : LexCtx} {i : Nat} {s : Array LState} (h : LInv C i s)
    (hilt : i < s.size) : LInv C (i + 1) (expandSetP C s i) := by
  have hget : s[i]? = some s[i] := Array.getElem?_eq_getElem hilt
  have hfresh := h.after i _ hget (Nat.le_refl _)
  have hp0 : PInv C i s[i].items s[i].classes 0 s := by
    refine ⟨⟨h.ok, h.zero, h.before, fun m st hm hmi => h.after m st hm (by omega)⟩,
      s[i], hget, rfl, rfl, hfresh.2, fun k' hk' => by omega, ?_⟩
    intro k' _
    cases hk : s[i].trans[k']? with
    | none => rfl
    | some t => exact hfresh.1 t (List.mem_of_getElem? hk)
  obtain ⟨hp1, hlen⟩ := foldl_idx_inv (classStep C i s[i].items) (·.2)
    (fun b => PInv C i s[i].items s[i].classes b.2 b.1) s[i].classes
    (fun b c hb hc => ⟨classStep_inv hb hc, rfl⟩) (s, 0) hp0 rfl
  unfold expandSetP
  dsimp only
  rw [getElem!_pos s i hilt]
  generalize List.foldl (classStep C i s[i].items) (s, 0) s[i].classes = b at hp1 hlen
  obtain ⟨st, hst, hitems, hclasses, hdot, hdone, _⟩ := hp1.cur
  obtain ⟨t, g1, g2, g3, g4⟩ := recordIf_inv (N := dotSet C s[i].items) hp1.frame hst
    (nodup_dotSet C _) (prodSorted_dotSet C (hitems ▸ (hp1.frame.ok i st hst).sorted))
    (w := fun t st => { st with dotTrans := t }) (fun _ _ => ⟨rfl, rfl, rfl, rfl⟩)
    (by rw [← hdot])
  refine ⟨g1.ok, g1.zero, fun m st' hm hmi => ?_, fun m st' hm hmi => g1.after m st' hm (by omega)⟩
  by_cases hmi' : m = i
  · subst hmi'
    cases g3.symm.trans hm
    refine ⟨fun k c' hc' => ?_, hitems ▸ g4⟩
    dsimp only at hc' ⊢
    rw [hclasses] at hc'
    rw [hitems]
    have hk : k < b.2 := hlen ▸ (List.getElem?_eq_some_iff.1 hc').1
    exact (hdone k hk c' hc').ext g2
  · exact g1.before m st' hm (by omega)

theorem lexLoopP_inv {C : LexCtx} : ∀ (fuel i : Nat) (s : Array LState), LInv C i s →
    ∃ i', LInv C i' (lexLoopP C fuel i s) ∧
      ((lexLoopP C fuel i s).size ≤ i' ∨ i' = i + fuel) := by
  intro fuel
  induction fuel with
  | zero => intro i s h; exact ⟨i, h, Or.inr rfl⟩
  | succ fuel ih =>
    intro i s h
    unfold lexLoopP
    split
    · rename_i hlt
      obtain ⟨i', h1, h2⟩ := ih (i + 1) _ (expandSetP_inv h hlt)
      exact ⟨i', h1, by omega⟩
    · exact ⟨i, h, Or.inl (by omega)⟩

theorem linv_init (C : LexCtx) : LInv C 0 #[mkState C (itemsSet0 C)] := by
  refine ⟨fun m st h => ?_, ⟨_, rfl, rfl⟩, fun m st _ hm => by omega, fun m st h _ => ?_⟩
  · rw [(LoopsT.getElem?_singleton_some h).2]
    exact stOK_mkState C (nodup_itemsSet0 C) (prodSorted_itemsSet0 C)
  · rw [(LoopsT.getElem?_singleton_some h).2]
    exact fresh_mkState C _

structure GenSpec (C : LexCtx) (states : Array LState) : Prop where
  ok : ∀ (m : Nat) (st : LState), states[m]? = some st → StOK C st
  zero : ∃ st, states[0]? = some st ∧ st.items = itemsSet0 C
  expanded : ∀ (m : Nat) (st : LState), states[m]? = some st → Expanded C states st

theorem genLexer_spec {prods : List LProd} {states : Array LState}
    (h : genLexer prods = .ok states) (hn : noRefs prods = true) (hsz : states.size ≤ 100000) :
    GenSpec { prods := prods.toArray } states := by
  have hC := noRefC_of_noRefs hn
  rw [genLexer_eq hC] at h
  simp only [Except.ok.injEq] at h
  obtain ⟨i', h1, h2⟩ := lexLoopP_inv (C := { prods := prods.toArray }) 100000 0 _
    (linv_init { prods := prods.toArray })
  rw [h] at h1 h2
  refine ⟨h1.ok, h1.zero, ?_⟩
  intro m st hm
  have hlt := (Array.getElem?_eq_some_iff.1 hm).1
  exact h1.before m st hm (by omega)

end LexGenC
end Gocc
