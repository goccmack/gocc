import Gocc.Proofs.Step
/-
Error recovery inside the `Parse` loop: which panics an iteration can produce; token conservation
(`TokInv`) through `step_post` — what `Error` preserves and every action found in the table
re-establishes is an invariant of the loop; recovery is inert as long as no action lookup fails.
-/
namespace Gocc

def ifaceShift : String := "interface conversion: parser.action is not parser.shift"

/-- the run-time errors of the loop outside error recovery -/
def stepPanics : List String :=
  ["empty stack", "index out of range (token type)", "slice bounds out of range",
   "index out of range", "index out of range [-1]", "interface conversion: not *token.Token",
   "unknown shape"]

theorem recover_error {T : PTables} {e : Nat} {input : List Nat} {ps : PState} {why : String}
    (h : recover T e input ps = .error why) :
    why = "empty stack" ∨ (why = ifaceShift ∧ ¬ RecWF T e) := by
  rcases recover_cases T e input ps with ⟨-, hrec⟩ | ⟨-, -, hrec⟩ | ⟨k, r, rest, -, -, hc, hrec⟩ <;>
    rw [hrec] at h
  · cases h; exact .inl rfl
  · cases h
  · rcases ha : T.act r e with _ | a <;> rw [ha] at h
    · cases h
    · have hnw : (∀ s', a ≠ .shift s') → ¬ RecWF T e := fun hns hwf => by
        obtain ⟨s', hs'⟩ := hwf r hc
        exact hns s' (Option.some.inj (ha.symm.trans hs'))
      cases a with
      | shift s' => cases h
      | reduce p => cases h; exact .inr ⟨rfl, hnw (by intro _ h; cases h)⟩
      | accept => cases h; exact .inr ⟨rfl, hnw (by intro _ h; cases h)⟩

theorem userAction_spec (shape id : Nat) (X : List Attr) :
    (∃ Y, userAction shape id X = .ok (.node id Y) ∧ (Y = X ∨ ∃ x ∈ X, Y = [x])) ∨
    ∃ why, userAction shape id X = .error why ∧ why ∈ stepPanics := by
  have hi : "index out of range" ∈ stepPanics := by simp [stepPanics]
  unfold userAction
  split
  · exact .inl ⟨X, rfl, .inl rfl⟩
  · exact .inl ⟨X, rfl, .inl rfl⟩
  · exact .inl ⟨X, rfl, .inl rfl⟩
  · split
    · exact .inl ⟨_, rfl, .inr ⟨_, List.mem_cons_self, rfl⟩⟩
    · exact .inr ⟨_, rfl, hi⟩
  · split
    · rename_i x hx; exact .inl ⟨_, rfl, .inr ⟨x, List.mem_of_getLast? hx, rfl⟩⟩
    · exact .inr ⟨_, rfl, hi⟩
  · split
    · rename_i x hx; exact .inl ⟨_, rfl, .inr ⟨x, List.mem_of_getElem? hx, rfl⟩⟩
    · exact .inr ⟨_, rfl, hi⟩
  · split
    · exact .inl ⟨_, rfl, .inr ⟨_, List.mem_cons_self, rfl⟩⟩
    · exact .inr ⟨_, rfl, by simp [stepPanics]⟩
    · exact .inr ⟨_, rfl, hi⟩
  · exact .inr ⟨_, rfl, by simp [stepPanics]⟩

theorem doAct_done {cfg : PCfg} {w : List Nat} {a : Act} {ps ps' : PState} {o : Outcome}
    (h : doAct cfg w a ps = .done o ps') :
    (∃ r rest, a = .accept ∧ ps.attrs = r :: rest ∧ o = .accept r ∧
      ps' = { ps with states := ps.states.drop 1, attrs := rest }) ∨
    (∃ why, o = .panic why ∧ why ∈ stepPanics) ∨
    (∃ id i t e s, o = .actErr id i t e s) := by
  have hes : "empty stack" ∈ stepPanics := List.mem_cons_self
  rcases doAct_eq_done h with hacc | ⟨why, rfl, -, hw⟩ |
    ⟨_, _, _, -, -, -, -, -, -, rfl | ⟨_, _, _, _, rfl⟩⟩ | ⟨_, _, _, -, -, rfl | rfl⟩
  · exact .inl hacc
  · refine .inr (.inl ⟨why, rfl, ?_⟩)
    rcases hw with rfl | rfl | ⟨_, _, hres⟩
    · exact hes
    · simp [stepPanics]
    · rcases reduceRes_eq_error_some.1 hres with ⟨-, -, rfl⟩ | ⟨_, _, -, -, hu⟩
      · simp [stepPanics]
      · rcases userAction_spec _ _ _ with ⟨_, e, -⟩ | ⟨_, e, hm⟩ <;> rw [e] at hu <;> cases hu
        exact hm
  · exact .inr (.inl ⟨_, rfl, hes⟩)
  · exact .inr (.inr ⟨_, _, _, _, _, rfl⟩)
  · exact .inr (.inl ⟨_, rfl, hes⟩)
  · exact .inr (.inl ⟨_, rfl, by simp [stepPanics]⟩)

/-- one iteration: it ends without accepting — with a syntax error, or a panic that is one of
    `stepPanics` or the failed `action.(shift)` assertion in `Error`, which needs tables violating
    `RecWF` —, or it performs an action `a` that the table holds for the top state and the
    look-ahead: of the state itself, or of the state after a successful recovery -/
theorem step_decomp (cfg : PCfg) (w : List Nat) (ps : PState) :
    (∃ o ps', step cfg w ps = .done o ps' ∧
      ((∃ why, o = .panic why ∧
          (why ∈ stepPanics ∨ (why = ifaceShift ∧ ¬ RecWF cfg.T cfg.errTerm))) ∨
        ∃ i t e s, o = .synErr i t e s)) ∨
    (∃ a ps1 top rest, step cfg w ps = doAct cfg w a ps1 ∧ ps1.states = top :: rest ∧
      cfg.T.act top ps1.next.2 = some a ∧
      ((ps1 = ps ∧ cfg.T.act top ps.next.2 = some a) ∨
        ∃ tok, recover cfg.T cfg.errTerm w ps = .ok (true, tok, ps1))) := by
  have hes : "empty stack" ∈ stepPanics := List.mem_cons_self
  rcases hst : ps.states with _ | ⟨top, rest⟩
  · exact .inl ⟨_, _, step_nil hst, .inl ⟨_, rfl, .inl hes⟩⟩
  by_cases hn : cfg.T.numSymbols ≤ ps.next.2
  · exact .inl ⟨_, _, step_range hst hn, .inl ⟨_, rfl, .inl (by simp [stepPanics])⟩⟩
  rw [step_cons hst (Nat.lt_of_not_le hn)]
  unfold lookupAct
  rcases ha : cfg.T.act top ps.next.2 with _ | a
  · rcases hrec : recover cfg.T cfg.errTerm w ps with why | ⟨_ | _, tok, ps'⟩
    · refine .inl ⟨_, _, rfl, .inl ⟨_, rfl, ?_⟩⟩
      rcases recover_error hrec with rfl | h2
      · exact .inl hes
      · exact .inr h2
    · simp only []
      rcases ps'.states with _ | ⟨t', _⟩
      · exact .inl ⟨_, _, rfl, .inl ⟨_, rfl, .inl hes⟩⟩
      · exact .inl ⟨_, _, rfl, .inr ⟨_, _, _, _, rfl⟩⟩
    · -- "Error recovery led to invalid action" is dead code: `recover_true`
      obtain ⟨_, _, _, s', _, -, -, -, hst', -, -, -, hsome, -⟩ := recover_true hrec
      obtain ⟨a, ha'⟩ := Option.isSome_iff_exists.1 hsome
      exact .inr ⟨a, ps', s', _, by simp only [hst', ha'], hst', ha', .inr ⟨tok, rfl⟩⟩
  · exact .inr ⟨a, ps, top, rest, rfl, hst, ha, .inl ⟨rfl, ha⟩⟩

theorem step_panic {cfg : PCfg} {w : List Nat} {ps ps' : PState} {why : String}
    (h : step cfg w ps = .done (.panic why) ps') :
    why ∈ stepPanics ∨ (why = ifaceShift ∧ ¬ RecWF cfg.T cfg.errTerm) := by
  rcases step_decomp cfg w ps with ⟨o, ps2, hs, ho⟩ | ⟨a, ps1, _, _, hs, -⟩
  · rw [hs] at h
    cases h
    rcases ho with ⟨_, h1, h2⟩ | ⟨_, _, _, _, h1⟩ <;> cases h1
    exact h2
  · rw [hs] at h
    rcases doAct_done h with ⟨_, _, -, -, h1, -⟩ | ⟨_, h1, h2⟩ | ⟨_, _, _, _, _, h1⟩ <;> cases h1
    exact .inl h2

theorem parseLoop_panic (cfg : PCfg) (w : List Nat) (fuel : Nat) (ps : PState) (why : String)
    (h : (parseLoop cfg w fuel ps).1 = .panic why) :
    why ∈ stepPanics ∨ (why = ifaceShift ∧ ¬ RecWF cfg.T cfg.errTerm) := by
  refine parseLoop_post (I := fun _ => True) (Q := fun o _ => ∀ why, o = .panic why →
    why ∈ stepPanics ∨ (why = ifaceShift ∧ ¬ RecWF cfg.T cfg.errTerm)) (fun ps _ => ?_)
    (fun _ _ _ h => by cases h) fuel ps trivial why h
  rcases hs : step cfg w ps with ⟨o, ps'⟩ | ps'
  · exact fun why ho => step_panic (ho ▸ hs)
  · trivial

theorem stackToks_cons (a : Attr) (l : List Attr) : stackToks (a :: l) = stackToks l ++ attrToks a := by
  simp [stackToks, attrToksL_append, attrToksL]

theorem stackToks_split (l : List Attr) (n : Nat) :
    stackToks l = stackToks (l.drop n) ++ attrToksL (l.take n).reverse := by
  rw [stackToks, stackToks, ← attrToksL_append, ← List.reverse_append, List.take_append_drop]

theorem reduceRes_toks {cfg : PCfg} {p : Nat} {X : List Attr} {ps ps2 : PState} {a : Attr}
    (h : reduceRes cfg p X ps = .ok (a, ps2)) : (attrToks a).Sublist (attrToksL X) := by
  rcases reduceRes_eq_ok.1 h with ⟨-, hx, -⟩ | ⟨-, rfl, -⟩ | ⟨_, _, -, -, hu, -⟩
  · exact attrToks_sublist_of_mem (List.mem_of_mem_head? hx)
  · exact List.nil_sublist _
  · rcases userAction_spec _ _ X with ⟨Y, e, hY⟩ | ⟨_, e, -⟩ <;> rw [e] at hu <;> cases hu
    rcases hY with rfl | ⟨x, hx, rfl⟩
    · exact List.Sublist.refl _
    · simp only [attrToks, attrToksL, List.append_nil]
      exact attrToks_sublist_of_mem hx

theorem doAct_cont {cfg : PCfg} {w : List Nat} {a : Act} {ps ps' : PState}
    (h : doAct cfg w a ps = .cont ps') :
    (∃ s, a = .shift s ∧ ps'.attrs = Attr.tok ps.next.1 ps.next.2 :: ps.attrs ∧
      ps'.next = scanTok w ps.ntok ∧ ps'.ntok = ps.ntok + 1) ∨
    (∃ p b n, a = .reduce p ∧ ps'.attrs = b :: ps.attrs.drop n ∧
      (attrToks b).Sublist (attrToksL (ps.attrs.take n).reverse) ∧
      ps'.next = ps.next ∧ ps'.ntok = ps.ntok) := by
  cases a with
  | accept => exact absurd h doAct_accept_ne_cont
  | shift s => cases h; exact .inl ⟨s, rfl, rfl, rfl, rfl⟩
  | reduce p =>
    obtain ⟨b, ps2, t', rest', g, -, hres, -, -, -, rfl⟩ := doAct_reduce_eq_cont.1 h
    obtain ⟨-, -, hn, hk⟩ := reduceRes_frame hres
    exact .inr ⟨p, b, _, rfl, rfl, reduceRes_toks hres, hn, hk⟩

theorem lookAhead_fst {input : List Nat} {tok : Nat × Nat} {ntok : Nat} (h : tok.1 + 1 = ntok)
    (j : Nat) : (lookAhead input tok ntok j).1 + 1 = ntok + j := by
  cases j with
  | zero => exact h
  | succ j => simp only [lookAhead, scanTok_fst]; omega

theorem recover_tokInv {T : PTables} {e : Nat} {w : List Nat} {ps ps' : PState} {tok : Nat × Nat}
    (h : recover T e w ps = .ok (true, tok, ps')) (hI : TokInv ps) : TokInv ps' := by
  obtain ⟨k, r, rest, s', j, -, -, -, -, hat, hnext, hntok, -⟩ := recover_true h
  obtain ⟨i1, i2, i3⟩ := hI
  have hst : stackToks ps'.attrs = stackToks ps.attrs := by
    rw [hat, stackToks_cons, stackToks_split ps.attrs k]
    simp [attrToks]
  have hf := lookAhead_fst (input := w) i3 j
  refine ⟨by rw [hst]; exact i1, ?_, by rw [hnext, hntok]; exact hf⟩
  intro i hi
  rw [hst] at hi
  have := i2 i hi
  rw [hnext]
  omega

/-- a condition on the answer of the loop that only speaks of accepted results -/
def OnAccept (P : Attr → PState → Prop) (o : Outcome) (ps' : PState) : Prop :=
  ∀ r, o = .accept r → P r ps'

/-- what a successful recovery preserves, and every action found in the table re-establishes
    (or turns into `P` of the accepted result), is an invariant of the `Parse` loop -/
theorem step_post {cfg : PCfg} {w : List Nat} {I : PState → Prop} {P : Attr → PState → Prop}
    {ps : PState}
    (hrec : ∀ tok ps', recover cfg.T cfg.errTerm w ps = .ok (true, tok, ps') → I ps → I ps')
    (hdo : ∀ a ps1 top rest, ps1.states = top :: rest → cfg.T.act top ps1.next.2 = some a →
      I ps1 → (doAct cfg w a ps1).Post I (OnAccept P))
    (hI : I ps) : (step cfg w ps).Post I (OnAccept P) := by
  rcases step_decomp cfg w ps with ⟨o, ps', hs, ho⟩ | ⟨a, ps1, top, rest, hs, hst, ha, h1⟩
  · rw [hs]
    rcases ho with ⟨_, rfl, -⟩ | ⟨_, _, _, _, rfl⟩ <;> exact fun _ h => nomatch h
  · rw [hs]
    rcases h1 with ⟨rfl, -⟩ | ⟨tok, h1⟩
    · exact hdo a _ top rest hst ha hI
    · exact hdo a ps1 top rest hst ha (hrec tok ps1 h1 hI)

theorem doAct_tokInv (cfg : PCfg) (w : List Nat) (a : Act) {ps : PState} (hI : TokInv ps) :
    (doAct cfg w a ps).Post TokInv (OnAccept fun r ps' =>
      (attrToks r).Pairwise (· < ·) ∧ ∀ i ∈ attrToks r, i + 1 < ps'.ntok) := by
  obtain ⟨i1, i2, i3⟩ := hI
  rcases hd : doAct cfg w a ps with ⟨o, ps'⟩ | ps'
  · rintro r rfl
    rcases doAct_done hd with ⟨_, rest, -, hat, h1, rfl⟩ | ⟨_, h1, -⟩ | ⟨_, _, _, _, _, h1⟩ <;> cases h1
    rw [hat, stackToks_cons] at i1 i2
    refine ⟨(List.pairwise_append.mp i1).2.1, fun i hi => ?_⟩
    have := i2 i (List.mem_append_right _ hi)
    show i + 1 < ps.ntok
    omega
  · rcases doAct_cont hd with ⟨s, -, hat, hn, hk⟩ | ⟨p, b, n, -, hat, hsub, hn, hk⟩
    · simp only [StepR.Post, TokInv, hat, stackToks_cons, hn, hk, scanTok_fst, attrToks,
        List.pairwise_append, List.pairwise_singleton, List.mem_append, List.mem_singleton]
      refine ⟨⟨i1, trivial, fun x hx y hy => hy ▸ i2 x hx⟩, fun i hi => ?_, trivial⟩
      rcases hi with hi | rfl
      · have := i2 i hi; omega
      · omega
    · have hsub' : (stackToks ps'.attrs).Sublist (stackToks ps.attrs) := by
        rw [hat, stackToks_cons, stackToks_split ps.attrs n]
        exact List.Sublist.append (List.Sublist.refl _) hsub
      refine ⟨i1.sublist hsub', fun i hi => ?_, by rw [hn, hk]; exact i3⟩
      rw [hn]
      exact i2 i (hsub'.subset hi)

/-- `C07_tokInv_step`: for arbitrary tables -/
theorem step_tokInv (cfg : PCfg) (w : List Nat) {ps : PState} (hI : TokInv ps) :
    (step cfg w ps).Post TokInv (OnAccept fun r ps' =>
      (attrToks r).Pairwise (· < ·) ∧ ∀ i ∈ attrToks r, i + 1 < ps'.ntok) :=
  step_post (fun _ _ => recover_tokInv) (fun a _ _ _ _ _ => doAct_tokInv cfg w a) hI

theorem tokInv_init (w : List Nat) :
    TokInv { states := [0], attrs := [.nil], next := scanTok w 0, ntok := 1, log := [], calls := 0 } := by
  simp [TokInv, stackToks, attrToksL, attrToks, scanTok_fst]

/-- the look-ahead is the last token scanned, and scanning stops at end of input -/
def RecScanInv (w : List Nat) (ps : PState) : Prop :=
  ps.next = scanTok w (ps.ntok - 1) ∧ 1 ≤ ps.ntok ∧ ps.ntok ≤ w.length + 1

theorem recover_scanInv {T : PTables} {e : Nat} {w : List Nat} {ps ps' : PState} {tok : Nat × Nat}
    (h : recover T e w ps = .ok (true, tok, ps')) (hI : RecScanInv w ps) : RecScanInv w ps' := by
  obtain ⟨k, r, rest, s', j, -, -, -, -, -, hnext, hntok, -, hskip, -⟩ := recover_true h
  obtain ⟨i1, i2, i3⟩ := hI
  have hla : ∀ j, lookAhead w ps.next ps.ntok j = scanTok w (ps.ntok - 1 + j) := fun j => by
    cases j with
    | zero => exact i1
    | succ j => exact congrArg (scanTok w) (by omega)
  refine ⟨by rw [hnext, hntok, hla]; congr 1; omega, by omega, ?_⟩
  cases j with
  | zero => omega
  | succ j =>
    have := (hskip j (by omega)).2
    rw [hla] at this
    have := scanTok_lt this
    omega

theorem doAct_scanInv {cfg : PCfg} (hT : NoShiftEOF cfg.T) (w : List Nat) {a : Act} {ps : PState}
    {top : Nat} (ha : cfg.T.act top ps.next.2 = some a) (hI : RecScanInv w ps) :
    (doAct cfg w a ps).Post (RecScanInv w) (OnAccept fun _ ps' => ps'.ntok ≤ w.length + 1) := by
  obtain ⟨i1, i2, i3⟩ := hI
  rcases hd : doAct cfg w a ps with ⟨o, ps'⟩ | ps'
  · rintro r rfl
    rcases doAct_done hd with ⟨_, _, -, -, h1, rfl⟩ | ⟨_, h1, -⟩ | ⟨_, _, _, _, _, h1⟩ <;> cases h1
    exact i3
  · rcases doAct_cont hd with ⟨s, rfl, -, hn, hk⟩ | ⟨p, b, n, -, -, -, hn, hk⟩
    · have hne : ps.next.2 ≠ 1 := by
        intro h1
        rw [h1] at ha
        exact hT _ _ ha
      rw [i1] at hne
      have := scanTok_lt hne
      exact ⟨by rw [hn, hk]; congr 1, by omega, by omega⟩
    · exact ⟨by rw [hn, hk]; exact i1, by omega, by omega⟩

theorem step_scanInv {cfg : PCfg} (hT : NoShiftEOF cfg.T) (w : List Nat) {ps : PState}
    (hI : RecScanInv w ps) :
    (step cfg w ps).Post (RecScanInv w) (OnAccept fun _ ps' => ps'.ntok ≤ w.length + 1) :=
  step_post (fun _ _ => recover_scanInv) (fun _ _ _ _ _ ha => doAct_scanInv hT w ha) hI

theorem noShiftEOF_of_b {T : PTables} (h : noShiftEOFb T = true) : NoShiftEOF T := by
  intro s s' ha
  obtain ⟨row, hrow, -, -⟩ := act_eq_some ha
  have hs : s < T.action.size := (Array.getElem?_eq_some_iff.mp hrow).1
  simp only [noShiftEOFb, List.all_eq_true, List.mem_range] at h
  have := h s hs
  rw [ha] at this
  cases this

theorem scanInv_init (w : List Nat) :
    RecScanInv w { states := [0], attrs := [.nil], next := scanTok w 0, ntok := 1, log := [], calls := 0 } :=
  ⟨rfl, by simp, by simp⟩

theorem parse_tokens_any {cfg : PCfg} {w : List Nat} {fuel : Nat} {old ps : PState} {r : Attr}
    (h : parse cfg w fuel old = (.accept r, ps)) :
    (attrToks r).Pairwise (· < ·) ∧ ∀ i ∈ attrToks r, i + 1 < ps.ntok := by
  have := parseLoop_post (fun _ => step_tokInv cfg w) (fun _ _ _ h => by cases h) fuel
    (initPS w) (tokInv_init w) r
  rw [← parse_eq cfg w fuel old, h] at this
  exact this rfl

theorem parse_tokens {cfg : PCfg} (hT : NoShiftEOF cfg.T) {w : List Nat} {fuel : Nat}
    {old ps : PState} {r : Attr} (h : parse cfg w fuel old = (.accept r, ps)) :
    (attrToks r).Pairwise (· < ·) ∧ ∀ i ∈ attrToks r, i < w.length := by
  obtain ⟨h1, h2⟩ := parse_tokens_any h
  have h3 := parseLoop_post (fun _ => step_scanInv hT w) (fun _ _ _ h => by cases h) fuel
    (initPS w) (scanInv_init w) r
  rw [← parse_eq cfg w fuel old, h] at h3
  refine ⟨h1, fun i hi => ?_⟩
  have := h2 i hi
  have : ps.ntok ≤ w.length + 1 := h3 rfl
  omega

theorem noRecovery_hr (T : PTables) (s : Nat) : T.noRecovery.canRecover[s]?.getD false = false := by
  simp [PTables.noRecovery]

theorem doAct_noRecovery (cfg : PCfg) (w : List Nat) (a : Act) (ps : PState) :
    doAct cfg.noRecovery w a ps = doAct cfg w a ps := by
  cases a <;> rfl

theorem step_noRecovery (cfg : PCfg) (w : List Nat) (ps : PState) :
    step cfg w ps = step cfg.noRecovery w ps ∨
    ∃ top rest, ps.states = top :: rest ∧ cfg.T.act top ps.next.2 = none ∧
      step cfg.noRecovery w ps =
        .done (.synErr ps.next.1 ps.next.2 (cfg.T.rowExpected top) top) ps := by
  rcases hst : ps.states with _ | ⟨top, rest⟩
  · left; rw [step_nil hst, step_nil hst]
  · rcases step_cases (cfg := cfg.noRecovery) (w := w) (noRecovery_hr cfg.T) hst with
      ⟨hn, e⟩ | ⟨hlt, ⟨ha, e⟩ | ⟨a, ha, e⟩⟩
    · left; rw [e]; exact step_range hst hn
    · exact .inr ⟨top, rest, rfl, ha, e⟩
    · left; rw [e, doAct_noRecovery]; exact step_act hst ha hlt

/-- lock-step with the parser without recovery states until the first failed lookup
    (`C07_inert_without_errors`) -/
theorem parseLoop_noRecovery (cfg : PCfg) (w : List Nat) : ∀ (fuel : Nat) (ps : PState),
    (∀ i t e s, (parseLoop cfg.noRecovery w fuel ps).1 ≠ .synErr i t e s) →
    parseLoop cfg w fuel ps = parseLoop cfg.noRecovery w fuel ps := by
  intro fuel
  induction fuel with
  | zero => intro ps _; rfl
  | succ fuel ih =>
    intro ps h
    rw [parseLoop_succ] at h ⊢
    rw [parseLoop_succ]
    rcases step_noRecovery cfg w ps with heq | ⟨top, rest, -, -, hs⟩
    · rw [heq]
      rcases hs : step cfg.noRecovery w ps with ⟨o, ps1⟩ | ps1
      -- not `rfl`: the kernel would first compare the two loops, which differ
      · simp only [StepR.run]
      · rw [hs] at h
        exact ih ps1 h
    · rw [hs] at h
      exact absurd rfl (h _ _ _ _)

end Gocc
