import Gocc.Proofs.Emoves
import Gocc.Proofs.LexTree
/-
The finite universe needed by `emoves_complete_of_universe`, for an arbitrary pattern.

For a production `k` with pattern `P` the universe is the list of all "dotted positions" of the
pattern tree of `P`: every path `q ++ [j]` such that the node reached from the root by the child
steps `q` exists and `j ≤ len` of that node (`j = len` is the "end" position produced by
`setToEnd` / `incLast`).  It is
  * closed under `emoveStep` (`step_good`, by the closed form of the step for each kind of node),
  * complete as an enumeration (`enum_complete`, induction on the path),
  * of length `≤ 2 * P.size` (`enumPat_length`, mutual structural recursion on the pattern),
and every node of the tree has at most `P.size - 1` children (`node_size`), so the out-degree of
`emoveStep` is `≤ P.size`.  With `C.fuel ≥ 4 * P.size + 12` the fuel `(C.fuel + 2)^2` of the model
is more than enough (`1 + (2 s + 1) (s + 1) ≤ (4 s + 14)^2`).

The start item itself is added to the universe, so NO well-formedness hypothesis on the start item
is needed: whatever its top position is, all its successors are proper positions of the tree.
-/
namespace Gocc
namespace EmovesU

def GoodPath (r : LNode) (p : List Nat) : Prop :=
  ∃ q j m, p = q ++ [j] ∧ node r q = some m ∧ j ≤ m.len

theorem good_enter {r n : LNode} {q : List Nat} (hn : node r q = some n)
    (hpl : isPatLike n = true) {k' : Nat} (hk : k' < n.len) : GoodPath r (q ++ [k'] ++ [0]) := by
  obtain ⟨a, ha⟩ := child_of_lt_patlike hpl hk
  exact ⟨q ++ [k'], 0, .alt a, rfl, by rw [node_snoc, hn]; exact ha, Nat.zero_le _⟩

theorem good_post {P : LPat} {n : LNode} {q : List Nat} (hn : node (.pat P) q = some n)
    (hn' : ∀ p, n ≠ .pat p) : GoodPath (.pat P) (incLast q) := by
  obtain ⟨q', j, pn, rfl, h2, hc⟩ := node_parent hn (node_ne_nil hn (hn' _))
  exact ⟨q', j + 1, pn, incLast_snoc _ _, h2, child_lt hc⟩

theorem step_good {C : LexCtx} {k : Nat} {P : LProd} (hP : C.prods[k]? = some P)
    {q : List Nat} {pos : Nat} {n : LNode} (hn : node (.pat P.pat) q = some n) :
    ∀ y ∈ emoveStep C ⟨k, q ++ [pos]⟩, y.prod = k ∧
      (C.isBasic ⟨k, q ++ [pos]⟩ = false → GoodPath (.pat P.pat) y.path) := by
  by_cases hpl : isPatLike n = true
  · intro y hy
    rcases (mem_step_patLike hP hn hpl).1 hy with ⟨_, h⟩ | ⟨ho, rfl⟩ | ⟨rfl, _, rfl⟩
    · obtain ⟨k', hk', rfl⟩ := mem_enterL.1 h
      exact ⟨rfl, fun _ => good_enter hn hpl hk'⟩
    · exact ⟨rfl, fun _ => good_post hn (by rintro p rfl; cases ho)⟩
    · exact ⟨rfl, fun _ => ⟨[], _, _, rfl, hn, Nat.le_refl _⟩⟩
  · obtain ⟨a, rfl⟩ := eq_alt_of_not_patLike hpl
    by_cases hpos : a.terms.length ≤ pos
    · obtain ⟨q', m, pn, rfl, hpn, -⟩ := node_parent hn (node_ne_nil hn nofun)
      rw [step_alt_end hP hpn hn hpos]
      exact List.forall_mem_singleton.2 ⟨rfl, fun _ => ⟨q', pn.len, pn, rfl, hpn, Nat.le_refl _⟩⟩
    · have hlt := Nat.not_le.1 hpos
      rw [step_alt_push hP hn hlt]
      refine List.forall_mem_singleton.2 ⟨rfl, fun hnb => ?_⟩
      -- not basic: no terminal is expected here, so the term pushes a node
      have hexp : (LNode.alt a).termAt pos = none := by
        rw [LexCtx.isBasic, Bool.or_eq_false_iff, expected_at hP hn] at hnb
        exact Option.isSome_eq_false_iff.1 hnb.2 |> Option.isNone_iff_eq_none.1
      obtain ⟨c, hc⟩ := alt_child_of_not_term hlt hexp
      exact ⟨q ++ [pos], 0, c, rfl, by rw [node_snoc, hn]; exact hc, Nat.zero_le _⟩

theorem step_length {C : LexCtx} {k : Nat} {P : LProd} (hP : C.prods[k]? = some P)
    {q : List Nat} {pos : Nat} {n : LNode} (hn : node (.pat P.pat) q = some n) :
    (emoveStep C ⟨k, q ++ [pos]⟩).length ≤ n.len + 1 := by
  cases n with
  | alt a =>
    by_cases hpos : a.terms.length ≤ pos
    · obtain ⟨q', m, pn, rfl, hpn, -⟩ := node_parent hn (node_ne_nil hn nofun)
      rw [step_alt_end hP hpn hn hpos]; exact Nat.le_add_left _ _
    · rw [step_alt_push hP hn (Nat.not_le.1 hpos)]; exact Nat.le_add_left _ _
  | _ =>
    rw [step_patLike hP hn rfl, List.length_append]
    refine Nat.add_le_add ?_ ?_
    · split
      · rw [enterL, List.length_map, List.length_range]; exact Nat.le_refl _
      · exact Nat.zero_le _
    · split
      · exact Nat.le_refl _
      · split
        · exact Nat.le_refl _
        · exact Nat.zero_le _

theorem step_nil_of_top_none {C : LexCtx} {x : LItem} (htop : C.top x = none) :
    emoveStep C x = [] := by
  unfold emoveStep; rw [htop]

theorem step_elim {C : LexCtx} {Q : LItem → Prop} (h0 : ∀ x, emoveStep C x = [] → Q x)
    (h1 : ∀ k P q pos n, C.prods[k]? = some P → node (.pat P.pat) q = some n → Q ⟨k, q ++ [pos]⟩)
    (x : LItem) : Q x := by
  cases htop : C.top x with
  | none => exact h0 x (step_nil_of_top_none htop)
  | some np =>
    obtain ⟨P, q, hP, hpath, hn⟩ := top_elim htop
    obtain ⟨k, l⟩ := x
    cases hpath
    exact h1 k P q np.2 np.1 hP hn

theorem emoveStep_prod (C : LexCtx) (i : LItem) : ∀ y ∈ emoveStep C i, y.prod = i.prod := by
  induction i using step_elim (C := C) with
  | h0 x h => rw [h]; nofun
  | h1 k P q pos n hP hn => exact fun y hy => (step_good hP hn y hy).1

mutual
  def enumPat (pre : List Nat) : LPat → List (List Nat)
    | .mk alts => (List.range (alts.length + 1)).map (fun j => pre ++ [j]) ++ enumAlts pre 0 alts
  def enumAlt (pre : List Nat) : LAlt → List (List Nat)
    | .mk ts => (List.range (ts.length + 1)).map (fun j => pre ++ [j]) ++ enumTerms pre 0 ts
  def enumAlts (pre : List Nat) (k : Nat) : List LAlt → List (List Nat)
    | [] => []
    | a :: rest => enumAlt (pre ++ [k]) a ++ enumAlts pre (k + 1) rest
  def enumTerm (pre : List Nat) : LTerm → List (List Nat)
    | .opt p => enumPat pre p
    | .rep p => enumPat pre p
    | .grp p => enumPat pre p
    | _ => []
  def enumTerms (pre : List Nat) (k : Nat) : List LTerm → List (List Nat)
    | [] => []
    | t :: rest => enumTerm (pre ++ [k]) t ++ enumTerms pre (k + 1) rest
end

def enumNode (pre : List Nat) : LNode → List (List Nat)
  | .pat p | .grp p | .opt p | .rep p => enumPat pre p
  | .alt a => enumAlt pre a

theorem enumAlts_sub (pre : List Nat) : ∀ (alts : List LAlt) (k a : Nat) (al : LAlt),
    alts[a]? = some al → ∀ x ∈ enumAlt (pre ++ [k + a]) al, x ∈ enumAlts pre k alts
  | [], _, _, _, h, _, _ => by cases h
  | _ :: rest, k, 0, al, h, x, hx => by cases h; rw [enumAlts]; exact List.mem_append_left _ hx
  | _ :: rest, k, a + 1, al, h, x, hx => by
    rw [enumAlts]
    refine List.mem_append_right _ (enumAlts_sub pre rest (k + 1) a al h x ?_)
    rwa [show k + 1 + a = k + (a + 1) by omega]

theorem enumTerms_sub (pre : List Nat) : ∀ (ts : List LTerm) (k a : Nat) (t : LTerm),
    ts[a]? = some t → ∀ x ∈ enumTerm (pre ++ [k + a]) t, x ∈ enumTerms pre k ts
  | [], _, _, _, h, _, _ => by cases h
  | _ :: rest, k, 0, t, h, x, hx => by cases h; rw [enumTerms]; exact List.mem_append_left _ hx
  | _ :: rest, k, a + 1, t, h, x, hx => by
    rw [enumTerms]
    refine List.mem_append_right _ (enumTerms_sub pre rest (k + 1) a t h x ?_)
    rwa [show k + 1 + a = k + (a + 1) by omega]

theorem enumNode_child {n c : LNode} {a : Nat} (pre : List Nat) (h : n.child a = some c) :
    ∀ x ∈ enumNode (pre ++ [a]) c, x ∈ enumNode pre n := by
  intro x hx
  cases n with
  | alt al =>
    obtain ⟨ts⟩ := al
    rw [child_alt, Option.bind_eq_some_iff] at h
    obtain ⟨t, ht, hs⟩ := h
    rw [enumNode, enumAlt]
    refine List.mem_append_right _ (enumTerms_sub pre ts 0 a t ht x ?_)
    rw [Nat.zero_add]
    cases t <;> cases hs <;> simpa only [enumTerm, enumNode] using hx
  | pat p | grp p | opt p | rep p =>
    obtain ⟨alts⟩ := p
    simp only [LNode.child, Option.map_eq_some_iff] at h
    obtain ⟨al, hal, rfl⟩ := h
    rw [enumNode, enumPat]
    refine List.mem_append_right _ (enumAlts_sub pre alts 0 a al hal x ?_)
    rw [Nat.zero_add]
    exact hx

theorem enumNode_head (pre : List Nat) (n : LNode) {j : Nat} (hj : j ≤ n.len) :
    pre ++ [j] ∈ enumNode pre n := by
  have hm : ∀ len, j ≤ len → pre ++ [j] ∈ (List.range (len + 1)).map (fun j => pre ++ [j]) :=
    fun len h => List.mem_map.2 ⟨j, List.mem_range.2 (Nat.lt_succ_of_le h), rfl⟩
  cases n with
  | alt al => obtain ⟨ts⟩ := al; rw [enumNode, enumAlt]; exact List.mem_append_left _ (hm _ hj)
  | pat p | grp p | opt p | rep p =>
    obtain ⟨alts⟩ := p; rw [enumNode, enumPat]; exact List.mem_append_left _ (hm _ hj)

theorem enum_complete : ∀ (q : List Nat) (r m : LNode) (pre : List Nat) (j : Nat),
    node r q = some m → j ≤ m.len → pre ++ (q ++ [j]) ∈ enumNode pre r
  | [], r, m, pre, j, h, hj => by cases h; exact enumNode_head pre r hj
  | a :: q, r, m, pre, j, h, hj => by
    rw [node, Option.bind_eq_some_iff] at h
    obtain ⟨c, hc, hm⟩ := h
    have := enumNode_child pre hc _ (enum_complete q c m (pre ++ [a]) j hm hj)
    rwa [List.append_assoc, List.singleton_append] at this

theorem goodPath_mem_enum {P : LPat} {l : List Nat} (h : GoodPath (.pat P) l) :
    l ∈ enumPat [] P := by
  obtain ⟨q, j, m, rfl, hn, hj⟩ := h
  exact enum_complete q (.pat P) m [] j hn hj

def termSize : LTerm → Nat
  | .opt p => 1 + p.size
  | .rep p => 1 + p.size
  | .grp p => 1 + p.size
  | _ => 1

theorem sizeTerms_cons (t : LTerm) (rest : List LTerm) :
    LPat.size.sizeTerms (t :: rest) = termSize t + LPat.size.sizeTerms rest := by
  cases t <;> rw [LPat.size.sizeTerms] <;> first | rfl | (intro p h; cases h)

mutual
  theorem enumPat_length (pre : List Nat) : (P : LPat) → (enumPat pre P).length + 1 ≤ 2 * P.size
    | .mk alts => by
      have := enumAlts_length pre 0 alts
      simp only [enumPat, LPat.size, List.length_append, List.length_map, List.length_range]
      omega
  theorem enumAlt_length (pre : List Nat) : (a : LAlt) →
      (enumAlt pre a).length + 1 ≤ 2 * (1 + LPat.size.sizeTerms a.terms)
    | .mk ts => by
      have := enumTerms_length pre 0 ts
      simp only [enumAlt, LAlt.terms, List.length_append, List.length_map, List.length_range]
      omega
  theorem enumAlts_length (pre : List Nat) (k : Nat) : (alts : List LAlt) →
      (enumAlts pre k alts).length + alts.length ≤ 2 * LPat.size.sizeAlts alts
    | [] => by simp [enumAlts, LPat.size.sizeAlts]
    | .mk ts :: rest => by
      have h1 := enumAlt_length (pre ++ [k]) (.mk ts)
      have h2 := enumAlts_length pre (k + 1) rest
      simp only [LAlt.terms] at h1
      simp only [enumAlts, LPat.size.sizeAlts, List.length_append, List.length_cons]
      omega
  theorem enumTerm_length (pre : List Nat) : (t : LTerm) →
      (enumTerm pre t).length + 1 ≤ 2 * termSize t
    | .opt p | .rep p | .grp p => by
      have := enumPat_length pre p
      simp only [enumTerm, termSize]; omega
    | .dot | .lit _ | .rng _ _ | .ref _ => by simp [enumTerm, termSize]
  theorem enumTerms_length (pre : List Nat) (k : Nat) : (ts : List LTerm) →
      (enumTerms pre k ts).length + ts.length ≤ 2 * LPat.size.sizeTerms ts
    | [] => by simp [enumTerms, LPat.size.sizeTerms]
    | t :: rest => by
      have h1 := enumTerm_length (pre ++ [k]) t
      have h2 := enumTerms_length pre (k + 1) rest
      rw [enumTerms, sizeTerms_cons, List.length_append, List.length_cons]
      omega
end

def altSize : LAlt → Nat
  | .mk ts => 1 + LPat.size.sizeTerms ts

theorem sizeAlts_cons (a : LAlt) (rest : List LAlt) :
    LPat.size.sizeAlts (a :: rest) = altSize a + LPat.size.sizeAlts rest := by
  cases a; rw [LPat.size.sizeAlts]; rfl

theorem sizeTerms_eq (ts : List LTerm) : LPat.size.sizeTerms ts = (ts.map termSize).sum := by
  induction ts with
  | nil => rfl
  | cons t rest ih => rw [sizeTerms_cons, ih]; rfl

theorem sizeAlts_eq (alts : List LAlt) : LPat.size.sizeAlts alts = (alts.map altSize).sum := by
  induction alts with
  | nil => rfl
  | cons a rest ih => rw [sizeAlts_cons, ih]; rfl

theorem le_sum_map {α : Type} (f : α → Nat) : ∀ (l : List α) (x : α), x ∈ l → f x ≤ (l.map f).sum
  | a :: l, x, h => by
    rw [List.map_cons, List.sum_cons]
    rcases List.mem_cons.1 h with rfl | h
    · exact Nat.le_add_right _ _
    · exact Nat.le_trans (le_sum_map f l x h) (Nat.le_add_left _ _)

theorem length_le_sum_map {α : Type} (f : α → Nat) (hf : ∀ x, 1 ≤ f x) :
    ∀ l : List α, l.length ≤ (l.map f).sum
  | [] => Nat.le_refl _
  | a :: l => by
    have := length_le_sum_map f hf l
    have := hf a
    rw [List.map_cons, List.sum_cons, List.length_cons]; omega

theorem size_hered (N : Nat) : Hered (fun p => p.size ≤ N)
    (fun ts => 1 + LPat.size.sizeTerms ts ≤ N) (fun t => termSize t ≤ N) where
  alts := by
    rintro ⟨alts⟩ hp ⟨ts⟩ ha
    have := le_sum_map altSize alts _ ha
    rw [LPat.size, sizeAlts_eq] at hp
    simp only [altSize, LAlt.terms] at this ⊢
    omega
  terms := by
    intro ts h t ht
    have := le_sum_map termSize ts t ht
    rw [sizeTerms_eq] at h
    omega
  sub := fun p => by simp only [termSize]; omega

theorem len_lt_of_size {N : Nat} {n : LNode}
    (h : atNode (fun p => p.size ≤ N) (fun ts => 1 + LPat.size.sizeTerms ts ≤ N) n) : n.len + 1 ≤ N := by
  cases n with
  | alt a =>
    obtain ⟨ts⟩ := a
    have := length_le_sum_map termSize (fun t => by cases t <;> simp [termSize]) ts
    rw [← sizeTerms_eq] at this
    simp only [atNode, LNode.len, LAlt.terms] at h ⊢; omega
  | pat p | grp p | opt p | rep p =>
    obtain ⟨alts⟩ := p
    have := length_le_sum_map altSize (fun a => by cases a; simp [altSize]) alts
    rw [← sizeAlts_eq] at this
    simp only [atNode, LNode.len, LPat.alts, LPat.size] at h ⊢; omega

theorem node_size {q : List Nat} {P : LPat} {m : LNode} (h : node (.pat P) q = some m) :
    m.len + 1 ≤ P.size :=
  len_lt_of_size ((size_hered P.size).node h (Nat.le_refl _))

def univ (C : LexCtx) (k : Nat) : List LItem :=
  match C.prods[k]? with
  | some P => (enumPat [] P.pat).map fun p => ⟨k, p⟩
  | none => []

def univD (C : LexCtx) (k : Nat) : Nat :=
  match C.prods[k]? with
  | some P => P.pat.size
  | none => 0

theorem step_in_univ {C : LexCtx} (x : LItem) (hnb : C.isBasic x = false) :
    (∀ y ∈ emoveStep C x, y ∈ univ C x.prod) ∧ (emoveStep C x).length ≤ univD C x.prod := by
  induction x using step_elim (C := C) with
  | h0 x h => rw [h]; exact ⟨nofun, Nat.zero_le _⟩
  | h1 k P q pos n hP hn =>
    simp only [univ, univD, hP]
    refine ⟨fun y hy => ?_, Nat.le_trans (step_length hP hn) (node_size hn)⟩
    obtain ⟨yk, yl⟩ := y
    obtain ⟨rfl, hg⟩ := step_good hP hn _ hy
    exact List.mem_map.2 ⟨yl, goodPath_mem_enum (hg hnb), rfl⟩

theorem mem_univ_prod {C : LexCtx} {k : Nat} {x : LItem} (h : x ∈ univ C k) : x.prod = k := by
  unfold univ at h
  split at h
  · obtain ⟨p, _, rfl⟩ := List.mem_map.1 h; rfl
  · cases h

theorem euniv (C : LexCtx) (i : LItem) : EUniv C (i :: univ C i.prod) (univD C i.prod) := by
  have hprod : ∀ x ∈ i :: univ C i.prod, x.prod = i.prod :=
    List.forall_mem_cons.2 ⟨rfl, fun x hx => mem_univ_prod hx⟩
  exact ⟨fun x hx hnb y hy => List.mem_cons_of_mem _ (hprod x hx ▸ (step_in_univ x hnb).1 y hy),
    fun x hx hnb => hprod x hx ▸ (step_in_univ x hnb).2⟩

theorem fuel_ge {C : LexCtx} {k : Nat} {P : LProd} (hP : C.prods[k]? = some P) :
    4 * P.pat.size + 12 ≤ C.fuel := by
  have := le_sum_map (fun p : LProd => 4 * p.pat.size + 4) C.prods.toList P
    (Array.mem_toList_iff.2 (Array.mem_of_getElem? hP))
  unfold LexCtx.fuel
  omega

theorem univ_length (C : LexCtx) (k : Nat) : (univ C k).length ≤ 2 * univD C k := by
  unfold univ univD
  split
  · rename_i P _
    have := enumPat_length [] P.pat
    rw [List.length_map]
    omega
  · exact Nat.le_refl _

theorem univD_fuel (C : LexCtx) (k : Nat) : 4 * univD C k + 8 ≤ C.fuel := by
  unfold univD
  split
  · rename_i P hP
    have := fuel_ge hP; omega
  · unfold LexCtx.fuel; omega

theorem fuel_ok (C : LexCtx) (i : LItem) :
    1 + (i :: univ C i.prod).length * (univD C i.prod + 1) ≤ (C.fuel + 2) * (C.fuel + 2) := by
  have hl := univ_length C i.prod
  have hF := univD_fuel C i.prod
  rw [List.length_cons]
  generalize univD C i.prod = s at hl hF
  have h1 : ((univ C i.prod).length + 1) * (s + 1) ≤ (2 * s + 1) * (s + 1) :=
    Nat.mul_le_mul_right _ (by omega)
  have h2 : (2 * s + 1) * (s + 1) + 1 * (s + 1) = (2 * s + 2) * (s + 1) := by rw [← Nat.add_mul]
  have h3 : (2 * s + 2) * (s + 1) ≤ (C.fuel + 2) * (C.fuel + 2) :=
    Nat.mul_le_mul (by omega) (by omega)
  omega

end EmovesU

open EmovesU in
/-- the fuel of the model is never exhausted: `emoves C i` is what the unbounded Go loop computes -/
theorem emoves_complete (C : LexCtx) (i : LItem) :
    ∀ y, EReach C i y → C.isBasic y = true → y ∈ emoves C i :=
  emoves_complete_of_universe (euniv C i) (List.mem_cons_self ..) (fuel_ok C i)

theorem mem_emoves_iff (C : LexCtx) (i y : LItem) :
    y ∈ emoves C i ↔ EReach C i y ∧ C.isBasic y = true :=
  ⟨emoves_sound C i y, fun h => emoves_complete C i y h.1 h.2⟩

end Gocc
