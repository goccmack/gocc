import Gocc.Proofs.LexItems
/-
The inner loops of `ItemSets.Closure` (internal/lexer/items/itemsets.go) on lexer item lists
(`Model/LexGen.lean`).  The set constructors keep item lists duplicate-free lists of dotted positions
(`Pos`, Proofs/LexItems.lean); hence the index-driven loops `closureL` (`ItemList.Closure`) and
`depClosure` (`ItemSet.dependentsClosure`, internal/lexer/items/itemset.go) exhaust their work lists
before their fuel (`WorkList.IdxInv`), and `closureL` is idempotent.
-/
namespace Gocc.LoopsT
open Gocc.EmovesU Gocc.LexGenC Gocc.WorkList

def GoodL (C : LexCtx) (l : List LItem) : Prop := l.Nodup ∧ ∀ x ∈ l, Pos C x

theorem GoodL.nil (C : LexCtx) : GoodL C [] := ⟨by simp, by simp⟩

theorem GoodL.appends {C : LexCtx} {Q : LItem → Prop} {a b : List LItem} (h : GoodL C a)
    (hab : Appends Q a b) (hQ : ∀ y, Q y → Pos C y) : GoodL C b := by
  refine ⟨hab.nodup h.1, ?_⟩
  obtain ⟨ex, rfl, _, hq⟩ := hab
  exact List.forall_mem_append.2 ⟨h.2, fun y hy => hQ y (hq y hy).1⟩

theorem GoodL.addAll {C : LexCtx} {l is : List LItem} (h : GoodL C l)
    (hi : ∀ y ∈ is, Pos C y) : GoodL C (addAll l is) :=
  h.appends (appends_addAll is l) hi

theorem closureLoopL_good {C : LexCtx} (orig : List LItem) :
    ∀ (fuel k : Nat) (cl r : List LItem), closureLoopL C orig fuel k cl = .ok r → GoodL C cl →
      GoodL C r := by
  intro fuel
  induction fuel with
  | zero => intro k cl r h hg; simp only [closureLoopL] at h; cases h; exact hg
  | succ fuel ih =>
    intro k cl r h hg
    unfold closureLoopL at h
    split at h
    · cases h; exact hg
    · split at h
      · split at h
        · cases hi : initialItems C _ with
          | error e => rw [hi] at h; cases h
          | ok init =>
            rw [hi] at h
            exact ih _ _ _ h (hg.addAll (pos_initialItems hi))
        · exact ih _ _ _ h hg
      · exact ih _ _ _ h hg

theorem closureL_good {C : LexCtx} {l r : List LItem} (h : closureL C l = .ok r)
    (hg : GoodL C l) : GoodL C r :=
  closureLoopL_good l _ 0 l r h hg

theorem moveFold_good {C : LexCtx} {prev : List LItem} (f : LItem → List LItem)
    (hf : ∀ x ∈ prev, ∀ y ∈ f x, Pos C y) :
    GoodL C (prev.foldl (fun acc i => addAll acc (f i)) []) :=
  foldl_inv (GoodL C) (fun _ a ha hacc => hacc.addAll (hf a ha)) (GoodL.nil C)

theorem itemsSet0_good (C : LexCtx) : GoodL C (itemsSet0 C) := by
  unfold itemsSet0
  refine foldl_inv (GoodL C) (fun acc k _ hacc => ?_) (GoodL.nil C)
  split
  · rename_i p hp
    split
    · exact hacc.addAll (pos_emoves (pos_start hp))
    · exact hacc
  · exact hacc

/-- the exit condition of `ItemList.Closure` for the item `i` -/
def RefDone (C : LexCtx) (orig cl : List LItem) (i : LItem) : Prop :=
  ∀ r, C.expected i = some (.ref r) → containShift C orig r = true ∨
    ∃ init, initialItems C r = .ok init ∧ ∀ y ∈ init, y ∈ cl

theorem RefDone.mono {C : LexCtx} {orig cl cl' : List LItem} {i : LItem}
    (hsub : ∀ y ∈ cl, y ∈ cl') (h : RefDone C orig cl i) : RefDone C orig cl' i := fun r hr =>
  (h r hr).imp_right fun ⟨init, h1, h2⟩ => ⟨init, h1, fun y hy => hsub y (h2 y hy)⟩

theorem closureLoopL_spec {C : LexCtx} (orig l : List LItem) :
    ∀ (fuel k : Nat) (cl r : List LItem), closureLoopL C orig fuel k cl = .ok r →
      IdxInv (lexUniv C) (RefDone C orig) l k cl → l.length + (lexUniv C).length + 1 ≤ k + fuel →
      IdxInv (lexUniv C) (RefDone C orig) l r.length r := by
  intro fuel
  induction fuel with
  | zero =>
    intro k cl r _ hinv hf
    have := hinv.length_le
    have := hinv.kle
    omega
  | succ fuel ih =>
    intro k cl r h hinv hf
    unfold closureLoopL at h
    split at h
    · rename_i hk
      cases h
      exact hinv.exit hk
    · rename_i i hk
      have keep : RefDone C orig cl i → IdxInv (lexUniv C) (RefDone C orig) l (k + 1) cl :=
        hinv.step RefDone.mono hk (.refl _ _)
      split at h
      · rename_i r' he
        split at h
        · cases hi : initialItems C r' with
          | error e => rw [hi] at h; cases h
          | ok init =>
            rw [hi] at h
            refine ih _ _ _ h (hinv.step RefDone.mono hk ((appends_addAll init cl).mono
              fun y hy => pos_mem_lexUniv (pos_initialItems hi y hy)) fun r'' hr'' => ?_) (by omega)
            cases he.symm.trans hr''
            exact .inr ⟨init, hi, fun y hy => mem_addAll.2 (.inr hy)⟩
        · rename_i hcs
          refine ih _ _ _ h (keep fun r'' hr'' => ?_) (by omega)
          cases he.symm.trans hr''
          exact .inl (by simpa using hcs)
      · rename_i hne
        exact ih _ _ _ h (keep fun r'' hr'' => absurd hr'' (hne r'')) (by omega)

theorem closureL_spec {C : LexCtx} {l r : List LItem} (h : closureL C l = .ok r) :
    (∀ x ∈ l, x ∈ r) ∧ ∀ i ∈ r, RefDone C l r i := by
  have h1 := lexUniv_length C
  have h2 := Nat.le_mul_self C.fuel
  exact (closureLoopL_spec l l _ 0 l r h (.init _ _ l) (by omega)).all

theorem containShift_mono {C : LexCtx} {a b : List LItem} (hsub : ∀ x ∈ a, x ∈ b) {r : String}
    (h : containShift C a r = true) : containShift C b r = true := by
  unfold containShift at h ⊢
  rw [List.any_eq_true] at h ⊢
  obtain ⟨x, hx, hp⟩ := h
  exact ⟨x, hsub x hx, hp⟩

theorem closureLoopL_fix {C : LexCtx} {l r : List LItem} (hsub : ∀ x ∈ l, x ∈ r)
    (hd : ∀ i ∈ r, RefDone C l r i) :
    ∀ (fuel k : Nat), closureLoopL C r fuel k r = .ok r := by
  intro fuel
  induction fuel with
  | zero => intro k; rfl
  | succ fuel ih =>
    intro k
    unfold closureLoopL
    split
    · rfl
    · rename_i i hk
      have hi : i ∈ r := List.mem_of_getElem? hk
      split
      · rename_i r' he
        split
        · rename_i hcs
          rcases hd i hi r' he with h' | ⟨init, h1, h2⟩
          · have := containShift_mono hsub h'
            rw [this] at hcs
            simp at hcs
          · rw [h1]
            simp only [bind, Except.bind]
            rw [addAll_of_subset h2]
            exact ih _
        · exact ih _
      · exact ih _

theorem closureL_idem {C : LexCtx} {l r : List LItem} (h : closureL C l = .ok r) :
    closureL C r = .ok r := by
  obtain ⟨h1, h2⟩ := closureL_spec h
  exact closureLoopL_fix h1 h2 _ 0

/-! ### `dependentsClosure`

An unbounded work-list loop (`for i := 0; i < len(items); i++ { … items =
items.AddNoDuplicate(…) }`), modelled by `depLoop` on fuel `|items| + |prev| + C.fuel² + 8`.  The
fuel is never exhausted: the list only grows by items of `prev` and by dotted positions, each once. -/

/-- the inner loop `for _, thisItem := range this.Items` for the item `it = items[i]` -/
def depG (C : LexCtx) (it : LItem) (acc : List LItem) (th : LItem) : List LItem :=
  match C.expected th with
  | some (.ref r) =>
    if r == C.idOf it then
      if C.isReduce it then addAll acc (moveRef C th (C.idOf it)) else addL acc th
    else acc
  | _ => acc

def depStep (C : LexCtx) (prev : List LItem) (it : LItem) (items : List LItem) : List LItem :=
  prev.foldl (depG C it) items

theorem depLoop_succ (C : LexCtx) (prev : List LItem) (fuel k : Nat) (items : List LItem) :
    depLoop C prev (fuel + 1) k items =
      match items[k]? with
      | none => items
      | some it => depLoop C prev fuel (k + 1) (depStep C prev it items) := rfl

/-- what processing `it` may add from `thisItem = th`; `DepNew C prev it y` below is
    `∃ th ∈ prev, DepFrom C it th y` written out -/
def DepFrom (C : LexCtx) (it th y : LItem) : Prop :=
  ∃ r, C.expected th = some (.ref r) ∧ (r == C.idOf it) = true ∧
    ((C.isReduce it = true ∧ y ∈ moveRef C th (C.idOf it)) ∨ (C.isReduce it = false ∧ y = th))

/-- what processing `it` may add: for `thisItem ∈ prev` expecting the regular definition `it.Id`,
    the moved items if `it` is a reduce item, else `thisItem` itself -/
def DepNew (C : LexCtx) (prev : List LItem) (it y : LItem) : Prop :=
  ∃ th ∈ prev, ∃ r, C.expected th = some (.ref r) ∧ (r == C.idOf it) = true ∧
    ((C.isReduce it = true ∧ y ∈ moveRef C th (C.idOf it)) ∨ (C.isReduce it = false ∧ y = th))

theorem depG_spec (C : LexCtx) (it th : LItem) (acc : List LItem) :
    Appends (DepFrom C it th) acc (depG C it acc th) ∧
    ∀ y, DepFrom C it th y → y ∈ depG C it acc th := by
  unfold depG
  split
  · rename_i r he
    split
    · rename_i hr
      split
      · rename_i hred
        refine ⟨(appends_addAll _ _).mono fun y hy => ⟨r, he, hr, .inl ⟨hred, hy⟩⟩, ?_⟩
        rintro y ⟨_, _, _, h | h⟩
        · exact mem_addAll.2 (.inr h.2)
        · rw [hred] at h; cases h.1
      · rename_i hred
        refine ⟨(appends_addL _ _).mono fun y hy =>
          ⟨r, he, hr, .inr ⟨Bool.eq_false_iff.2 hred, hy⟩⟩, ?_⟩
        rintro y ⟨_, _, _, h | h⟩
        · exact absurd h.1 hred
        · exact mem_addL.2 (.inr h.2)
    · rename_i hr
      refine ⟨.refl _ _, ?_⟩
      rintro y ⟨r', he', hr', _⟩
      cases he.symm.trans he'
      exact absurd hr' hr
  · rename_i hne
    exact ⟨.refl _ _, fun y ⟨r', he', _⟩ => absurd he' (hne r')⟩

theorem depStep_spec (C : LexCtx) (prev : List LItem) (it : LItem) (items : List LItem) :
    Appends (DepNew C prev it) items (depStep C prev it items) ∧
    ∀ y, DepNew C prev it y → y ∈ depStep C prev it items := by
  unfold depStep
  suffices ∀ (l : List LItem), (∀ x ∈ l, x ∈ prev) → ∀ (acc : List LItem),
      Appends (DepNew C prev it) acc (l.foldl (depG C it) acc) ∧
      ∀ th ∈ l, ∀ y, DepFrom C it th y → y ∈ l.foldl (depG C it) acc by
    obtain ⟨k1, k2⟩ := this prev (fun _ h => h) items
    exact ⟨k1, fun y ⟨th, hth, h⟩ => k2 th hth y h⟩
  intro l
  induction l with
  | nil => intro _ acc; exact ⟨.refl _ _, nofun⟩
  | cons a l ih =>
    intro hl acc
    rw [List.forall_mem_cons] at hl
    obtain ⟨s1, s2⟩ := depG_spec C it a acc
    obtain ⟨r1, r2⟩ := ih hl.2 (depG C it acc a)
    rw [List.foldl_cons, List.forall_mem_cons]
    exact ⟨(s1.mono fun y hy => ⟨a, hl.1, hy⟩).trans r1, fun y hy => r1.sub y (s2 y hy), r2⟩

theorem depNew_univ {C : LexCtx} {prev : List LItem} {it y : LItem}
    (h : DepNew C prev it y) : y ∈ prev ++ lexUniv C := by
  obtain ⟨th, hth, r, _, _, h | h⟩ := h
  · exact List.mem_append_right _ (pos_mem_lexUniv (pos_moveRef th _ y h.2))
  · rw [h.2]; exact List.mem_append_left _ hth

theorem depLoop_spec (C : LexCtx) (prev l : List LItem) :
    ∀ (fuel k : Nat) (items : List LItem),
      IdxInv (prev ++ lexUniv C) (fun cur it => ∀ y, DepNew C prev it y → y ∈ cur) l k items →
      l.length + prev.length + (lexUniv C).length + 1 ≤ k + fuel →
      IdxInv (prev ++ lexUniv C) (fun cur it => ∀ y, DepNew C prev it y → y ∈ cur) l
        (depLoop C prev fuel k items).length (depLoop C prev fuel k items) := by
  intro fuel
  induction fuel with
  | zero =>
    intro k items hinv hf
    have h1 := hinv.length_le
    have h2 := hinv.kle
    rw [List.length_append] at h1
    omega
  | succ fuel ih =>
    intro k items hinv hf
    rw [depLoop_succ]
    split
    · rename_i hk; exact hinv.exit hk
    · rename_i it hk
      obtain ⟨happ, hall⟩ := depStep_spec C prev it items
      exact ih _ _ (hinv.step (fun hsub h y hy => hsub y (h y hy)) hk
        (happ.mono fun _ => depNew_univ) hall) (by omega)

theorem depClosure_spec (C : LexCtx) (prev items : List LItem) :
    (∀ x ∈ items, x ∈ depClosure C prev items) ∧
    ∀ it ∈ depClosure C prev items, ∀ y, DepNew C prev it y → y ∈ depClosure C prev items := by
  unfold depClosure
  split
  · rename_i he
    rw [List.isEmpty_iff] at he
    subst he
    exact ⟨nofun, nofun⟩
  · have h1 := lexUniv_length C
    have h2 := Nat.le_mul_self C.fuel
    exact (depLoop_spec C prev items _ 0 items (.init _ _ items) (by omega)).all

theorem depNew_pos {C : LexCtx} {prev : List LItem} (hp : ∀ x ∈ prev, Pos C x) {it y : LItem}
    (h : DepNew C prev it y) : Pos C y := by
  obtain ⟨th, hth, r, _, _, h | h⟩ := h
  · exact pos_moveRef th _ y h.2
  · rw [h.2]; exact hp th hth

theorem depLoop_good {C : LexCtx} {prev : List LItem} (hp : ∀ x ∈ prev, Pos C x) :
    ∀ (fuel k : Nat) (items : List LItem), GoodL C items → GoodL C (depLoop C prev fuel k items) := by
  intro fuel
  induction fuel with
  | zero => intro k items h; exact h
  | succ fuel ih =>
    intro k items h
    rw [depLoop_succ]
    split
    · exact h
    · exact ih _ _ (h.appends (depStep_spec C prev _ items).1 fun _ => depNew_pos hp)

theorem depClosure_good {C : LexCtx} {prev items : List LItem} (hp : ∀ x ∈ prev, Pos C x)
    (h : GoodL C items) : GoodL C (depClosure C prev items) := by
  unfold depClosure
  split
  · exact h
  · exact depLoop_good hp _ _ _ h

theorem nextSet_good {C : LexCtx} {prev items : List LItem} {c : CR} (hp : ∀ x ∈ prev, Pos C x)
    (h : nextSet C prev c = .ok items) : GoodL C items :=
  closureL_good h (depClosure_good hp
    (moveFold_good (fun i => moveOn C i c) (fun x _ => pos_moveOn x c)))

theorem nextDot_good {C : LexCtx} {prev items : List LItem} (hp : ∀ x ∈ prev, Pos C x)
    (h : nextDot C prev = .ok items) : GoodL C items :=
  closureL_good h (depClosure_good hp
    (moveFold_good (fun i => moveDot C i) (fun x _ => pos_moveDot x)))

end Gocc.LoopsT
