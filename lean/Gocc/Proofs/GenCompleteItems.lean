import Gocc.Proofs.GenCompleteFirst
import Gocc.Proofs.LoopsTerminateCount
/-
Generator-level completeness, the item sets: a property of items that the initial item has and that
`closureStep` and advancing the dot preserve holds in every state (`genParser_all`); so look-aheads
are good terminals, and items of production 0 have look-ahead `␚` (`LaOk`).
-/
namespace Gocc.GenComplete

def AllQ (Q : Item → Prop) (sets : Array LRState) : Prop :=
  ∀ (j : Nat) (st : LRState), sets[j]? = some st → ∀ i ∈ st.items, Q i

theorem genParser_all {syn : List SProd} {ids : List String} {r : LRResult}
    (h : genParser syn ids = .ok r) {Q : Item → Prop}
    (h0 : Q ⟨0, 0, "␚"⟩) (hstep : ∀ i, Q i → ∀ j ∈ closureStep r.ctx i, Q j)
    (hadv : ∀ i : Item, Q i → Q { i with d := i.d + 1 }) : AllQ Q r.states := by
  obtain ⟨S0, -, -, hst⟩ := genParser_shape h
  rw [hst]
  refine lrLoop_allS (Q := fun I => ∀ i ∈ I, Q i) (fun I X hI _ => goto_all hstep hadv hI X) _ _ _
    (AllS.singleton (closure_all hstep ?_))
  intro i hi
  rw [List.mem_singleton.1 hi]
  exact h0

def LaOk (C : LRCtx) (i : Item) : Prop := (i.p = 0 → i.la = "␚") ∧ GoodT C.S i.la

theorem first1_good {C : LRCtx} {prods : List SProd} (hC : C.prods = prods.toArray)
    (hT : TInv C.S C.fs) (hB : BodyOk prods) {i : Item} (hla : GoodT C.S i.la) :
    ∀ t ∈ first1 C i, GoodT C.S t := by
  intro t ht
  rw [mem_first1_iff] at ht
  have hgood : t = "empty" ∨ GoodT C.S t := by
    refine firstS_good hT.get ?_ ht
    intro y hy hterm
    rcases List.mem_append.1 hy with hy | hy
    · obtain ⟨hp, hne, s, hs, rfl⟩ := body_mem (List.mem_of_mem_drop hy)
      obtain ⟨hp', heq⟩ := ctx_prod hC hp
      rw [heq] at hne hs
      have := hB _ (List.getElem_mem hp') s hs
      exact .inr ⟨hterm, this.1, this.2 hne⟩
    · have : y = i.la := by simpa using hy
      subst this
      exact .inr hla
  rcases hgood with he | hg
  · exfalso
    subst he
    have hnt : i.la ∉ C.S.ntList := isTerminal_iff.1 hla.1
    refine firstS_no_empty (y := i.la) (List.mem_append_right _ (by simp)) ?_ ht
    rw [first_t hnt]
    simp only [List.mem_singleton]
    exact fun e => hla.2.2 e.symm
  · exact hg

theorem laOk_step {C : LRCtx} {prods : List SProd} (hC : C.prods = prods.toArray)
    (hT : TInv C.S C.fs) (hB : BodyOk prods) (hS : NoStartRef C) :
    ∀ i, LaOk C i → ∀ j ∈ closureStep C i, LaOk C j := by
  intro i hi j hj
  obtain ⟨-, -, h7, h3, h4⟩ := mem_closureStep hj
  refine ⟨?_, first1_good hC hT hB hi.2 j.la h7⟩
  intro hp
  rw [hp] at h4
  exact absurd h4 (hS i h3)

end Gocc.GenComplete
