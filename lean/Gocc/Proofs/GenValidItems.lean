import Gocc.Proofs.GenValidFirst
import Gocc.Proofs.GenFacts
/-
Generator-level validity, the ORDER of the item lists (checks (V0/V1) `itemsJust`).

`ItemSet.Closure` is a work list: the kernel items first, then every closure item appended when it
is first discovered — by `closureStep` of an item that is already in the list.  So every item of a
state is a kernel item or is preceded by the item whose closure step produced it.  The map
`i ↦ (i.p, i.d, token type of i.la)` and `eraseDups` (which keeps first occurrences, in order)
preserve this.
-/
namespace Gocc.GenValid

open Gocc.GenComplete

section Lists
variable {α β : Type}

/-- the list is read backwards (newest first): every element has `P` or is `R`-related to an
    element after it, i.e. to one that was there before it -/
def RJ (P : α → Prop) (R : α → α → Prop) : List α → Prop
  | [] => True
  | x :: earlier => (P x ∨ ∃ y ∈ earlier, R y x) ∧ RJ P R earlier

theorem RJ.of_all {P : α → Prop} {R : α → α → Prop} : ∀ (l : List α), (∀ x ∈ l, P x) → RJ P R l
  | [], _ => trivial
  | x :: l, h =>
    ⟨.inl (h x (List.mem_cons_self ..)), RJ.of_all l fun y hy => h y (List.mem_cons_of_mem _ hy)⟩

theorem RJ.map {P : α → Prop} {R : α → α → Prop} {P' : β → Prop} {R' : β → β → Prop} (f : α → β)
    (hP : ∀ x, P x → P' (f x)) : ∀ (l : List α),
    (∀ y x, y ∈ l → R y x → R' (f y) (f x)) → RJ P R l → RJ P' R' (l.map f)
  | [], _, _ => trivial
  | x :: l, hR, ⟨h1, h2⟩ =>
    ⟨h1.imp (hP x) fun ⟨y, hy, hyx⟩ =>
        ⟨f y, List.mem_map.2 ⟨y, hy, rfl⟩, hR y x (List.mem_cons_of_mem _ hy) hyx⟩,
      RJ.map f hP l (fun y z hy => hR y z (List.mem_cons_of_mem _ hy)) h2⟩

theorem RJ.drop_dup {P : α → Prop} {R : α → α → Prop} {a : α} {bs : List α} (ha : a ∈ bs) :
    ∀ (l : List α), RJ P R (l ++ a :: bs) → RJ P R (l ++ bs)
  | [], h => h.2
  | x :: l, ⟨h1, h2⟩ => by
    refine ⟨h1.imp_right fun ⟨y, hy, hyx⟩ => ⟨y, ?_, hyx⟩, RJ.drop_dup ha l h2⟩
    rcases List.mem_append.1 hy with hy | hy
    · exact List.mem_append_left _ hy
    · exact List.mem_append_right _ ((List.mem_cons.1 hy).elim (· ▸ ha) id)

/-- `bs` is the output so far, reversed (newest first); `as` is still to come -/
theorem eraseDups_loop_RJ [BEq α] [LawfulBEq α] {P : α → Prop} {R : α → α → Prop} :
    ∀ (as bs : List α), RJ P R (as.reverse ++ bs) →
      RJ P R (List.eraseDupsBy.loop (fun a b => a == b) as bs).reverse := by
  intro as
  induction as with
  | nil =>
    intro bs h
    simp only [List.eraseDupsBy.loop, List.reverse_reverse]
    exact h
  | cons a as ih =>
    intro bs h
    rw [List.reverse_cons, List.append_assoc, List.singleton_append] at h
    cases hb : bs.any (fun b => a == b) with
    | true =>
      simp only [List.eraseDupsBy.loop, hb]
      obtain ⟨b, hb1, hb2⟩ := List.any_eq_true.1 hb
      exact ih bs (RJ.drop_dup (beq_iff_eq.1 hb2 ▸ hb1) _ h)
    | false =>
      simp only [List.eraseDupsBy.loop, hb]
      exact ih (a :: bs) h

theorem eraseDups_RJ [BEq α] [LawfulBEq α] {P : α → Prop} {R : α → α → Prop} {l : List α}
    (h : RJ P R l.reverse) : RJ P R l.eraseDups.reverse :=
  eraseDups_loop_RJ l [] (by rwa [List.append_nil])

end Lists

theorem RJ.foldl_addItem {P : Item → Prop} {R : Item → Item → Prop} : ∀ (l c : List Item),
    RJ P R c.reverse → (∀ x ∈ l, ∃ y ∈ c, R y x) → RJ P R (l.foldl addItem c).reverse
  | [], _, h, _ => h
  | x :: l, c, h, hl => by
    refine RJ.foldl_addItem l _ ?_ fun z hz => ?_
    · unfold addItem
      split
      · exact h
      · obtain ⟨y, hy, hR⟩ := hl x (List.mem_cons_self ..)
        rw [List.reverse_append]
        exact ⟨.inr ⟨y, List.mem_reverse.2 hy, hR⟩, h⟩
    · obtain ⟨y, hy, hR⟩ := hl z (List.mem_cons_of_mem _ hz)
      exact ⟨y, mem_addItem.2 (.inl hy), hR⟩

theorem closure_RJ (C : LRCtx) (K : List Item) :
    RJ (fun x => x ∈ K) (fun y x => x ∈ closureStep C y) (closure C K).reverse := by
  unfold closure
  refine closureLoop_induct (P := fun c => RJ (fun x => x ∈ K) (fun y x => x ∈ closureStep C y)
      c.reverse)
    (fun c i hi h => h.foldl_addItem _ _ fun x hx => ⟨i, hi, hx⟩) _ _ _
    (RJ.of_all _ fun x hx => ?_)
  exact (((foldl_addItem_spec K []).2.2 x).1 (List.mem_reverse.1 hx)).resolve_left (by simp)

/-- what `itemsJust` asks of an item that is not justified by an earlier one -/
def KernelOk (G : NGrammar) (s : Nat) (x : Nat × Nat × Nat) : Prop :=
  (x.2.1 ≠ 0 ∧ s ≠ 0) ∨ (s = 0 ∧ x = (0, 0, 1) ∧ 0 < G.prods.size)

/-- `x = (q, 0, b)` is contributed by the closure step of `y = (p, d, a)` -/
def StepOk (G : NGrammar) (fc : FirstCert) (y x : Nat × Nat × Nat) : Prop :=
  x.2.1 = 0 ∧ x.1 < G.prods.size ∧ (G.body y.1)[y.2.1]? = some (Sym.nt (G.head x.1)) ∧
    x.2.2 ∈ firstOfSeq fc ((G.body y.1).drop (y.2.1 + 1)) y.2.2

theorem itemsJust_of_RJ {G : NGrammar} {fc : FirstCert} {s : Nat} :
    ∀ (l : List (Nat × Nat × Nat)), RJ (KernelOk G s) (StepOk G fc) l →
      itemsJust G fc s l = true := by
  intro l
  induction l with
  | nil => intro _; rfl
  | cons x earlier ih =>
    intro ⟨h1, h2⟩
    obtain ⟨q, d, b⟩ := x
    have hrest := ih h2
    show ((if d == 0 then decide (q < G.prods.size) &&
        ((s == 0 && q == 0 && b == 1) || closureJust G fc earlier q b) else s != 0) &&
      itemsJust G fc s earlier) = true
    rw [hrest, Bool.and_true]
    rcases h1 with (⟨hd, hs⟩ | ⟨hs, hx, hpos⟩) | ⟨y, hy, hd, hq, hbody, hla⟩
    · rw [if_neg (by simpa using hd)]
      simpa using hs
    · simp only [Prod.mk.injEq] at hx
      obtain ⟨rfl, rfl, rfl⟩ := hx
      subst hs
      simp [hpos]
    · simp only at hd hq hbody hla
      subst hd
      rw [if_pos (by simp)]
      simp only [Bool.and_eq_true, decide_eq_true_eq, Bool.or_eq_true]
      refine ⟨hq, .inr ?_⟩
      unfold closureJust
      rw [List.any_eq_true]
      obtain ⟨p, d', a⟩ := y
      exact ⟨(p, d', a), hy, by simp only at hbody hla; simp [hbody, hla]⟩

def numItem (terms : List String) (i : Item) : Nat × Nat × Nat :=
  (i.p, i.d, (terms.idxOf? i.la).getD 0)

theorem claOf_get {r : LRResult} {s : Nat} {st : LRState} (hs : r.states[s]? = some st) :
    (claOf r)[s]?.getD [] = (st.items.map (numItem r.tables.terminals)).eraseDups := by
  unfold claOf
  rw [Array.getElem?_map, hs]
  rfl

theorem claOf_get_none {r : LRResult} {s : Nat} (hs : r.states[s]? = none) :
    (claOf r)[s]?.getD [] = [] := by
  unfold claOf
  rw [Array.getElem?_map, hs]
  rfl

theorem claOf_size (r : LRResult) : (claOf r).size = r.states.size := by
  simp [claOf]

/-- (V1) an item contributed by the closure step of an item `y` of a state is justified by `y`
    in the numbered grammar, with the exact FIRST sets of the certificate -/
theorem stepOk_of_closureStep {syn : List SProd} {r : LRResult} (GF : GenFacts syn r)
    {s : Nat} {st : LRState} (hs : r.states[s]? = some st) {y x : Item} (hy : y ∈ st.items)
    (hx : x ∈ closureStep r.ctx y) :
    StepOk (ngrammarOf (augment syn) r.ctx.S.terminals r.ctx.S.ntList)
      (vcertOf (ngrammarOf (augment syn) r.ctx.S.terminals r.ctx.S.ntList)).fc
      (numItem r.ctx.S.terminals y) (numItem r.ctx.S.terminals x) := by
  have F := GF.F
  obtain ⟨hxp, hxd, hxla, hyd, hhead⟩ := mem_closureStep hx
  obtain ⟨hyla, hylant, -⟩ := la_facts GF hs hy
  obtain ⟨hxp', hxeq⟩ := ctx_prod F.prods_eq hxp
  have hxhead : ((augment syn)[x.p]).head ∈ r.ctx.S.ntList := F.heads _ (List.getElem_mem hxp')
  have hheadeq : ((augment syn)[x.p]).head = r.ctx.expected y := by
    rw [← hhead, getElem!_pos r.ctx.prods x.p hxp, hxeq]
  refine ⟨hxd, by rw [ngrammarOf_size]; exact hxp', ?_, ?_⟩
  · dsimp only [numItem]
    rw [body_at F.prods_eq _ _ hyd, ngrammarOf_head _ _ hxp', idxOf?_eq_idxOf hxhead,
      Option.getD_some, ← hheadeq, symOf_mem hxhead]
  · dsimp only [numItem]
    rw [ngrammarOf_body_ctx F.prods_eq, ← List.map_drop]
    have hgood := first1_good F.prods_eq GF.hT GF.hB hyla.2 x.la hxla
    rw [mem_first1_iff] at hxla
    have hsub : FsSub r.ctx.S.terminals r.ctx.S.ntList
        (vcertOf (ngrammarOf (augment syn) r.ctx.S.terminals r.ctx.S.ntList)) r.ctx.fs := by
      rw [GF.fsEq]; exact firstSets_sub GF.hW GF.hB GF.hE
    exact mem_firstOfSeq_of_seq hsub hylant hgood.2.2 _
      (fun z hz _ => body_noEmpty F.prods_eq GF.hB (List.mem_of_mem_drop hz))
      (mem_firstS_iff.1 hxla).1

theorem state_kernel {syn : List SProd} {r : LRResult} (GF : GenFacts syn r) {s : Nat}
    {st : LRState} (hs : r.states[s]? = some st) :
    ∃ K : List Item, (st.items = closure r.ctx K ∨ st.items = []) ∧
      ∀ x ∈ K, (x.d ≠ 0 ∧ s ≠ 0) ∨ (s = 0 ∧ x = ⟨0, 0, "␚"⟩) := by
  rcases GF.inv.state hs with ⟨rfl, e⟩ | ⟨hpos, I, X, e⟩
  · exact ⟨[⟨0, 0, "␚"⟩], .inl e, fun x hx => .inr ⟨rfl, List.mem_singleton.1 hx⟩⟩
  · rcases goto_cases r.ctx I X with ⟨h, -⟩ | ⟨J, h, hJ⟩
    · exact ⟨[], .inr (e.trans h), fun _ hx => nomatch hx⟩
    · refine ⟨J, .inl (e.trans h), fun x hx => ?_⟩
      obtain ⟨i, -, -, -, rfl⟩ := (hJ x).1 hx
      exact .inl ⟨Nat.succ_ne_zero _, Nat.ne_of_gt hpos⟩

theorem itemsJust_state {syn : List SProd} {r : LRResult} (GF : GenFacts syn r) (s : Nat) :
    itemsJust (ngrammarOf (augment syn) r.ctx.S.terminals r.ctx.S.ntList)
      (vcertOf (ngrammarOf (augment syn) r.ctx.S.terminals r.ctx.S.ntList)).fc s
      ((claOf r)[s]?.getD []).reverse = true := by
  rcases hs : r.states[s]? with _ | st
  · rw [claOf_get_none hs]; rfl
  · rw [claOf_get hs, GF.terms]
    apply itemsJust_of_RJ
    apply eraseDups_RJ
    obtain ⟨K, hK, hKok⟩ := state_kernel GF hs
    have hone := idx_of_get GF.F.termsNodup GF.F.term1
    have hpos : 0 < (ngrammarOf (augment syn) r.ctx.S.terminals r.ctx.S.ntList).prods.size :=
      ngrammarOf_size .. ▸ (ctx_prod GF.F.prods_eq (prods_pos GF.F)).1
    rcases hK with hK | hK
    · have hRJ := closure_RJ r.ctx K
      rw [← hK] at hRJ
      rw [← List.map_reverse]
      refine RJ.map (numItem r.ctx.S.terminals) ?_ _ ?_ hRJ
      · intro x hx
        rcases hKok x hx with ⟨h1, h2⟩ | ⟨h1, rfl⟩
        · exact .inl ⟨h1, h2⟩
        · exact .inr ⟨h1, by simp [numItem, hone], hpos⟩
      · intro y x hy hx
        exact stepOk_of_closureStep GF hs (List.mem_reverse.1 hy) hx
    · rw [hK]
      trivial

end Gocc.GenValid
