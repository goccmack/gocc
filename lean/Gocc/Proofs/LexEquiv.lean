import Gocc.Model.LexEquiv
import Gocc.Proofs.Scan
import Gocc.Spec.ScanSpec
/-
The three facts from which `Gocc/Props/C01Equiv.lean` derives soundness of the equivalence checker `equivCheck`
(Gocc/Model/LexEquiv.lean).  Tables bisimilar on the runes `utf8.DecodeRune` can return give the same `scan`
(`bisimOn_scan_eq_of`; `Bisim`, for all runes, is the special case `Bisim.on`).  Under `boundsOk` both transition
functions are constant on every elementary interval, so it is enough to compare them on the interval starts.  If the
product walk returns `true` there is a finite set of pairs containing its work list, with equal acts, closed under
the transitions on all interval starts.
-/
namespace Gocc

theorem decodeRune_isRune (l : List Nat) : IsRune (decodeRune l).1 :=
  ⟨decodeRune_nonneg l, decodeRune_le_max l⟩

theorem Bisim.on {T1 T2 : LexTables} {R : Nat → Nat → Prop} (h : Bisim T1 T2 R) (P : Int → Prop) :
    BisimOn P T1 T2 R :=
  ⟨h.start, h.act, fun a b r _ => h.dead a b r, fun a b r _ => h.live a b r⟩

theorem BisimOn.mono {P Q : Int → Prop} {T1 T2 : LexTables} {R : Nat → Nat → Prop}
    (h : BisimOn P T1 T2 R) (hq : ∀ r, Q r → P r) : BisimOn Q T1 T2 R :=
  ⟨h.start, h.act, fun a b r hr => h.dead a b r (hq r hr), fun a b r hr => h.live a b r (hq r hr)⟩

def LRel (R : Nat → Nat → Prop) (L1 L2 : Loop) : Prop :=
  ∃ s2, L2 = { L1 with state := s2 } ∧
    ((L1.state = -1 ∧ s2 = -1) ∨ (L1.state ≠ -1 ∧ s2 ≠ -1 ∧ R L1.state.toNat s2.toNat))

theorem iter_rel_on {P : Int → Prop} (hP : ∀ l, P (decodeRune l).1) {T1 T2 : LexTables}
    {R : Nat → Nat → Prop} (h : BisimOn P T1 T2 R) (src : List Nat)
    {L1 L2 : Loop} (hr : LRel R L1 L2) (hs : L1.state ≠ -1) :
    LRel R (iter T1 src L1) (iter T2 src L2) := by
  obtain ⟨s2, rfl, ⟨h1, _⟩ | ⟨_, hs2, hR⟩⟩ := hr
  · exact absurd h1 hs
  by_cases hlt : L1.pos < src.length
  · rw [iter_lt T1 src _ hlt, iter_lt T2 src { L1 with state := s2 } hlt]
    dsimp only
    have hd := h.dead _ _ _ (hP (src.drop L1.pos)) hR
    by_cases hn : T1.trans L1.state.toNat (decodeRune (src.drop L1.pos)).1 = -1
    · rw [if_neg (not_not_intro hn), if_neg (not_not_intro (hd.1 hn))]
      by_cases ht : L1.typ = tokINVALID
      · rw [if_pos ht]; exact ⟨-1, rfl, Or.inl ⟨rfl, rfl⟩⟩
      · rw [if_neg ht]; exact ⟨-1, rfl, Or.inl ⟨rfl, rfl⟩⟩
    · have hn2 := mt hd.2 hn
      have hl := h.live _ _ _ (hP (src.drop L1.pos)) hR hn
      obtain ⟨ha, hi⟩ := h.act _ _ hl
      rw [if_pos hn, if_pos hn2, ← ha, ← hi]
      by_cases hacc : T1.accept (T1.trans L1.state.toNat (decodeRune (src.drop L1.pos)).1).toNat = -1
      · rw [if_neg (not_not_intro hacc), if_neg (not_not_intro hacc)]
        by_cases hig : T1.ignore (T1.trans L1.state.toNat (decodeRune (src.drop L1.pos)).1).toNat = true
        · rw [if_pos hig, if_pos hig]
          exact ⟨0, rfl, Or.inr ⟨(by decide : (0 : Int) ≠ -1), (by decide : (0 : Int) ≠ -1), h.start⟩⟩
        · rw [if_neg hig, if_neg hig]; exact ⟨_, rfl, Or.inr ⟨hn, hn2, hl⟩⟩
      · rw [if_pos hacc, if_pos hacc]; exact ⟨_, rfl, Or.inr ⟨hn, hn2, hl⟩⟩
  · rw [iter_eof T1 src _ (Nat.le_of_not_lt hlt), iter_eof T2 src { L1 with state := s2 } (Nat.le_of_not_lt hlt)]
    dsimp only
    by_cases ht : L1.typ = tokINVALID
    · rw [if_pos ht]; exact ⟨-1, rfl, Or.inl ⟨rfl, rfl⟩⟩
    · rw [if_neg ht]; exact ⟨-1, rfl, Or.inl ⟨rfl, rfl⟩⟩

theorem loop_rel_on {P : Int → Prop} (hP : ∀ l, P (decodeRune l).1) {T1 T2 : LexTables}
    {R : Nat → Nat → Prop} (h : BisimOn P T1 T2 R) (src : List Nat)
    (L1 L2 : Loop) (hr : LRel R L1 L2) : LRel R (loop T1 src L1) (loop T2 src L2) := by
  fun_induction loop T1 src L1 generalizing L2 with
  | case1 L1 hs =>
    obtain ⟨s2, rfl, ⟨_, rfl⟩ | ⟨h1, _⟩⟩ := hr
    · rw [loop_done (T := T2) rfl]; exact ⟨-1, rfl, Or.inl ⟨hs, rfl⟩⟩
    · exact absurd hs h1
  | case2 L1 hs hlt ih =>
    have hi := iter_rel_on hP h src hr hs
    obtain ⟨s2, rfl, ⟨h1, _⟩ | ⟨_, hs2, _⟩⟩ := hr
    · exact absurd h1 hs
    · rw [loop_live (T := T2) hs2, if_pos hlt]; exact ih _ hi
  | case3 L1 hs hlt =>
    have hi := iter_rel_on hP h src hr hs
    obtain ⟨s2, rfl, ⟨h1, _⟩ | ⟨_, hs2, _⟩⟩ := hr
    · exact absurd h1 hs
    · rw [loop_live (T := T2) hs2, if_neg hlt]; exact hi

theorem bisimOn_scan_eq_of {P : Int → Prop} (hP : ∀ l, P (decodeRune l).1) {T1 T2 : LexTables}
    {R : Nat → Nat → Prop} (h : BisimOn P T1 T2 R)
    (src : List Nat) (st : LexSt) : scan T1 src st = scan T2 src st := by
  obtain ⟨s2, e, _⟩ := loop_rel_on hP h src _ _
    ⟨_, rfl, Or.inr ⟨loop0_state st, loop0_state st, h.start⟩⟩
  rw [scan_eq, scan_eq, e]
  rfl

/-! ### `MDfa.tables` is the function the driver's `lexTablesOf` computes -/

/-- `LState.step` written with the pattern-matching lambdas of `Gocc.Driver.lexTablesOf` -/
theorem LState.step_eq_driver (st : LState) (r : Int) : st.step r =
    (match (st.classes.zip st.trans).find? (fun (c, _) => c.lo ≤ r && r ≤ c.hi) with
      | some (_, t) => t
      | none => if st.matchAny then st.dotTrans else -1) := by
  have hp : (fun (x : CR × Int) => match x with
        | (c, _) => decide (c.lo ≤ r) && decide (r ≤ c.hi)) =
      fun p => decide (p.1.lo ≤ r) && decide (r ≤ p.1.hi) := by
    funext x; cases x; rfl
  unfold LState.step
  rw [hp]
  cases List.find? (fun p => decide (p.1.lo ≤ r) && decide (r ≤ p.1.hi))
      (st.classes.zip st.trans) with
  | none => rfl
  | some p => cases p; rfl

theorem MDfa.tables_trans (M : MDfa) (s : Nat) (r : Int) :
    M.tables.trans s r = match M.states[s]? with | none => -1 | some st => st.step r := rfl

/-- `c` is the start of the elementary interval containing `r`: the greatest start `≤ r` -/
def ElemRep (starts : List Int) (r c : Int) : Prop :=
  c ∈ starts ∧ c ≤ r ∧ ∀ s ∈ starts, s ≤ r → s ≤ c

theorem exists_max_le (l : List Int) (r : Int) (h : ∃ a ∈ l, a ≤ r) : ∃ c, ElemRep l r c := by
  induction l with
  | nil => obtain ⟨a, ha, _⟩ := h; cases ha
  | cons x xs ih =>
    by_cases hx : ∃ a ∈ xs, a ≤ r
    · obtain ⟨c, hc, hcr, hmax⟩ := ih hx
      by_cases hxc : x ≤ r ∧ c < x
      · exact ⟨x, List.mem_cons_self, hxc.1, List.forall_mem_cons.2
          ⟨fun _ => Int.le_refl _, fun s hs hsr => by have := hmax s hs hsr; omega⟩⟩
      · exact ⟨c, List.mem_cons_of_mem _ hc, hcr, List.forall_mem_cons.2 ⟨fun _ => by omega, hmax⟩⟩
    · obtain ⟨a, ha, har⟩ := h
      rcases List.mem_cons.1 ha with rfl | ha
      · exact ⟨a, List.mem_cons_self, har, List.forall_mem_cons.2
          ⟨fun _ => Int.le_refl _, fun s hs hsr => absurd ⟨s, hs, hsr⟩ hx⟩⟩
      · exact absurd ⟨a, ha, har⟩ hx

theorem startsOk_of_boundsOk {M : MDfa} {starts : List Int} (h : boundsOk M starts = true) :
    startsOk starts = true :=
  (Bool.and_eq_true_iff.1 h).1

theorem exists_elemRep {starts : List Int} (h : startsOk starts = true) {r : Int} (hr : 0 ≤ r) :
    ∃ c, ElemRep starts r c := by
  cases starts with
  | nil => cases h
  | cons a rest =>
    have ha : a = 0 := beq_iff_eq.1 (Bool.and_eq_true_iff.1 h).1
    exact exists_max_le _ r ⟨a, List.mem_cons_self, ha ▸ hr⟩

theorem elemIndex_rep {starts : List Int} {r c : Int} (h : ElemRep starts r c) :
    elemIndex starts c = elemIndex starts r := by
  obtain ⟨_, hcr, hmax⟩ := h
  unfold elemIndex
  rw [List.filter_congr (q := fun x => decide (x ≤ r))]
  intro s hs
  by_cases h1 : s ≤ r
  · have := hmax s hs h1; simp [h1, this]
  · have : ¬ s ≤ c := by omega
    simp [h1, this]

theorem ElemRep.unique {starts : List Int} {r c c' : Int} (h : ElemRep starts r c)
    (h' : ElemRep starts r c') : c = c' := by
  have := h.2.2 c' h'.1 h'.2.1
  have := h'.2.2 c h.1 h.2.1
  omega

theorem strictInc_iff_pairwise : ∀ {l : List Int}, strictInc l = true ↔ l.Pairwise (· < ·)
  | [] => ⟨fun _ => .nil, fun _ => rfl⟩
  | [_] => ⟨fun _ => List.pairwise_singleton _ _, fun _ => rfl⟩
  | a :: b :: rest => by
    simp only [strictInc, Bool.and_eq_true, decide_eq_true_eq, strictInc_iff_pairwise (l := b :: rest)]
    rw [List.pairwise_cons (a := a)]
    constructor
    · rintro ⟨h1, h2⟩
      exact ⟨fun x hx => (List.mem_cons.1 hx).elim (· ▸ h1)
        fun hx => Int.lt_trans h1 ((List.pairwise_cons.1 h2).1 x hx), h2⟩
    · exact fun ⟨h1, h2⟩ => ⟨h1 b List.mem_cons_self, h2⟩

theorem pairwise_of_startsOk {starts : List Int} (h : startsOk starts = true) :
    starts.Pairwise (· < ·) := by
  cases starts with
  | nil => cases h
  | cons a rest => exact strictInc_iff_pairwise.1 (Bool.and_eq_true_iff.1 h).2

theorem elemRep_split {starts : List Int} (hp : starts.Pairwise (· < ·)) {r c : Int}
    (h : ElemRep starts r c) :
    ∃ pre suf, starts = pre ++ c :: suf ∧ elemIndex starts r = pre.length ∧ ∀ d ∈ suf, r < d := by
  obtain ⟨hc, hcr, hmax⟩ := h
  obtain ⟨pre, suf, rfl⟩ := List.append_of_mem hc
  rw [List.pairwise_append, List.pairwise_cons] at hp
  obtain ⟨_, ⟨hsuf, _⟩, hpre⟩ := hp
  have hgt : ∀ d ∈ suf, r < d := fun d hd => by
    have := hsuf d hd
    have := hmax d (List.mem_append_right _ (List.mem_cons_of_mem _ hd))
    omega
  refine ⟨pre, suf, rfl, ?_, hgt⟩
  have h1 : pre.filter (fun x => decide (x ≤ r)) = pre := List.filter_eq_self.2 fun a ha => by
    have := hpre a ha c List.mem_cons_self
    exact decide_eq_true (by omega)
  have h2 : suf.filter (fun x => decide (x ≤ r)) = [] := List.filter_eq_nil_iff.2 fun d hd => by
    have := hgt d hd
    rw [decide_eq_true_eq]; omega
  unfold elemIndex
  rw [List.filter_append, h1, List.filter_cons, if_pos (decide_eq_true hcr), h2, List.length_append]
  rfl

theorem elemRep_getElem? {starts : List Int} (hs : starts.Pairwise (· < ·)) {r c : Int}
    (h : ElemRep starts r c) : starts[elemIndex starts r]? = some c := by
  obtain ⟨pre, suf, rfl, hi, _⟩ := elemRep_split hs h
  rw [hi, List.getElem?_append_right (Nat.le_refl _), Nat.sub_self]
  rfl

theorem elemRep_next {starts : List Int} (hs : starts.Pairwise (· < ·)) {r c : Int}
    (h : ElemRep starts r c) {d : Int} (hd : starts[elemIndex starts r + 1]? = some d) : r < d := by
  obtain ⟨pre, suf, rfl, hi, hgt⟩ := elemRep_split hs h
  rw [hi, List.getElem?_append_right (Nat.le_add_right _ 1), Nat.add_sub_cancel_left] at hd
  exact hgt d (List.mem_of_getElem? hd)

theorem ElemRep.mem_interval {starts : List Int} {r c lo hi : Int} (h : ElemRep starts r c)
    (hlo : lo ≤ r → lo ≤ c) (hhi : hi + 1 ≤ r → hi + 1 ≤ c) :
    (lo ≤ r ∧ r ≤ hi) ↔ (lo ≤ c ∧ c ≤ hi) := by
  have := h.2.1
  omega

theorem classOk_rep {starts : List Int} {r c : Int} (h : ElemRep starts r c) (hr : r ≤ 0x10FFFF)
    {k : CR} (hk : classOk starts k = true) :
    (decide (k.lo ≤ r) && decide (r ≤ k.hi)) = (decide (k.lo ≤ c) && decide (c ≤ k.hi)) := by
  simp only [classOk, Bool.and_eq_true, Bool.or_eq_true, decide_eq_true_eq,
    List.contains_iff_mem] at hk
  obtain ⟨⟨_, hlo⟩, hhi⟩ := hk
  rw [Bool.eq_iff_iff]
  simp only [Bool.and_eq_true, decide_eq_true_eq]
  refine h.mem_interval (h.2.2 _ hlo) fun h3 => ?_
  rcases hhi with hhi | hhi
  · exact h.2.2 _ hhi h3
  · omega

theorem find?_congr {α : Type} {p q : α → Bool} :
    ∀ {l : List α}, (∀ x ∈ l, p x = q x) → l.find? p = l.find? q
  | [], _ => rfl
  | a :: l, h => by
    rw [List.forall_mem_cons] at h
    simp only [List.find?_cons, h.1, find?_congr h.2]

theorem lstateStep_rep {starts : List Int} {r c : Int} (h : ElemRep starts r c) (hr : r ≤ 0x10FFFF)
    {st : LState} (hst : st.classes.all (classOk starts) = true) : st.step r = st.step c := by
  unfold LState.step
  rw [find?_congr (q := fun p => decide (p.1.lo ≤ c) && decide (c ≤ p.1.hi))]
  intro p hp
  have hm : p.1 ∈ st.classes := (List.of_mem_zip (a := p.1) (b := p.2) hp).1
  exact classOk_rep h hr (List.all_eq_true.1 hst _ hm)

theorem mdfa_trans_rep {M : MDfa} {starts : List Int} (hb : boundsOk M starts = true)
    (m : Nat) {r c : Int} (h : ElemRep starts r c) (hr : r ≤ 0x10FFFF) :
    M.tables.trans m r = M.tables.trans m c := by
  simp only [boundsOk, Bool.and_eq_true, List.all_eq_true] at hb
  rw [M.tables_trans, M.tables_trans]
  cases hm : M.states[m]? with
  | none => rfl
  | some st =>
    have hmem : st ∈ M.states.toList := by
      rw [← Array.getElem?_toList] at hm
      exact List.mem_of_getElem? hm
    exact lstateStep_rep h hr (List.all_eq_true.2 (hb.2 st hmem))

theorem rdfa_trans_rep (R : RDfa) (s : Nat) {r c : Int} (h : ElemRep R.dfa.starts r c) :
    R.tables.trans s r = R.tables.trans s c := by
  show R.dfa.step s r = R.dfa.step s c
  unfold RefDfa.step; rw [elemIndex_rep h]

def StartOK (TM TR : LexTables) (S : List (Nat × Nat)) (m r : Nat) (c : Int) : Prop :=
  (TM.trans m c = -1 ↔ TR.trans r c = -1) ∧
    (TM.trans m c ≠ -1 → 0 ≤ TM.trans m c ∧ 0 ≤ TR.trans r c ∧
      ((TM.trans m c).toNat, (TR.trans r c).toNat) ∈ S)

theorem StartOK.mono {TM TR : LexTables} {S S' : List (Nat × Nat)} {m r : Nat} {c : Int}
    (h : StartOK TM TR S m r c) (hS : ∀ p ∈ S, p ∈ S') : StartOK TM TR S' m r c :=
  ⟨h.1, fun hne => ⟨(h.2 hne).1, (h.2 hne).2.1, hS _ (h.2 hne).2.2⟩⟩

def PairGood (TM TR : LexTables) (starts : List Int) (S : List (Nat × Nat)) (p : Nat × Nat) : Prop :=
  (TM.accept p.1 = TR.accept p.2 ∧ TM.ignore p.1 = TR.ignore p.2) ∧
  ∀ c ∈ starts, StartOK TM TR S p.1 p.2 c

theorem pairSucc_spec (TM TR : LexTables) (m r : Nat) (cs : List Int) :
    ∀ (succ : List (Nat × Nat)), pairSucc TM TR m r cs = some succ →
      ∀ c ∈ cs, StartOK TM TR succ m r c := by
  induction cs with
  | nil => exact fun _ _ _ hc => absurd hc List.not_mem_nil
  | cons c0 cs ih =>
    intro succ hs
    rw [pairSucc] at hs
    rw [List.forall_mem_cons]
    by_cases h1 : TM.trans m c0 = -1
    · rw [if_pos h1] at hs
      by_cases h2 : TR.trans r c0 = -1
      · rw [if_pos h2] at hs
        exact ⟨⟨⟨fun _ => h2, fun _ => h1⟩, fun hne => absurd h1 hne⟩, ih succ hs⟩
      · rw [if_neg h2] at hs; cases hs
    · rw [if_neg h1] at hs
      by_cases h2 : TR.trans r c0 = -1
      · rw [if_pos h2] at hs; cases hs
      · rw [if_neg h2] at hs
        by_cases h3 : TM.trans m c0 < 0 ∨ TR.trans r c0 < 0
        · rw [if_pos h3] at hs; cases hs
        · rw [if_neg h3] at hs
          obtain ⟨l, hl, rfl⟩ := Option.map_eq_some_iff.1 hs
          exact ⟨⟨⟨fun h => absurd h h1, fun h => absurd h h2⟩,
              fun _ => ⟨by omega, by omega, List.mem_cons_self⟩⟩,
            fun c hc => (ih l hl c hc).mono fun _ hp => List.mem_cons_of_mem _ hp⟩

theorem eqWalk_closed (TM TR : LexTables) (starts : List Int) (fuel : Nat) :
    ∀ (work seen : List (Nat × Nat)), eqWalk TM TR starts fuel work seen = true →
      ∃ S : List (Nat × Nat), (∀ p ∈ seen, p ∈ S) ∧ (∀ p ∈ work, p ∈ S) ∧
        ∀ p ∈ S, p ∈ seen ∨ PairGood TM TR starts S p := by
  induction fuel with
  | zero => intro _ _ h; rw [eqWalk] at h; cases h
  | succ fuel ih =>
    intro work seen h
    cases work with
    | nil => exact ⟨seen, fun _ hp => hp, fun _ hp => absurd hp List.not_mem_nil, fun _ hp => Or.inl hp⟩
    | cons p rest =>
      rw [eqWalk] at h
      by_cases hseen : seen.contains p = true
      · rw [if_pos hseen] at h
        obtain ⟨S, h1, h2, h3⟩ := ih rest seen h
        exact ⟨S, h1, List.forall_mem_cons.2 ⟨h1 _ (List.contains_iff_mem.1 hseen), h2⟩, h3⟩
      · rw [if_neg hseen] at h
        by_cases hact : (!actsEq TM TR p.1 p.2) = true
        · rw [if_pos hact] at h; cases h
        · rw [if_neg hact] at h
          cases hsucc : pairSucc TM TR p.1 p.2 starts with
          | none => rw [hsucc] at h; cases h
          | some succ =>
            rw [hsucc] at h
            obtain ⟨S, h1, h2, h3⟩ := ih (succ ++ rest) (p :: seen) h
            rw [List.forall_mem_cons] at h1
            rw [List.forall_mem_append] at h2
            refine ⟨S, h1.2, List.forall_mem_cons.2 ⟨h1.1, h2.2⟩, fun q hq => ?_⟩
            rcases h3 q hq with hq' | hq'
            · rcases List.mem_cons.1 hq' with rfl | hq'
              · have ha : actsEq TM TR q.1 q.2 = true := by simpa using hact
                simp only [actsEq, Bool.and_eq_true, beq_iff_eq] at ha
                exact Or.inr ⟨ha, fun c hc => (pairSucc_spec TM TR q.1 q.2 starts succ hsucc c hc).mono h2.1⟩
              · exact Or.inl hq'
            · exact Or.inr hq'
end Gocc
