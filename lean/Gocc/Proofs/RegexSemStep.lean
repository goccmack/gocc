import Gocc.Proofs.RegexSemRun
/-
Which items are basic, and the ε-steps of the non-basic items as a relation `Eps` on paths with five
constructors: every ε-step of a non-basic item is one of the five (`eps_of_step`), and each of the five
is one (`step_of_eps`).  `.pat P.pat` is the root of production `k`, an item is `⟨k, q ++ [pos]⟩` with
`node (.pat P.pat) q = some n`.
-/
namespace Gocc
namespace RegexS

open EmovesU LexGenC

theorem isReduce_root {C : LexCtx} {k : Nat} {P : LProd} (hP : C.prods[k]? = some P) (pos : Nat) :
    C.isReduce ⟨k, [pos]⟩ = decide (P.pat.alts.length ≤ pos) := by
  have htop := top_at hP (q := []) (n := .pat P.pat) rfl pos
  simp only [List.nil_append] at htop
  unfold LexCtx.isReduce
  simp only [htop, LNode.len, ge_iff_le]

theorem isReduce_done {C : LexCtx} {k : Nat} {P : LProd} (hP : C.prods[k]? = some P) :
    C.isReduce ⟨k, [P.pat.alts.length]⟩ = true := by
  rw [isReduce_root hP]; exact decide_eq_true (Nat.le_refl _)

theorem isBasic_eq_false_iff {C : LexCtx} {i : LItem} :
    C.isBasic i = false ↔ C.isReduce i = false ∧ C.expected i = none := by
  simp [LexCtx.isBasic]

theorem isBasic_done {C : LexCtx} {k : Nat} {P : LProd} (hP : C.prods[k]? = some P) :
    C.isBasic ⟨k, [P.pat.alts.length]⟩ = true := by
  simp [LexCtx.isBasic, isReduce_done hP]

theorem isReduce_deep {C : LexCtx} {k : Nat} {q : List Nat} (hq : q ≠ []) (pos : Nat) :
    C.isReduce ⟨k, q ++ [pos]⟩ = false := by
  unfold LexCtx.isReduce
  cases q with
  | nil => exact absurd rfl hq
  | cons a q =>
    cases q with
    | nil => simp
    | cons b q => simp

theorem nonbasic_patlike {C : LexCtx} {k : Nat} {P : LProd} (hP : C.prods[k]? = some P) {q : List Nat}
    {n : LNode} (hn : node (.pat P.pat) q = some n) (hpl : isPatLike n = true) (pos : Nat)
    (hroot : q = [] → pos < P.pat.alts.length) : C.isBasic ⟨k, q ++ [pos]⟩ = false := by
  refine isBasic_eq_false_iff.2 ⟨?_, ?_⟩
  · by_cases hq : q = []
    · subst hq
      rw [List.nil_append, isReduce_root hP]
      exact decide_eq_false (Nat.not_le.2 (hroot rfl))
    · exact isReduce_deep hq pos
  · rw [expected_at hP hn]
    cases n <;> first | rfl | cases hpl

theorem nonbasic_alt {C : LexCtx} {k : Nat} {P : LProd} (hP : C.prods[k]? = some P) {q : List Nat}
    {a : LAlt} (hn : node (.pat P.pat) q = some (.alt a)) (pos : Nat)
    (ht : (LNode.alt a).termAt pos = none) : C.isBasic ⟨k, q ++ [pos]⟩ = false :=
  isBasic_eq_false_iff.2 ⟨isReduce_deep (node_ne_nil hn nofun) pos, (expected_at hP hn pos).trans ht⟩

theorem adv_at (k : Nat) (q : List Nat) (pos : Nat) :
    adv ⟨k, q ++ [pos]⟩ = ⟨k, q ++ [pos + 1]⟩ := by
  simp [adv]

def subPat : LTerm → Option LPat
  | .grp p | .opt p | .rep p => some p
  | _ => none

theorem subPat_of_subNode {t : LTerm} {c : LNode} (h : subNode t = some c) : ∃ p, subPat t = some p := by
  cases t <;> cases h <;> exact ⟨_, rfl⟩

theorem node_child {r n c : LNode} {q : List Nat} {j : Nat} (hn : node r q = some n)
    (hc : n.child j = some c) : node r (q ++ [j]) = some c := by
  rw [node_snoc, hn]; exact hc

theorem patLike_of_child_alt {n : LNode} {m : Nat} {a : LAlt} (hc : n.child m = some (.alt a)) :
    isPatLike n = true := by
  rcases child_kind hc with ⟨h, _⟩ | ⟨_, h, _⟩
  · exact h
  · cases h

theorem sub_parent {P : LPat} {q : List Nat} {n : LNode} (hn : node (.pat P) q = some n)
    (hpl : isPatLike n = true) (hq : q ≠ []) :
    ∃ q' j a, q = q' ++ [j] ∧ node (.pat P) q' = some (.alt a) ∧ (LNode.alt a).child j = some n := by
  obtain ⟨q', j, pn, h1, h2, hc⟩ := node_parent hn hq
  rcases child_kind hc with ⟨_, _, rfl⟩ | ⟨⟨a, rfl⟩, _, _⟩
  · cases hpl
  · exact ⟨q', j, a, h1, h2, hc⟩

/-- the ε-steps of the non-basic items of a production with pattern `P`, on paths.  The root at or past
    its end is a reduce item, hence basic: `rootEnd` carries `pos < P.alts.length` so that every `Eps`
    step starts at a non-basic item (`step_of_eps`), although `emoveStep` has the same successor for
    every `pos ≠ 0` (`step_patLike`). -/
inductive Eps (P : LPat) : List Nat → List Nat → Prop
  | enter {q : List Nat} {n : LNode} {pos m : Nat} : node (.pat P) q = some n → enterOk n pos = true →
      m < n.len → Eps P (q ++ [pos]) (q ++ [m] ++ [0])
  | leave {q : List Nat} {n : LNode} {pos : Nat} : node (.pat P) q = some n → leaveOk n pos = true →
      Eps P (q ++ [pos]) (incLast q)
  | rootEnd {pos : Nat} : pos ≠ 0 → pos < P.alts.length → Eps P [pos] [P.alts.length]
  | altEnd {q : List Nat} {pn : LNode} {m : Nat} {a : LAlt} {pos : Nat} : node (.pat P) q = some pn →
      pn.child m = some (.alt a) → a.terms.length ≤ pos → Eps P (q ++ [m] ++ [pos]) (q ++ [pn.len])
  | push {q : List Nat} {a : LAlt} {pos : Nat} {c : LNode} : node (.pat P) q = some (.alt a) →
      (LNode.alt a).child pos = some c → Eps P (q ++ [pos]) (q ++ [pos] ++ [0])

theorem enterOk_patLike {n : LNode} {pos : Nat} (h : enterOk n pos = true) : isPatLike n = true := by
  cases n <;> first | rfl | cases h

theorem leaveOk_sub {P : LPat} {q : List Nat} {n : LNode} {pos : Nat} (hn : node (.pat P) q = some n)
    (ho : leaveOk n pos = true) : isPatLike n = true ∧ q ≠ [] := by
  exact ⟨by cases n <;> (first | rfl | cases ho), node_ne_nil hn (by rintro rfl; cases ho)⟩

theorem eps_of_step {C : LexCtx} {i y : LItem} (hnb : C.isBasic i = false) (hy : y ∈ emoveStep C i) :
    ∃ P l', C.prods[i.prod]? = some P ∧ y = ⟨i.prod, l'⟩ ∧ Eps P.pat i.path l' := by
  induction i using step_elim (C := C) with
  | h0 x h => rw [h] at hy; cases hy
  | h1 k P q pos n hP hn =>
    refine ⟨P, ?_⟩
    by_cases hpl : isPatLike n = true
    · rcases (mem_step_patLike hP hn hpl).1 hy with ⟨ho, h⟩ | ⟨ho, rfl⟩ | ⟨rfl, h0, rfl⟩
      · obtain ⟨m, hm, rfl⟩ := mem_enterL.1 h
        exact ⟨_, hP, rfl, .enter hn ho hm⟩
      · exact ⟨_, hP, rfl, .leave hn ho⟩
      · -- the root, not at its end: the item is not a reduce item
        have := (isBasic_eq_false_iff.1 hnb).1
        rw [List.nil_append, isReduce_root hP, decide_eq_false_iff_not, Nat.not_le] at this
        cases hn
        exact ⟨_, hP, rfl, .rootEnd h0 this⟩
    · obtain ⟨a, rfl⟩ := eq_alt_of_not_patLike hpl
      by_cases hlt : pos < a.terms.length
      · rw [step_alt_push hP hn hlt, List.mem_singleton] at hy
        have hexp : (LNode.alt a).termAt pos = none :=
          (expected_at hP hn pos).symm.trans (isBasic_eq_false_iff.1 hnb).2
        obtain ⟨c, hc⟩ := alt_child_of_not_term hlt hexp
        exact ⟨_, hP, hy, .push hn hc⟩
      · obtain ⟨q', m, pn, rfl, hpn, hc⟩ := node_parent hn (node_ne_nil hn nofun)
        rw [step_alt_end hP hpn hn (Nat.not_lt.1 hlt), List.mem_singleton] at hy
        exact ⟨_, hP, hy, .altEnd hpn hc (Nat.not_lt.1 hlt)⟩

theorem step_of_eps {C : LexCtx} {k : Nat} {P : LProd} (hP : C.prods[k]? = some P) {l l' : List Nat}
    (h : Eps P.pat l l') : C.isBasic ⟨k, l⟩ = false ∧ ⟨k, l'⟩ ∈ emoveStep C ⟨k, l⟩ := by
  cases h with
  | @enter q n pos m hn ho hm =>
    have hpl := enterOk_patLike ho
    refine ⟨nonbasic_patlike hP hn hpl pos ?_,
      (mem_step_patLike hP hn hpl).2 (.inl ⟨ho, mem_enterL.2 ⟨m, hm, rfl⟩⟩)⟩
    rintro rfl
    cases hn
    obtain rfl : pos = 0 := by simpa [enterOk] using ho
    exact Nat.zero_lt_of_lt hm
  | @leave q n pos hn ho =>
    obtain ⟨hpl, hq⟩ := leaveOk_sub hn ho
    exact ⟨nonbasic_patlike hP hn hpl pos (absurd · hq),
      (mem_step_patLike hP hn hpl).2 (.inr (.inl ⟨ho, rfl⟩))⟩
  | @rootEnd pos h0 hlt =>
    exact ⟨nonbasic_patlike hP (q := []) rfl rfl pos fun _ => hlt,
      (mem_step_patLike hP (q := []) rfl rfl).2 (.inr (.inr ⟨rfl, h0, rfl⟩))⟩
  | @altEnd q pn m a pos hpn hc hpos =>
    have hn := node_child hpn hc
    refine ⟨nonbasic_alt hP hn _ (by rw [termAt_alt, List.getElem?_eq_none hpos]; rfl), ?_⟩
    rw [step_alt_end hP hpn hn hpos]; exact List.mem_singleton.2 rfl
  | @push q a pos c hn hc =>
    have hta : (LNode.alt a).termAt pos = none := by
      obtain ⟨t, ht, hs⟩ := Option.bind_eq_some_iff.1 ((child_alt a pos).symm.trans hc)
      rw [termAt_alt, ht, Option.bind_some, hs]; rfl
    refine ⟨nonbasic_alt hP hn _ hta, ?_⟩
    rw [step_alt_push hP hn (child_lt hc)]; exact List.mem_singleton.2 rfl

theorem Run.ofEps {C : LexCtx} {k : Nat} {P : LProd} (hP : C.prods[k]? = some P) {l l' : List Nat}
    (h : Eps P.pat l l') : Run C ⟨k, l⟩ [] ⟨k, l'⟩ :=
  Run.step_eps (step_of_eps hP h).1 (step_of_eps hP h).2

end RegexS
end Gocc
