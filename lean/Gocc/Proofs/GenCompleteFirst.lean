import Gocc.Proofs.GenSafe
import Gocc.Model.GenCert
/-
Generator-level completeness, the FIRST sets.  One step of a pass adds to the set of the head
(`stepAdds`) exactly what the sequence rule `InFirstSeq` gives for the body; the elements of the
computed sets are `empty` or good terminals (`TInv`); the fixed point, read production by production
(`first_fix_prod`), makes the numbered sets (`mkFc`) pass `firstOk`, and `firstOfSeq` over them is
covered by `firstS`.
-/
namespace Gocc.GenComplete

theorem firstS_no_empty {S : PSymbols} {fs : FirstSets} {syms : List String} {y : String}
    (hy : y ∈ syms) (h : "empty" ∉ first S fs y) : "empty" ∉ firstS S fs syms :=
  fun hm => h ((mem_firstS_iff.1 hm).2 rfl y hy)

theorem sameSet_sub {a b : List String} (h : sameSet a b = true) : ∀ x ∈ a, x ∈ b := by
  unfold sameSet at h
  simp only [Bool.and_eq_true, List.all_eq_true, List.contains_iff_mem] at h
  exact h.2

/-- what the step of `firstPass` for production `p` adds to the set of `p.head` -/
def stepAdds (S : PSymbols) (fs : FirstSets) (p : SProd) : List String :=
  match p.body with
  | [] => ["empty"]
  | s0 :: _ => if S.isTerminal s0.name then [s0.name] else firstS S fs (p.body.map (·.name))

theorem mem_passStep_get {S : PSymbols} {acc : FirstSets × Bool} {p : SProd} {A t : String} :
    t ∈ (passStep S acc p).1.get A ↔
      t ∈ acc.1.get A ∨ (A = p.head ∧ t ∈ stepAdds S acc.1 p) := by
  have htok : ∀ x, t ∈ (acc.1.addTok p.head x).1.get A ↔
      t ∈ acc.1.get A ∨ (A = p.head ∧ t ∈ [x]) := by
    intro x
    rw [get_addTok, List.mem_singleton]
    split
    · rename_i hA; rw [mem_addNoDup, hA]; simp
    · rename_i hA; simp [hA]
  unfold passStep stepAdds
  rcases p.body with _ | ⟨s0, rest⟩
  · exact htok _
  · dsimp only
    split
    · exact htok _
    · split
      · rw [get_addSet]
        split
        · rename_i hA; rw [foldl_addNoDup_mem_iff, hA]; simp
        · rename_i hA; simp [hA]
      · rename_i hs
        refine ⟨.inl, fun h => h.elim id fun ⟨hA, ht⟩ => ?_⟩
        rw [hA]
        exact sameSet_sub (by simpa using hs) t ht

theorem mem_stepAdds_iff {S : PSymbols} {fs : FirstSets} {p : SProd} (hE : "empty" ∉ S.ntList)
    {t : String} :
    t ∈ stepAdds S fs p ↔
      (t ≠ "empty" ∧ InFirstSeq S fs t (genBody p)) ∨
      (t = "empty" ∧ ∀ y ∈ genBody p, "empty" ∈ first S fs y) := by
  have hnil : ∀ x : String, x ∈ ["empty"] ↔
      (x ≠ "empty" ∧ InFirstSeq S fs x []) ∨ (x = "empty" ∧ ∀ y ∈ ([] : List String),
        "empty" ∈ first S fs y) := by
    intro x; simp [InFirstSeq]
  unfold stepAdds genBody
  split
  · rename_i hbody
    rw [if_pos (prodLen_nil hbody)]
    exact hnil t
  · rename_i s0 rest hbody
    have hlen := prodLen_cons hbody
    by_cases he : s0.name = "empty"
    · rw [if_pos he] at hlen
      have hterm : S.isTerminal s0.name = true := isTerminal_iff.2 fun h => hE (he ▸ h)
      rw [if_pos hlen, if_pos hterm, he]
      exact hnil t
    · rw [if_neg he] at hlen
      have hne : prodLen p ≠ 0 := by rw [hlen, hbody]; simp
      rw [if_neg hne]
      split
      · rename_i hterm
        have hnt : s0.name ∉ S.ntList := isTerminal_iff.1 hterm
        have hfirst : ∀ x, x ∈ first S fs s0.name ↔ x = s0.name := fun x => by
          rw [first_t hnt, List.mem_singleton]
        rw [hbody, List.map_cons, InFirstSeq, List.mem_singleton, hfirst, hfirst]
        constructor
        · rintro rfl
          exact .inl ⟨he, .inl rfl⟩
        · rintro (⟨-, h | ⟨h, -⟩⟩ | ⟨-, h⟩)
          · exact h
          · exact absurd h.symm he
          · exact absurd ((hfirst _).1 (h _ (List.mem_cons_self ..))).symm he
      · rw [mem_firstS_iff]
        by_cases ht : t = "empty"
        · subst ht
          refine ⟨fun h => .inr ⟨rfl, h.2 rfl⟩, fun h => ?_⟩
          rcases h with ⟨h, -⟩ | ⟨-, h⟩
          · exact absurd rfl h
          · refine ⟨?_, fun _ => h⟩
            rw [hbody, List.map_cons]
            exact .inl (h _ (by rw [hbody]; exact List.mem_cons_self ..))
        · exact ⟨fun h => .inl ⟨ht, h.1⟩, fun h => h.elim (fun h => ⟨h.2, fun e => absurd e ht⟩)
            fun h => absurd h.1 ht⟩

theorem firstSets_get_ind {S : PSymbols} {prods : List SProd} (hW : WFp S prods)
    (Q : String → String → Prop)
    (hstep : ∀ fs, ∀ p ∈ prods, (∀ A, ∀ t ∈ fs.get A, Q A t) → ∀ t ∈ stepAdds S fs p, Q p.head t) :
    ∀ A, ∀ t ∈ (firstSets S prods).get A, Q A t := by
  obtain ⟨n, -, -, -, heq, -⟩ := firstSets_spec hW
  rw [heq]
  have hpass : ∀ fs, (∀ A, ∀ t ∈ fs.get A, Q A t) →
      ∀ A, ∀ t ∈ (firstPass S prods fs).1.get A, Q A t := by
    intro fs hfs
    rw [firstPass_eq]
    refine foldl_inv (fun acc : FirstSets × Bool => ∀ A, ∀ t ∈ acc.1.get A, Q A t)
      (fun acc p hp hacc A t ht => ?_) hfs
    rcases mem_passStep_get.1 ht with h | ⟨rfl, h⟩
    · exact hacc A t h
    · exact hstep acc.1 p hp hacc t h
  have hN : ∀ (n : Nat) (fs : FirstSets), (∀ A, ∀ t ∈ fs.get A, Q A t) →
      ∀ A, ∀ t ∈ (firstPassN S prods n fs).get A, Q A t := by
    intro n
    induction n with
    | zero => intro fs h; exact h
    | succ n ih => intro fs h; exact ih _ (hpass fs h)
  exact hN n [] (fun A t ht => nomatch ht)

/-- a terminal that can be a look-ahead: a column of the action table other than `INVALID`, and
    not the marker `empty` -/
def GoodT (S : PSymbols) (t : String) : Prop :=
  S.isTerminal t = true ∧ t ≠ "INVALID" ∧ t ≠ "empty"

def TInv (S : PSymbols) (fs : FirstSets) : Prop :=
  ∀ e ∈ fs, ∀ t ∈ e.2, t = "empty" ∨ GoodT S t

/-- the spellings in the bodies: no `INVALID`; no `empty` in an alternative that is not an empty
    alternative -/
def BodyOk (prods : List SProd) : Prop :=
  ∀ p ∈ prods, ∀ s ∈ p.body, s.name ≠ "INVALID" ∧ (prodLen p ≠ 0 → s.name ≠ "empty")

theorem BodyOk.noEmpty {prods : List SProd} (hB : BodyOk prods) {p : SProd} (hp : p ∈ prods) :
    ∀ y ∈ genBody p, y ≠ "empty" := fun _ hy =>
  let ⟨hne, s, hs, e⟩ := mem_genBody hy
  e ▸ (hB p hp s hs).2 hne

theorem TInv.get {S : PSymbols} {fs : FirstSets} (h : TInv S fs) (A : String) :
    ∀ t ∈ fs.get A, t = "empty" ∨ GoodT S t := fun t ht =>
  let ⟨e, he, hte⟩ := mem_fsGet ht
  h e he t hte

theorem first_good {S : PSymbols} {fs : FirstSets}
    (h : ∀ A, ∀ t ∈ fs.get A, t = "empty" ∨ GoodT S t) {y t : String}
    (hy : S.isTerminal y = true → y = "empty" ∨ GoodT S y) (ht : t ∈ first S fs y) :
    t = "empty" ∨ GoodT S t := by
  unfold first at ht
  split at ht
  · rename_i hterm
    exact List.mem_singleton.1 ht ▸ hy hterm
  · exact h y t ht

theorem firstS_good {S : PSymbols} {fs : FirstSets}
    (h : ∀ A, ∀ t ∈ fs.get A, t = "empty" ∨ GoodT S t) {syms : List String}
    (hy : ∀ y ∈ syms, S.isTerminal y = true → y = "empty" ∨ GoodT S y) {t : String}
    (ht : t ∈ firstS S fs syms) : t = "empty" ∨ GoodT S t := by
  obtain ⟨y, hy1, hy2⟩ := mem_firstS ht
  exact first_good h (hy y hy1) hy2

theorem TInv_firstSets {S : PSymbols} {prods : List SProd} (hW : WFp S prods)
    (hB : BodyOk prods) (hE : "empty" ∉ S.ntList) : TInv S (firstSets S prods) := by
  intro e he t ht
  rw [← get_of_mem (firstSets_inv hW).keys he] at ht
  refine firstSets_get_ind hW (fun _ t => t = "empty" ∨ GoodT S t) ?_ e.1 t ht
  intro fs p hp hfs t ht
  rcases (mem_stepAdds_iff hE).1 ht with ⟨-, hin⟩ | ⟨rfl, -⟩
  · obtain ⟨y, hy, hty⟩ := hin.exists
    obtain ⟨-, s, hs, rfl⟩ := mem_genBody hy
    exact first_good hfs (fun hterm => .inr ⟨hterm, (hB p hp s hs).1, hB.noEmpty hp _ hy⟩) hty
  · exact .inl rfl

theorem fold_fix {S : PSymbols} : ∀ (l : List SProd) (acc : FirstSets × Bool),
    (∀ p ∈ l, p.head ∈ S.ntList ∧ ∀ s ∈ p.body, s.name ∈ S.typeMap) → FInv S acc.1 →
    (l.foldl (passStep S) acc).2 = false → ∀ p ∈ l, passStep S acc p = acc
  | q :: l, acc, hW, hacc, hres, p, hp => by
    rw [List.foldl_cons] at hres
    obtain ⟨s1, s2⟩ := passStep_spec (hW q (List.mem_cons_self ..)) hacc
    have hl := fun x hx => hW x (List.mem_cons_of_mem _ hx)
    -- the rest of the pass reports no change, so it started from a step that reported none
    have hq : passStep S acc q = acc :=
      s2.fix ((congrArg Prod.snd ((foldl_passStep_spec hl s1).2.fix hres)).symm.trans hres)
    rcases List.mem_cons.1 hp with rfl | hp
    · exact hq
    · rw [hq] at hres
      exact fold_fix l acc hl hacc hres p hp

theorem first_fix_prod {S : PSymbols} {prods : List SProd} (hW : WFp S prods) {p : SProd}
    (hp : p ∈ prods) :
    ∀ t ∈ stepAdds S (firstSets S prods) p, t ∈ (firstSets S prods).get p.head := by
  intro t ht
  have hfix := first_fixpoint hW
  rw [firstPass_eq] at hfix
  have hstep := fold_fix prods (firstSets S prods, false) hW (firstSets_inv hW) hfix p hp
  have := (mem_passStep_get (acc := (firstSets S prods, false)) (A := p.head)).2 (.inr ⟨rfl, ht⟩)
  rwa [hstep] at this

/-- `fcOf`, as a function of the three things it reads -/
def mkFc (terms nts : List String) (fs : FirstSets) : FirstCert :=
  { nullable := (List.range nts.length).filter fun k => (fs.get nts[k]!).contains "empty"
    first := (List.range nts.length).flatMap fun k =>
      ((fs.get nts[k]!).filter (· != "empty")).map fun t => (k, (terms.idxOf? t).getD 0) }

theorem fcOf_eq (r : LRResult) : fcOf r = mkFc r.tables.terminals r.tables.nts r.ctx.fs := rfl

theorem getBang_idxOf {nts : List String} {X : String} (hX : X ∈ nts) :
    nts.idxOf X < nts.length ∧ nts[nts.idxOf X]! = X := by
  have hlt := List.idxOf_lt_length_of_mem hX
  refine ⟨hlt, ?_⟩
  rw [getElem!_pos nts _ hlt]
  exact List.getElem_idxOf _

theorem mkFc_nullable {terms nts : List String} {fs : FirstSets} {X : String} (hX : X ∈ nts) :
    (mkFc terms nts fs).isNullable (nts.idxOf X) = true ↔ "empty" ∈ fs.get X := by
  obtain ⟨hlt, hget⟩ := getBang_idxOf hX
  simp only [FirstCert.isNullable, mkFc, List.contains_iff_mem, List.mem_filter, List.mem_range,
    hget, hlt, true_and]

theorem mkFc_mem_first {terms nts : List String} {fs : FirstSets} {B a : Nat} :
    (B, a) ∈ (mkFc terms nts fs).first ↔
      B < nts.length ∧ ∃ t ∈ fs.get nts[B]!, t ≠ "empty" ∧ (terms.idxOf? t).getD 0 = a := by
  simp only [mkFc, List.mem_flatMap, List.mem_range, List.mem_map, List.mem_filter, bne_iff_ne,
    ne_eq, Prod.mk.injEq]
  constructor
  · rintro ⟨k, hk, t, ⟨ht1, ht2⟩, rfl, rfl⟩
    exact ⟨hk, t, ht1, ht2, rfl⟩
  · rintro ⟨hk, t, ht1, ht2, rfl⟩
    exact ⟨B, hk, t, ⟨ht1, ht2⟩, rfl, rfl⟩

theorem mkFc_hasFirst {terms nts : List String} {fs : FirstSets} {X : String} (hX : X ∈ nts)
    {a : Nat} : (mkFc terms nts fs).hasFirst (nts.idxOf X) a = true ↔
      ∃ t ∈ fs.get X, t ≠ "empty" ∧ (terms.idxOf? t).getD 0 = a := by
  obtain ⟨hlt, hget⟩ := getBang_idxOf hX
  simp only [FirstCert.hasFirst, List.contains_iff_mem]
  rw [mkFc_mem_first, hget]
  simp only [hlt, true_and]

theorem firstOkProd_of {S : PSymbols} {fs : FirstSets} (terms : List String) {H : String}
    (hH : H ∈ S.ntList) : ∀ (syms : List String), (∀ y ∈ syms, y ∉ S.ntList → y ≠ "empty") →
    (∀ t, t ≠ "empty" → InFirstSeq S fs t syms → t ∈ fs.get H) →
    ((∀ y ∈ syms, "empty" ∈ first S fs y) → "empty" ∈ fs.get H) →
    firstOkProd (mkFc terms S.ntList fs) (S.ntList.idxOf H)
      (syms.map (symOf terms S.ntList)) = true := by
  intro syms
  induction syms with
  | nil =>
    intro _ _ h3
    simp only [List.map_nil, firstOkProd]
    exact (mkFc_nullable hH).2 (h3 (by simp))
  | cons y ys ih =>
    intro h1 h2 h3
    by_cases hy : y ∈ S.ntList
    · simp only [List.map_cons, symOf_mem hy, firstOkProd, Bool.and_eq_true, List.all_eq_true,
        Bool.or_eq_true, Bool.not_eq_true']
      constructor
      · intro ⟨B', a⟩ hm
        by_cases hB : B' = S.ntList.idxOf y
        · right
          subst hB
          obtain ⟨t, ht1, ht2, ht3⟩ := (mkFc_hasFirst hy).1 (List.contains_iff_mem.2 hm)
          exact (mkFc_hasFirst hH).2 ⟨t, h2 t ht2 (.inl (by rw [first_nt hy]; exact ht1)), ht2, ht3⟩
        · left
          simpa using hB
      · cases hn : (mkFc terms S.ntList fs).isNullable (S.ntList.idxOf y) with
        | false => exact .inl rfl
        | true =>
          right
          have hemp : "empty" ∈ first S fs y := by
            rw [first_nt hy]; exact (mkFc_nullable hy).1 hn
          refine ih (fun z hz => h1 z (List.mem_cons_of_mem _ hz))
            (fun t ht hin => h2 t ht (.inr ⟨hemp, hin⟩)) ?_
          intro hall
          apply h3
          intro z hz
          rcases List.mem_cons.1 hz with rfl | hz
          · exact hemp
          · exact hall z hz
    · simp only [List.map_cons, symOf_not_mem hy, firstOkProd]
      have hne := h1 y (List.mem_cons_self ..) hy
      exact (mkFc_hasFirst hH).2 ⟨y, h2 y hne (.inl (by rw [first_t hy]; simp)), hne, rfl⟩

/-- the FIRST sets of the generator, numbered, are closed under the grammar rules -/
theorem firstOk_gen {S : PSymbols} {prods : List SProd} (terms : List String)
    (hW : WFp S prods) (hB : BodyOk prods) (hE : "empty" ∉ S.ntList) :
    firstOk (ngrammarOf prods terms S.ntList) (mkFc terms S.ntList (firstSets S prods)) = true := by
  simp only [firstOk, List.all_eq_true, List.mem_range, ngrammarOf_size]
  intro p hp
  have hmem : prods[p] ∈ prods := List.getElem_mem hp
  have hhead := (hW _ hmem).1
  have hfix := first_fix_prod hW hmem
  rw [ngrammarOf_head _ _ hp, idxOf?_eq_idxOf hhead, Option.getD_some, ngrammarOf_body _ _ hp]
  exact firstOkProd_of terms hhead _ (fun y hy _ => hB.noEmpty hmem y hy)
    (fun t ht hin => hfix t ((mem_stepAdds_iff hE).2 (.inl ⟨ht, hin⟩)))
    (fun hall => hfix _ ((mem_stepAdds_iff hE).2 (.inr ⟨rfl, hall⟩)))

theorem firstOfSeq_sub {S : PSymbols} {fs : FirstSets} (terms : List String) {la : String}
    (hla : la ∉ S.ntList) : ∀ (β : List String), (∀ y ∈ β, y ∉ S.ntList → y ≠ "empty") →
    la ≠ "empty" →
    ∀ b, b ∈ firstOfSeq (mkFc terms S.ntList fs) (β.map (symOf terms S.ntList))
        ((terms.idxOf? la).getD 0) →
      ∃ t, t ≠ "empty" ∧ InFirstSeq S fs t (β ++ [la]) ∧ (terms.idxOf? t).getD 0 = b := by
  intro β
  induction β with
  | nil =>
    intro _ hne b hb
    simp only [List.map_nil, firstOfSeq, List.mem_singleton] at hb
    subst hb
    exact ⟨la, hne, .inl (by rw [first_t hla]; simp), rfl⟩
  | cons y ys ih =>
    intro h1 hne b hb
    by_cases hy : y ∈ S.ntList
    · simp only [List.map_cons, symOf_mem hy, firstOfSeq, List.mem_append, List.mem_map,
        List.mem_filter, beq_iff_eq] at hb
      rcases hb with ⟨⟨B, a⟩, ⟨hm, hB⟩, rfl⟩ | hb
      · simp only at hB
        subst hB
        obtain ⟨t, ht1, ht2, ht3⟩ := (mkFc_hasFirst hy).1 (List.contains_iff_mem.2 hm)
        exact ⟨t, ht2, .inl (by rw [first_nt hy]; exact ht1), ht3⟩
      · split at hb
        · rename_i hn
          obtain ⟨t, ht1, ht2, ht3⟩ := ih (fun z hz => h1 z (List.mem_cons_of_mem _ hz)) hne b hb
          refine ⟨t, ht1, .inr ⟨?_, ht2⟩, ht3⟩
          rw [first_nt hy]
          exact (mkFc_nullable hy).1 hn
        · cases hb
    · simp only [List.map_cons, symOf_not_mem hy, firstOfSeq, List.mem_singleton] at hb
      subst hb
      exact ⟨y, h1 y (List.mem_cons_self ..) hy, .inl (by rw [first_t hy]; simp), rfl⟩

end Gocc.GenComplete
