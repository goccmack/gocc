import Gocc.Proofs.LexGenCorrectRefSets
import Gocc.Props.C18
/-
The transition lemma of one state, without references.  For an item list `items` and a position list
`S` that are the same set (`SetRel`):
  * `step_class`: for a rune `r` in the class `c` of `symbolClasses C items`,
        `moveSet C items c`  (= `nextSet`)  and  `xStep C S r`  are the same set;
  * `step_dot`: for a rune in no class, `dotSet C items` (= `nextDot`) and `xStep C S r` are the
    same set (both empty when no item expects `.`).
The classes are `classesOf` of the literal / range terms expected in the state (`symbolClasses_fst`),
so by C18 `termMatch t c ↔ termHas t r` for every expected term `t` and every `r` in `c`
(a reversed range `'z'-'a'` matches no class and no rune).
-/
namespace Gocc
namespace LexGenC

def termCR : LTerm → Option CR
  | .lit v => some ⟨v, v⟩
  | .rng a b => some ⟨a, b⟩
  | _ => none

def rsOf (C : LexCtx) (items : List LItem) : List CR :=
  items.filterMap fun i => (C.expected i).bind termCR

def isDotTerm : Option LTerm → Bool
  | some .dot => true
  | _ => false

theorem isDotTerm_iff {o : Option LTerm} : isDotTerm o = true ↔ o = some .dot := by
  cases o with
  | none => simp [isDotTerm]
  | some t => cases t <;> simp [isDotTerm]

/-- one step of the `getSymbolClasses` fold -/
def scStep (C : LexCtx) (acc : List CR × Bool) (i : LItem) : List CR × Bool :=
  (match (C.expected i).bind termCR with
    | some r => addRange acc.1 r.lo r.hi
    | none => acc.1, acc.2 || isDotTerm (C.expected i))

theorem symbolClasses_eq (C : LexCtx) (items : List LItem) :
    symbolClasses C items = items.foldl (scStep C) ([], false) := by
  unfold symbolClasses
  congr 1
  funext acc i
  unfold scStep
  cases hr : C.isReduce i with
  | true =>
    rw [expected_none_of_isReduce hr]
    simp [isDotTerm]
  | false =>
    simp only [Bool.false_eq_true, if_false]
    cases he : C.expected i with
    | none => simp [isDotTerm]
    | some t => cases t <;> simp [termCR, isDotTerm]

theorem symbolClasses_fold (C : LexCtx) : ∀ (items : List LItem) (acc : List CR × Bool),
    items.foldl (scStep C) acc =
    ((rsOf C items).foldl (fun l r => addRange l r.lo r.hi) acc.1,
      acc.2 || items.any fun i => isDotTerm (C.expected i)) := by
  intro items
  induction items with
  | nil => intro acc; simp [rsOf]
  | cons i items ih =>
    intro acc
    rw [List.foldl_cons, ih]
    unfold scStep
    cases hb : (C.expected i).bind termCR with
    | none => simp [rsOf, hb, Bool.or_assoc]
    | some r => simp [rsOf, hb, Bool.or_assoc]

theorem symbolClasses_fst (C : LexCtx) (items : List LItem) :
    (symbolClasses C items).1 = classesOf (rsOf C items) := by
  rw [symbolClasses_eq, symbolClasses_fold]
  rfl

theorem symbolClasses_snd (C : LexCtx) (items : List LItem) :
    (symbolClasses C items).2 = true ↔ ∃ i ∈ items, C.expected i = some .dot := by
  rw [symbolClasses_eq, symbolClasses_fold]
  simp only [Bool.false_or, List.any_eq_true, isDotTerm_iff]

theorem mem_rsOf {C : LexCtx} {items : List LItem} {ρ : CR} :
    ρ ∈ rsOf C items ↔ ∃ i ∈ items, ∃ t, C.expected i = some t ∧ termCR t = some ρ := by
  simp only [rsOf, List.mem_filterMap, Option.bind_eq_some_iff]

theorem termHas_iff_cr {t : LTerm} {ρ : CR} (h : termCR t = some ρ) (x : Int) :
    termHas t x = true ↔ ρ.lo ≤ x ∧ x ≤ ρ.hi := by
  cases t <;> cases h
  · simp only [termHas, beq_iff_eq]; omega
  · simp [termHas]

theorem termHas_cr {t : LTerm} {x : Int} (h : termHas t x = true) : ∃ ρ, termCR t = some ρ := by
  cases t <;> simp [termHas] at h <;> simp [termCR]

theorem in_class_iff (C : LexCtx) (items : List LItem) (r : Int) :
    (∃ c ∈ (symbolClasses C items).1, c.lo ≤ r ∧ r ≤ c.hi) ↔
      ∃ i ∈ items, ∃ t, C.expected i = some t ∧ termHas t r = true := by
  rw [symbolClasses_fst, C18_union_exact]
  constructor
  · rintro ⟨ρ, hρ, hr⟩
    obtain ⟨i, hi, t, he, ht⟩ := mem_rsOf.1 hρ
    exact ⟨i, hi, t, he, (termHas_iff_cr ht r).2 hr⟩
  · rintro ⟨i, hi, t, he, hh⟩
    obtain ⟨ρ, hρ⟩ := termHas_cr hh
    exact ⟨ρ, mem_rsOf.2 ⟨i, hi, t, he, hρ⟩, (termHas_iff_cr hρ r).1 hh⟩

theorem termMatch_iff_termHas {C : LexCtx} {items : List LItem} {i : LItem} {t : LTerm}
    (hi : i ∈ items) (he : C.expected i = some t) {c : CR} (hc : c ∈ (symbolClasses C items).1)
    {r : Int} (hlo : c.lo ≤ r) (hhi : r ≤ c.hi) : termMatch t c = true ↔ termHas t r = true := by
  rw [symbolClasses_fst] at hc
  cases hcr : termCR t with
  | none => cases t <;> first | exact Iff.rfl | cases hcr
  | some ρ =>
    -- on a class, `Item.match` is `matchRange` on the term's interval
    have e : termMatch t c = matchRange ρ.lo ρ.hi c := by
      cases t <;> cases hcr
      · exact matchLit_eq_matchRange (Int.le_trans hlo hhi) _
      · rfl
    rw [e, termHas_iff_cr hcr]
    by_cases hab : ρ.lo ≤ ρ.hi
    · obtain ⟨h1, h2⟩ := C18_match_range_all_or_nothing _ ρ (mem_rsOf.2 ⟨i, hi, t, he, hcr⟩) hab c hc
      exact ⟨fun h => (h2.1 h) r hlo hhi, fun h => h1.2 ⟨r, hlo, hhi, h⟩⟩
    · -- a reversed range matches no class and contains no rune
      simp only [matchRange, Bool.and_eq_true, decide_eq_true_eq]
      omega

def specP (C : LexCtx) (c : Int) (x : XPos) : Bool :=
  match xExpected C x with
  | some t => termHas t c
  | none => false

def dotP (C : LexCtx) (x : XPos) : Bool := isDotTerm (xExpected C x)

theorem xStep_eq' (C : LexCtx) (S : List XPos) (c : Int) :
    xStep C S c = xClosure C ((if (S.filter (specP C c)).isEmpty then S.filter (dotP C)
      else S.filter (specP C c)).map xAdvance) := rfl

theorem specP_iff (C : LexCtx) (c : Int) (i : LItem) :
    specP C c [i] = true ↔ ∃ t, C.expected i = some t ∧ termHas t c = true := by
  rw [specP, xExpected_sing]
  cases C.expected i <;> simp

theorem dotP_iff (C : LexCtx) (i : LItem) : dotP C [i] = true ↔ C.expected i = some .dot := by
  rw [dotP, xExpected_sing]; exact isDotTerm_iff

theorem movers_pos {C : LexCtx} {S : List XPos} (hS : ∀ x ∈ S, ∃ i, x = [i]) {p : XPos → Bool}
    (hp : ∀ i, p [i] = true → ∃ t, C.expected i = some t) :
    ∀ z ∈ (S.filter p).map xAdvance, ∃ y, z = [y] ∧ Pos C y := by
  intro z hz
  obtain ⟨w, hw, rfl⟩ := List.mem_map.1 hz
  obtain ⟨hwS, hpw⟩ := List.mem_filter.1 hw
  obtain ⟨i, rfl⟩ := hS w hwS
  obtain ⟨t, ht⟩ := hp _ hpw
  exact ⟨_, rfl, pos_advance ht⟩

theorem mem_xClosure_movers {C : LexCtx} (hC : NoRefC C) {S : List XPos}
    (hS : ∀ x ∈ S, ∃ i, x = [i]) (hlen : S.length ≤ C.fuel) (p : XPos → Bool)
    (hp : ∀ i, p [i] = true → ∃ t, C.expected i = some t) (x : XPos) :
    x ∈ xClosure C ((S.filter p).map xAdvance) ↔
      ∃ i y, [i] ∈ S ∧ p [i] = true ∧ x = [y] ∧ y ∈ moved C i := by
  rw [mem_xClosure_iff hC (movers_pos hS hp)
    (by rw [List.length_map]; exact Nat.le_trans (List.length_filter_le _ _) hlen)]
  constructor
  · rintro ⟨s, y, hs, rfl, hr, hb⟩
    obtain ⟨a, ha, e⟩ := List.mem_map.1 hs
    obtain ⟨haS, hpa⟩ := List.mem_filter.1 ha
    obtain ⟨i, rfl⟩ := hS a haS
    cases sing_inj e
    exact ⟨i, y, haS, hpa, rfl, (mem_emoves_iff C _ y).2 ⟨hr, hb⟩⟩
  · rintro ⟨i, y, hi, hpi, rfl, hy⟩
    obtain ⟨hr, hb⟩ := (mem_emoves_iff C _ y).1 hy
    exact ⟨_, y, List.mem_map.2 ⟨[i], List.mem_filter.2 ⟨hi, hpi⟩, rfl⟩, rfl, hr, hb⟩

theorem mem_xStep_sing {C : LexCtx} (hC : NoRefC C) {S : List XPos}
    (hS : ∀ x ∈ S, ∃ i, x = [i]) (hlen : S.length ≤ C.fuel) (r : Int) (x : XPos) :
    x ∈ xStep C S r ↔ ∃ i y, [i] ∈ S ∧ x = [y] ∧ y ∈ moved C i ∧
      ((∃ t, C.expected i = some t ∧ termHas t r = true) ∨
        (¬ (∃ j t, [j] ∈ S ∧ C.expected j = some t ∧ termHas t r = true) ∧
          C.expected i = some .dot)) := by
  have hemp : (S.filter (specP C r)).isEmpty = true ↔
      ¬ ∃ j t, [j] ∈ S ∧ C.expected j = some t ∧ termHas t r = true := by
    rw [List.isEmpty_iff, List.filter_eq_nil_iff]
    constructor
    · rintro h ⟨j, t, hj, he, hh⟩
      exact h _ hj ((specP_iff C r j).2 ⟨t, he, hh⟩)
    · intro h a ha hpa
      obtain ⟨j, rfl⟩ := hS a ha
      obtain ⟨t, he, hh⟩ := (specP_iff C r j).1 hpa
      exact h ⟨j, t, ha, he, hh⟩
  rw [xStep_eq']
  split
  · rename_i h
    rw [mem_xClosure_movers hC hS hlen (dotP C) (fun i hi => ⟨_, (dotP_iff C i).1 hi⟩)]
    simp only [dotP_iff]
    constructor
    · rintro ⟨i, y, hi, hd, hx, hy⟩; exact ⟨i, y, hi, hx, hy, .inr ⟨hemp.1 h, hd⟩⟩
    · rintro ⟨i, y, hi, hx, hy, ⟨t, he, hh⟩ | ⟨_, hd⟩⟩
      · exact absurd ⟨i, t, hi, he, hh⟩ (hemp.1 h)
      · exact ⟨i, y, hi, hd, hx, hy⟩
  · rename_i h
    rw [mem_xClosure_movers hC hS hlen (specP C r)
      (fun i hi => let ⟨t, ht, _⟩ := (specP_iff C r i).1 hi; ⟨t, ht⟩)]
    simp only [specP_iff]
    constructor
    · rintro ⟨i, y, hi, hp, hx, hy⟩; exact ⟨i, y, hi, hx, hy, .inl hp⟩
    · rintro ⟨i, y, hi, hx, hy, hp | ⟨hn, _⟩⟩
      · exact ⟨i, y, hi, hp, hx, hy⟩
      · exact absurd (hemp.2 hn) h

theorem SetRel.sing {items : List LItem} {S : List XPos} (h : SetRel items S) :
    ∀ x ∈ S, ∃ i, x = [i] :=
  fun x hx => let ⟨i, _, e⟩ := (h x).1 hx; ⟨i, e⟩

theorem step_class {C : LexCtx} (hC : NoRefC C) {items : List LItem} {S : List XPos}
    (hrel : SetRel items S) (hlen : S.length ≤ C.fuel) {c : CR}
    (hc : c ∈ (symbolClasses C items).1) {r : Int} (hlo : c.lo ≤ r) (hhi : r ≤ c.hi) :
    SetRel (moveSet C items c) (xStep C S r) := by
  obtain ⟨i0, hi0, t0, he0, hh0⟩ := (in_class_iff C items r).1 ⟨c, hc, hlo, hhi⟩
  intro x
  rw [mem_xStep_sing hC hrel.sing hlen]
  constructor
  · rintro ⟨i, y, hi, rfl, hy, ⟨t, he, hh⟩ | ⟨hn, _⟩⟩
    · have hi' := (hrel.mem i).1 hi
      exact ⟨y, mem_moveSet.2
        ⟨i, hi', t, he, (termMatch_iff_termHas hi' he hc hlo hhi).2 hh, hy⟩, rfl⟩
    · exact absurd ⟨i0, t0, (hrel.mem i0).2 hi0, he0, hh0⟩ hn
  · rintro ⟨y, hy, rfl⟩
    obtain ⟨i, hi, t, he, hm, hy⟩ := mem_moveSet.1 hy
    exact ⟨i, y, (hrel.mem i).2 hi, rfl, hy,
      .inl ⟨t, he, (termMatch_iff_termHas hi he hc hlo hhi).1 hm⟩⟩

theorem step_dot {C : LexCtx} (hC : NoRefC C) {items : List LItem} {S : List XPos}
    (hrel : SetRel items S) (hlen : S.length ≤ C.fuel) {r : Int}
    (hno : ∀ c ∈ (symbolClasses C items).1, ¬ (c.lo ≤ r ∧ r ≤ c.hi)) :
    SetRel (dotSet C items) (xStep C S r) := by
  have hn : ¬ ∃ j t, [j] ∈ S ∧ C.expected j = some t ∧ termHas t r = true :=
    fun ⟨j, t, hj, he, hh⟩ =>
      let ⟨c, hc, hr⟩ := (in_class_iff C items r).2 ⟨j, (hrel.mem j).1 hj, t, he, hh⟩
      hno c hc hr
  intro x
  rw [mem_xStep_sing hC hrel.sing hlen]
  constructor
  · rintro ⟨i, y, hi, rfl, hy, ⟨t, he, hh⟩ | ⟨_, he⟩⟩
    · exact absurd ⟨i, t, hi, he, hh⟩ hn
    · exact ⟨y, mem_dotSet.2 ⟨i, (hrel.mem i).1 hi, he, hy⟩, rfl⟩
  · rintro ⟨y, hy, rfl⟩
    obtain ⟨i, hi, he, hy⟩ := mem_dotSet.1 hy
    exact ⟨i, y, (hrel.mem i).2 hi, rfl, hy, .inr ⟨hn, he⟩⟩

theorem goodX_xStep {C : LexCtx} (hC : NoRefC C) {S : List XPos} (hS : GoodX C S) (r : Int) :
    GoodX C (xStep C S r) := by
  rw [xStep_eq']
  have key : ∀ (p : XPos → Bool), (∀ i, p [i] = true → ∃ t, C.expected i = some t) →
      GoodX C (xClosure C ((S.filter p).map xAdvance)) := by
    intro p hp
    have hsing : ∀ x ∈ S, ∃ i, x = [i] := fun x hx => let ⟨i, e, _⟩ := hS.sing x hx; ⟨i, e⟩
    refine goodX_xClosure hC (movers_pos hsing hp) ?_
    rw [List.pairwise_map]
    refine List.Pairwise.imp_of_mem ?_ (hS.sorted.filter p)
    intro a b ha hb hab
    obtain ⟨i, rfl⟩ := hsing a (List.mem_filter.1 ha).1
    obtain ⟨j, rfl⟩ := hsing b (List.mem_filter.1 hb).1
    exact hab
  split
  · exact key _ fun i hi => ⟨_, (dotP_iff C i).1 hi⟩
  · exact key _ fun i hi => let ⟨t, ht, _⟩ := (specP_iff C r i).1 hi; ⟨t, ht⟩

end LexGenC
end Gocc
