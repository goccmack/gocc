import Gocc.Proofs.ListAux
/-
The loop of `GetItemSets` (`lrExpand` / `lrLoop`): one case analysis of its body `expStep`, one
induction principle for invariants of the collection, and what holds without any assumption on the
grammar — states are only appended and keep their items (`Ext`), every property of item sets that
`goto` preserves holds of all states (`AllS`), every processed state has all its transitions
(`Done`), and the result is independent of the fuel once the fuel is at least its size.
-/
namespace Gocc

theorem sameItems_refl (a : List Item) : sameItems a a = true := by
  unfold sameItems
  simp

theorem sameItems_sub {a b : List Item} (h : sameItems a b = true) : ∀ x ∈ a, x ∈ b := by
  unfold sameItems at h
  simp only [Bool.and_eq_true, List.all_eq_true, List.contains_iff_mem] at h
  exact h.2

def addTrans (sets : Array LRState) (i : Nat) (X : String) (idx : Nat) : Array LRState :=
  sets.modify i fun s => { s with trans := s.trans ++ [(X, idx)] }

/-- the body of the `for X in symbols` loop of `lrExpand` -/
def expStep (C : LRCtx) (i : Nat) (sets : Array LRState) (X : String) : Array LRState :=
  let gto := goto C sets[i]!.items X
  if gto.isEmpty then sets
  else
    match sets.findIdx? (fun s => sameItems s.items gto) with
    | some idx => addTrans sets i X idx
    | none => addTrans (sets.push { items := gto }) i X ((sets.push { items := gto }).size - 1)

theorem lrExpand_eq (C : LRCtx) (sets : Array LRState) (i : Nat) :
    lrExpand C sets i = C.S.typeMap.foldl (expStep C i) sets := rfl

theorem getBang_of_get? {sets : Array LRState} {i : Nat} {st : LRState} (h : sets[i]? = some st) :
    sets[i]! = st := by
  obtain ⟨hi, rfl⟩ := Array.getElem?_eq_some_iff.1 h
  exact getElem!_pos sets i hi

theorem expStep_cases (C : LRCtx) {sets : Array LRState} {i : Nat} {sti : LRState} (X : String)
    (hi : sets[i]? = some sti) :
    (goto C sti.items X = [] ∧ expStep C i sets X = sets) ∨
    (∃ idx, ∃ _ : idx < sets.size, sameItems sets[idx].items (goto C sti.items X) = true ∧
      expStep C i sets X = addTrans sets i X idx) ∨
    (goto C sti.items X ≠ [] ∧ (∀ st ∈ sets, sameItems st.items (goto C sti.items X) = false) ∧
      expStep C i sets X =
        addTrans (sets.push { items := goto C sti.items X }) i X sets.size) := by
  unfold expStep
  rw [getBang_of_get? hi]
  dsimp only
  split
  · rename_i he
    exact .inl ⟨List.isEmpty_iff.1 he, rfl⟩
  · rename_i hne
    split
    · rename_i idx hf
      obtain ⟨hlt, hsame, _⟩ := Array.findIdx?_eq_some_iff_getElem.1 hf
      exact .inr (.inl ⟨idx, hlt, hsame, rfl⟩)
    · rename_i hf
      rw [Array.size_push, Nat.add_sub_cancel]
      exact .inr (.inr ⟨fun he => hne (List.isEmpty_iff.2 he), Array.findIdx?_eq_none_iff.1 hf, rfl⟩)

theorem singleton_get {a st : LRState} {j : Nat} (h : (#[a] : Array LRState)[j]? = some st) :
    j = 0 ∧ st = a := by
  cases j with
  | zero => exact ⟨rfl, (Option.some.inj h).symm⟩
  | succ j => cases h

theorem push_get {sets : Array LRState} {s st : LRState} {j : Nat}
    (h : (sets.push s)[j]? = some st) :
    (j < sets.size ∧ sets[j]? = some st) ∨ (j = sets.size ∧ st = s) := by
  rw [Array.getElem?_push] at h
  split at h
  · rename_i hj; cases h; exact .inr ⟨hj, rfl⟩
  · exact .inl ⟨(Array.getElem?_eq_some_iff.1 h).1, h⟩

theorem addTrans_get {sets : Array LRState} {i j : Nat} {X : String} {idx : Nat} {st' : LRState}
    (h : (addTrans sets i X idx)[j]? = some st') :
    ∃ st, sets[j]? = some st ∧ st'.items = st.items ∧
      (st'.trans = st.trans ∨ (i = j ∧ st'.trans = st.trans ++ [(X, idx)])) := by
  rw [addTrans, Array.getElem?_modify] at h
  split at h
  · rename_i hij
    rcases hs : sets[j]? with _ | st
    · rw [hs] at h; cases h
    · rw [hs] at h
      cases h
      exact ⟨st, rfl, rfl, .inr ⟨hij, rfl⟩⟩
  · exact ⟨st', h, rfl, .inl rfl⟩

theorem addTrans_get_self {sets : Array LRState} {i : Nat} {sti : LRState} (X : String)
    (idx : Nat) (hi : sets[i]? = some sti) :
    (addTrans sets i X idx)[i]? = some { sti with trans := sti.trans ++ [(X, idx)] } := by
  rw [addTrans, Array.getElem?_modify, if_pos rfl, hi]; rfl

def Ext (a b : Array LRState) : Prop :=
  ∀ (j : Nat) (st : LRState), a[j]? = some st →
    ∃ st', b[j]? = some st' ∧ st'.items = st.items ∧ ∀ e ∈ st.trans, e ∈ st'.trans

theorem Ext.refl (a : Array LRState) : Ext a a := fun _ st h => ⟨st, h, rfl, fun _ he => he⟩

theorem Ext.trans {a b c : Array LRState} (h1 : Ext a b) (h2 : Ext b c) : Ext a c := by
  intro j st h
  obtain ⟨st1, g1, g2, g3⟩ := h1 j st h
  obtain ⟨st2, k1, k2, k3⟩ := h2 j st1 g1
  exact ⟨st2, k1, by rw [k2, g2], fun e he => k3 e (g3 e he)⟩

theorem Ext.size_le {a b : Array LRState} (h : Ext a b) : a.size ≤ b.size :=
  Nat.le_of_not_lt fun hlt =>
    let ⟨_, h', _⟩ := h b.size a[b.size] (Array.getElem?_eq_getElem hlt)
    Nat.lt_irrefl _ (Array.getElem?_eq_some_iff.1 h').1

theorem Ext.push (a : Array LRState) (s : LRState) : Ext a (a.push s) := by
  intro j st h
  have hj := (Array.getElem?_eq_some_iff.1 h).1
  refine ⟨st, ?_, rfl, fun _ he => he⟩
  rw [Array.getElem?_push, if_neg (by omega)]
  exact h

theorem Ext.addTrans (sets : Array LRState) (i : Nat) (X : String) (idx : Nat) :
    Ext sets (addTrans sets i X idx) := by
  intro j st h
  rw [Gocc.addTrans, Array.getElem?_modify]
  split
  · rw [h]
    exact ⟨_, rfl, rfl, fun e he => List.mem_append_left _ he⟩
  · exact ⟨st, h, rfl, fun _ he => he⟩

theorem expStep_ext (C : LRCtx) {i : Nat} {sets : Array LRState} {sti : LRState}
    (hi : sets[i]? = some sti) (X : String) : Ext sets (expStep C i sets X) := by
  rcases expStep_cases C X hi with ⟨-, h⟩ | ⟨idx, -, -, h⟩ | ⟨-, -, h⟩ <;> rw [h]
  · exact Ext.refl _
  · exact Ext.addTrans _ _ _ _
  · exact (Ext.push _ _).trans (Ext.addTrans _ _ _ _)

theorem foldExp_induct {C : LRCtx} {i : Nat} {P : Array LRState → Prop}
    (hstep : ∀ sets sti X, sets[i]? = some sti → P sets → P (expStep C i sets X))
    (l : List String) {sets : Array LRState} (hi : i < sets.size) (h : P sets) :
    P (l.foldl (expStep C i) sets) := by
  induction l generalizing sets with
  | nil => exact h
  | cons X l ih =>
    have hg := Array.getElem?_eq_getElem hi
    exact ih (Nat.lt_of_lt_of_le hi (expStep_ext C hg X).size_le) (hstep _ _ X hg h)

theorem lrLoop_induct {C : LRCtx} {P : Array LRState → Prop}
    (hstep : ∀ sets i sti X, sets[i]? = some sti → P sets → P (expStep C i sets X)) :
    ∀ (fuel i : Nat) (sets : Array LRState), P sets → P (lrLoop C fuel i sets) := by
  intro fuel
  induction fuel with
  | zero => intro i sets h; exact h
  | succ fuel ih =>
    intro i sets h
    rw [lrLoop]
    split
    · rename_i hi
      exact ih _ _ (foldExp_induct (hstep · i) _ hi h)
    · exact h

theorem fold_ext (C : LRCtx) {i : Nat} (l : List String) {sets : Array LRState}
    (hi : i < sets.size) : Ext sets (l.foldl (expStep C i) sets) :=
  foldExp_induct (P := Ext sets) (fun _ _ X hg h => h.trans (expStep_ext C hg X)) l hi (Ext.refl _)

theorem lrLoop_ext (C : LRCtx) (fuel i : Nat) (sets : Array LRState) :
    Ext sets (lrLoop C fuel i sets) :=
  lrLoop_induct (P := Ext sets) (fun _ _ _ X hg h => h.trans (expStep_ext C hg X)) fuel i sets
    (Ext.refl _)

def AllS (Q : List Item → Prop) (sets : Array LRState) : Prop :=
  ∀ (j : Nat) (st : LRState), sets[j]? = some st → Q st.items

theorem AllS.addTrans {Q : List Item → Prop} {sets : Array LRState} (h : AllS Q sets) (i : Nat)
    (X : String) (idx : Nat) : AllS Q (addTrans sets i X idx) := by
  intro j st' hj
  obtain ⟨st, g1, g2, _⟩ := addTrans_get hj
  rw [g2]
  exact h j st g1

theorem AllS.push {Q : List Item → Prop} {sets : Array LRState} (h : AllS Q sets) (s : LRState)
    (hs : Q s.items) : AllS Q (sets.push s) := by
  intro j st hj
  rcases push_get hj with ⟨_, g⟩ | ⟨_, rfl⟩
  · exact h j st g
  · exact hs

theorem AllS.singleton {Q : List Item → Prop} {I : List Item} (h : Q I) :
    AllS Q #[{ items := I }] := by
  intro j st hj
  rw [(singleton_get hj).2]
  exact h

theorem lrLoop_allS {C : LRCtx} {Q : List Item → Prop}
    (hg : ∀ I X, Q I → goto C I X ≠ [] → Q (goto C I X)) (fuel i : Nat)
    (sets : Array LRState) : AllS Q sets → AllS Q (lrLoop C fuel i sets) := by
  refine lrLoop_induct (fun sets i sti X hi h => ?_) fuel i sets
  rcases expStep_cases C X hi with ⟨-, e⟩ | ⟨idx, -, -, e⟩ | ⟨hne, -, e⟩ <;> rw [e]
  · exact h
  · exact h.addTrans _ _ _
  · exact (h.push _ (hg _ X (h i sti hi) hne)).addTrans _ _ _

/-- state `j` has been processed by `lrExpand`: every non-empty `goto` set has its transition -/
def Expanded (C : LRCtx) (sets : Array LRState) (j : Nat) : Prop :=
  ∀ st : LRState, sets[j]? = some st → ∀ X ∈ C.S.typeMap, goto C st.items X ≠ [] →
    ∃ idx, (X, idx) ∈ st.trans

/- `LoopsT`: what the termination proofs of the generators' loops (Proofs/LoopsTerminate*.lean)
   share; from here on, the part of it that concerns `lrLoop`. -/
namespace LoopsT

/-- state `j` has been processed: for every symbol `X` with a non-empty `goto` set the transition
    `(X, idx)` is recorded and state `idx` is that `goto` set (up to order) -/
def Done (C : LRCtx) (sets : Array LRState) (j : Nat) : Prop :=
  ∀ st : LRState, sets[j]? = some st → ∀ X ∈ C.S.typeMap, goto C st.items X ≠ [] →
    ∃ idx sx, (X, idx) ∈ st.trans ∧ sets[idx]? = some sx ∧
      sameItems sx.items (goto C st.items X) = true

theorem Done.expanded {C : LRCtx} {sets : Array LRState} {j : Nat} (h : Done C sets j) :
    Expanded C sets j := fun st hst X hX hne =>
  let ⟨idx, _, h1, _⟩ := h st hst X hX hne
  ⟨idx, h1⟩

def DoneOn (C : LRCtx) (sets : Array LRState) (j : Nat) (X : String) : Prop :=
  ∀ st : LRState, sets[j]? = some st → goto C st.items X ≠ [] →
    ∃ idx sx, (X, idx) ∈ st.trans ∧ sets[idx]? = some sx ∧
      sameItems sx.items (goto C st.items X) = true

theorem DoneOn.ext {C : LRCtx} {a b : Array LRState} {j : Nat} {X : String} (hj : j < a.size)
    (h : DoneOn C a j X) (hE : Ext a b) : DoneOn C b j X := by
  intro st' hst' hne
  obtain ⟨st2, g1, g2, g3⟩ := hE j a[j] (Array.getElem?_eq_getElem hj)
  rw [hst'] at g1
  cases g1
  obtain ⟨idx, sx, h1, h2, h3⟩ := h a[j] (Array.getElem?_eq_getElem hj) (by rw [← g2]; exact hne)
  obtain ⟨sx', k1, k2, _⟩ := hE idx sx h2
  exact ⟨idx, sx', g3 _ h1, k1, by rw [k2, g2]; exact h3⟩

theorem Done.ext {C : LRCtx} {a b : Array LRState} {j : Nat} (hj : j < a.size)
    (h : Done C a j) (hE : Ext a b) : Done C b j := fun st hst X hX =>
  DoneOn.ext hj (fun st' h' => h st' h' X hX) hE st hst

theorem DoneOn.addTrans {C : LRCtx} {sets : Array LRState} {i idx : Nat} {X : String}
    {sti sx : LRState} (hi : sets[i]? = some sti) (hx : sets[idx]? = some sx)
    (hsame : sameItems sx.items (goto C sti.items X) = true) :
    DoneOn C (addTrans sets i X idx) i X := by
  intro st hst _
  rw [addTrans_get_self X idx hi] at hst
  cases hst
  obtain ⟨sx', k1, k2, -⟩ := Ext.addTrans sets i X idx idx sx hx
  exact ⟨idx, sx', List.mem_append_right _ (List.mem_singleton.2 rfl), k1, by rw [k2]; exact hsame⟩

theorem expStep_done {C : LRCtx} {sets : Array LRState} {i : Nat} {sti : LRState} (X : String)
    (hi : sets[i]? = some sti) : DoneOn C (expStep C i sets X) i X := by
  rcases expStep_cases C X hi with ⟨he, e⟩ | ⟨idx, hlt, hsame, e⟩ | ⟨-, -, e⟩ <;> rw [e]
  · intro st hst hne
    cases hi.symm.trans hst
    exact absurd he hne
  · exact .addTrans hi (Array.getElem?_eq_getElem hlt) hsame
  · obtain ⟨sti1, g1, g2, -⟩ := Ext.push sets { items := goto C sti.items X } i sti hi
    exact .addTrans g1 (Array.getElem?_push_size ..) (by rw [g2]; exact sameItems_refl _)

/-- the later steps of `lrExpand` keep what the step for `X` has recorded -/
theorem lrExpand_done {C : LRCtx} {sets : Array LRState} {i : Nat} (hi : i < sets.size) :
    Done C (lrExpand C sets i) i := by
  intro st hst X hX
  obtain ⟨l1, l2, hl⟩ := List.append_of_mem hX
  rw [lrExpand_eq, hl, List.foldl_append, List.foldl_cons] at hst ⊢
  have hi1 := Nat.lt_of_lt_of_le hi (fold_ext C l1 hi).size_le
  have hg := Array.getElem?_eq_getElem hi1
  have hi2 := Nat.lt_of_lt_of_le hi1 (expStep_ext C hg X).size_le
  exact (expStep_done X hg).ext hi2 (fold_ext C l2 hi2) st hst

theorem lrLoop_of_not_lt (C : LRCtx) {i : Nat} {sets : Array LRState} (h : ¬ i < sets.size) :
    ∀ k, lrLoop C k i sets = sets := by
  intro k
  cases k with
  | zero => rfl
  | succ k => simp only [lrLoop, if_neg h]

/-- if the result has at most `i + fuel` states, the loop left through `i = len(sets)`: more fuel
    changes nothing, and every state has been processed -/
theorem lrLoop_exit {C : LRCtx} :
    ∀ (fuel i : Nat) (sets : Array LRState), i ≤ sets.size → (∀ j, j < i → Done C sets j) →
      (lrLoop C fuel i sets).size ≤ i + fuel →
        (∀ k, lrLoop C (fuel + k) i sets = lrLoop C fuel i sets) ∧
        ∀ j, j < (lrLoop C fuel i sets).size → Done C (lrLoop C fuel i sets) j := by
  intro fuel
  induction fuel with
  | zero =>
    intro i sets hi hd hsz
    rw [lrLoop] at hsz ⊢
    refine ⟨fun k => ?_, fun j hj => hd j (by omega)⟩
    rw [Nat.zero_add, lrLoop_of_not_lt C (by omega) k]
  | succ fuel ih =>
    intro i sets hi hd
    simp only [Nat.add_right_comm fuel 1, lrLoop]
    split
    · rename_i hlt
      have e2 : Ext sets (lrExpand C sets i) := fold_ext C _ hlt
      have hsz := e2.size_le
      intro hs
      exact ih (i + 1) (lrExpand C sets i) (by omega) (by
        intro j hj
        by_cases hji : j = i
        · subst hji; exact lrExpand_done hlt
        · exact (hd j (by omega)).ext (by omega) e2) (by omega)
    · exact fun _ => ⟨fun _ => rfl, fun j hj => hd j (by omega)⟩

theorem lrLoop_mono (C : LRCtx) : ∀ (fuel i : Nat) (sets : Array LRState) (k : Nat),
    Ext (lrLoop C fuel i sets) (lrLoop C (fuel + k) i sets) := by
  intro fuel
  induction fuel with
  | zero =>
    intro i sets k
    rw [Nat.zero_add]
    exact lrLoop_ext C k i sets
  | succ fuel ih =>
    intro i sets k
    rw [Nat.add_right_comm]
    simp only [lrLoop]
    split
    · exact ih _ _ k
    · exact Ext.refl _

theorem lrLoop_fixed (C : LRCtx) (init : Array LRState) (fuel : Nat)
    (hsz : (lrLoop C fuel 0 init).size ≤ fuel) :
    (∀ k, lrLoop C (fuel + k) 0 init = lrLoop C fuel 0 init) ∧
    (∀ j, j < (lrLoop C fuel 0 init).size → Done C (lrLoop C fuel 0 init) j) :=
  lrLoop_exit fuel 0 init (Nat.zero_le _) (fun _ h => absurd h (Nat.not_lt_zero _)) (by omega)

theorem lrLoop_sharp (C : LRCtx) (init : Array LRState) (N : Nat)
    (hN : (lrLoop C N 0 init).size ≤ N) :
    ∀ fuel, (lrLoop C N 0 init).size ≤ fuel → lrLoop C fuel 0 init = lrLoop C N 0 init := by
  intro fuel hf
  by_cases hle : fuel ≤ N
  · obtain ⟨k, rfl⟩ := Nat.exists_eq_add_of_le hle
    have h1 := (lrLoop_mono C fuel 0 init k).size_le
    exact ((lrLoop_fixed C init fuel (by omega)).1 k).symm
  · obtain ⟨k, rfl⟩ := Nat.exists_eq_add_of_le (Nat.le_of_not_le hle)
    exact (lrLoop_fixed C init N hN).1 k

end LoopsT

end Gocc
