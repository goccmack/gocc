import Gocc.Proofs.Validate
/-
The validators `safe` and `safeEnds` sweep their tables by position:
`(List.range a.size).all fun i => … a[i]? …`.  Evaluated by the kernel, every `a[i]?` walks the
underlying list again (`Array.size` is `List.length`, `a[i]` is `List.get`), and `c.has s p d`
looks the certificate row of state `s` up once more for every item of every edge.

Here each of the two gets a twin that passes over the lists once (`allIdx`), binds the certificate
row of a state once per state, and reads the grammar from `G.prods.toList`.  `safe_of_safeL`,
`safeEnds_of_safeEndsL` show, for all arguments, that the twin implies the validator; a concrete
table is then checked by evaluating the twin.  (`complete` sweeps its tables the same way and has no
twin: Props/C15.lean evaluates it as it stands.)
-/
namespace Gocc
variable {α β : Type}

def allIdx (f : Nat → α → Bool) : List α → (k : Nat := 0) → Bool
  | [], _ => true
  | x :: xs, k => f k x && allIdx f xs (k + 1)

theorem allIdx_iff {f : Nat → α → Bool} {l : List α} {k : Nat} :
    allIdx f l k = true ↔ ∀ i (h : i < l.length), f (k + i) l[i] = true := by
  induction l generalizing k with
  | nil => simp [allIdx]
  | cons x xs ih =>
    simp only [allIdx, Bool.and_eq_true, ih, List.length_cons]
    constructor
    · rintro ⟨h0, h⟩ (_ | i) hi
      · exact h0
      · exact Nat.add_right_comm k 1 i ▸ h i (by omega)
    · exact fun h => ⟨h 0 (by omega), fun i hi => Nat.add_right_comm k 1 i ▸ h (i + 1) (by omega)⟩

theorem all_range_of_allIdx_list {f : Nat → α → Bool} {l : List α} {g : Nat → Bool} {n : Nat}
    (h : allIdx f l = true) (hn : n ≤ l.length)
    (hg : ∀ i (hi : i < l.length), f i l[i] = true → g i = true) : (List.range n).all g = true := by
  simp only [List.all_eq_true, List.mem_range]
  exact fun i hi => hg i (by omega) (by simpa using allIdx_iff.mp h i (by omega))

theorem all_range_of_allIdx {f : Nat → α → Bool} {a : Array α} {g : Nat → Bool} {n : Nat}
    (h : allIdx f a.toList = true) (hn : n ≤ a.size)
    (hg : ∀ i (hi : i < a.size), f i a[i] = true → g i = true) : (List.range n).all g = true :=
  all_range_of_allIdx_list h (by simpa using hn) fun i hi hf =>
    hg i (by simpa using hi) (by simpa using hf)

theorem all_range_of_allIdx_zip {f : Nat → α × β → Bool} {a : Array α} {b : Array β}
    {g : Nat → Bool} {n : Nat} (h : allIdx f (a.toList.zip b.toList) = true)
    (ha : n ≤ a.size) (hb : n ≤ b.size)
    (hg : ∀ i (ha : i < a.size) (hb : i < b.size), f i (a[i], b[i]) = true → g i = true) :
    (List.range n).all g = true :=
  all_range_of_allIdx_list h (by simp; omega) fun i hi hf => by
    simp only [List.length_zip, Array.length_toList, Nat.lt_min] at hi
    exact hg i hi.1 hi.2 (by simpa using hf)

def bodyL (G : NGrammar) (p : Nat) : List Sym := (G.prods.toList[p]?.map (·.2)).getD []

theorem bodyL_eq (G : NGrammar) (p : Nat) : bodyL G p = G.body p := by simp [bodyL, NGrammar.body]

def edgeOkL (G : NGrammar) (is : List (Nat × Nat)) (X : Sym) (is' : List (Nat × Nat)) : Bool :=
  is'.all fun (p, d) => d == 0 || ((bodyL G p)[d - 1]? == some X && is.contains (p, d - 1))

theorem edgeOkL_eq (G : NGrammar) (c : Cert) (s s' : Nat) (X : Sym) :
    edgeOkL G (c[s]?.getD []) X (c[s']?.getD []) = edgeOk G c s X s' := by
  simp only [edgeOkL, edgeOk, Cert.has, bodyL_eq]

def safeL (G : NGrammar) (T : PTables) (c : Cert) : Bool :=
  let n := T.nStates
  T.action.size == n && T.goto_.size == n && c.size == n && n > 0 &&
  T.prodNT.size == G.prods.size && T.prodLen.size == G.prods.size &&
  allIdx (fun p (A, β) => T.prodNT.toList[p]? == some A && T.prodLen.toList[p]? == some β.length)
    G.prods.toList &&
  (match bodyL G 0 with | [Sym.nt _] => true | _ => false) &&
  (c.toList[0]?.getD []).all (fun (_, d) => d == 0) &&
  allIdx (fun _ (is, row) => allIdx (fun t a =>
      match a with
      | none => true
      | some (.shift s') => s' < n && edgeOkL G is (Sym.t t) (c.toList[s']?.getD [])
      | some (.reduce p) => p < G.prods.size && is.contains (p, (bodyL G p).length)
      | some .accept => t == 1 && is.contains (0, 1)) row.toList) (c.toList.zip T.action.toList) &&
  allIdx (fun _ (is, row) => allIdx (fun A g =>
      g < 0 || (g.toNat < n && edgeOkL G is (Sym.nt A) (c.toList[g.toNat]?.getD []))) row.toList)
    (c.toList.zip T.goto_.toList)

theorem safe_of_safeL {G : NGrammar} {T : PTables} {c : Cert} (h : safeL G T c = true) :
    safe G T c = true := by
  simp only [safeL, Bool.and_eq_true, bodyL_eq, Array.getElem?_toList] at h
  obtain ⟨⟨⟨⟨⟨hsz, hp⟩, hb⟩, h0⟩, hA⟩, hG⟩ := h
  have ⟨⟨⟨⟨⟨ha, hg⟩, hc⟩, _⟩, _⟩, _⟩ := hsz
  simp only [beq_iff_eq] at ha hg hc
  simp only [safe, Bool.and_eq_true]
  refine ⟨⟨⟨⟨⟨hsz, ?_⟩, hb⟩, h0⟩, ?_⟩, ?_⟩
  · refine all_range_of_allIdx hp (Nat.le_refl _) fun p hp h => ?_
    simpa [NGrammar.head, NGrammar.body, hp] using h
  · refine all_range_of_allIdx_zip hA (by omega) (by omega) fun s hs hs' h => ?_
    simp only [hs', getElem?_pos, Option.getD_some]
    refine all_range_of_allIdx h (Nat.le_refl _) fun t ht h => ?_
    simp only [ht, getElem?_pos, Option.join_some]
    generalize T.action[s][t] = a at h
    rcases a with _ | _ | _ | _
    · rfl
    all_goals simpa only [← edgeOkL_eq, Cert.has, hs, getElem?_pos, Option.getD_some] using h
  · refine all_range_of_allIdx_zip hG (by omega) (by omega) fun s hs hs' h => ?_
    simp only [hs', getElem?_pos, Option.getD_some]
    refine all_range_of_allIdx h (Nat.le_refl _) fun A hA h => ?_
    simpa only [hA, getElem?_pos, ← edgeOkL_eq, hs, Option.getD_some] using h

def safeEndsL (T : PTables) (c : Cert) : Bool :=
  allIdx (fun s is => s == 0 || !is.contains (0, 0)) c.toList &&
  allIdx (fun _ row => allIdx (fun t a =>
      match a with
      | some (.shift s') => t != 1 && s' != 0
      | _ => true) row.toList) T.action.toList &&
  allIdx (fun _ row => allIdx (fun _ g => g != 0) row.toList) T.goto_.toList

theorem safeEnds_of_safeEndsL {T : PTables} {c : Cert} (h : safeEndsL T c = true) :
    safeEnds T c = true := by
  simp only [safeEndsL, Bool.and_eq_true] at h
  simp only [safeEnds, Bool.and_eq_true]
  refine ⟨⟨?_, ?_⟩, ?_⟩
  · refine all_range_of_allIdx h.1.1 (Nat.le_refl _) fun s hs h => ?_
    simpa only [Cert.has, hs, getElem?_pos, Option.getD_some] using h
  · refine all_range_of_allIdx h.1.2 (Nat.le_refl _) fun s hs h => ?_
    simp only [hs, getElem?_pos, Option.getD_some]
    refine all_range_of_allIdx h (Nat.le_refl _) fun t ht h => ?_
    simp only [ht, getElem?_pos, Option.join_some]
    generalize T.action[s][t] = a at h
    rcases a with _ | _ | _ | _ <;> exact h
  · refine all_range_of_allIdx h.2 (Nat.le_refl _) fun s hs h => ?_
    simp only [hs, getElem?_pos, Option.getD_some]
    refine all_range_of_allIdx h (Nat.le_refl _) fun A hA h => ?_
    simpa only [hA, getElem?_pos, bne_iff_ne, ne_eq, Option.some.injEq] using h

end Gocc
