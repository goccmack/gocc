import Gocc.Spec.Range
/-
`classesOf` yields a well-formed partition that refines every range added (`classesOf_inv`).  `WF` and `cover`
are kept by `addRange` case by case (`addRange_cons_cases`); `Refines` is not (a later `addRange` may split a
class), so the induction carries `Ends` instead.
-/
namespace Gocc

theorem WF_mono {b b' : Int} {l : List CR} (h : WF b l) (hb : b' ≤ b) : WF b' l := by
  cases l with
  | nil => trivial
  | cons r rest => exact ⟨by have := h.1; omega, h.2.1, h.2.2⟩

theorem WF_mem {b : Int} {l : List CR} (h : WF b l) : ∀ c ∈ l, b < c.lo ∧ c.lo ≤ c.hi := by
  induction l generalizing b with
  | nil => intro c hc; cases hc
  | cons r rest ih =>
    intro c hc
    obtain ⟨h1, h2, h3⟩ := h
    rcases List.mem_cons.mp hc with rfl | hc
    · exact ⟨h1, h2⟩
    · have := ih h3 c hc; exact ⟨by omega, this.2⟩

theorem cover_iff_mem (l : List CR) (x : Int) : cover l x ↔ ∃ c ∈ l, c.lo ≤ x ∧ x ≤ c.hi := by
  induction l with
  | nil => simp [cover]
  | cons r rest ih => simp [cover, ih]

theorem WF_unique {b : Int} {l : List CR} (h : WF b l) {c d : CR} (hc : c ∈ l) (hd : d ∈ l)
    {x : Int} (hxc : c.lo ≤ x ∧ x ≤ c.hi) (hxd : d.lo ≤ x ∧ x ≤ d.hi) : c = d := by
  induction l generalizing b with
  | nil => cases hc
  | cons r rest ih =>
    obtain ⟨_, _, h3⟩ := h
    rcases List.mem_cons.mp hc with hc1 | hc1 <;> rcases List.mem_cons.mp hd with hd1 | hd1
    · rw [hc1, hd1]
    · have := WF_mem h3 d hd1; rw [hc1] at hxc; omega
    · have := WF_mem h3 c hc1; rw [hd1] at hxd; omega
    · exact ih h3 hc1 hd1

theorem addRange_empty (l : List CR) (f t : Int) (h : ¬ f ≤ t) : addRange l f t = l := by
  cases l <;> simp only [addRange, h, not_false_eq_true, if_true, if_false]

theorem addRange_nil {f t : Int} (h : f ≤ t) : addRange [] f t = [⟨f, t⟩] := by
  simp only [addRange, h, if_true]

/-- The cases of `addRange` on a non-empty list and a non-empty interval, numbered as in the
    model; cases with equal results are merged, and the call on the tail is dropped where `t`
    ends inside `r`. -/
theorem addRange_cons_cases {P : List CR → Prop} {r : CR} {rest : List CR} {f t : Int}
    (hft : f ≤ t)
    (c1 : f < r.lo → t < r.lo → P (⟨f, t⟩ :: r :: addRange rest (r.hi + 1) t))
    (c2 : f < r.lo → r.lo ≤ t → t < r.hi → P (⟨f, r.lo - 1⟩ :: ⟨r.lo, t⟩ :: ⟨t + 1, r.hi⟩ :: rest))
    (c34 : f < r.lo → r.lo ≤ t → r.hi ≤ t → P (⟨f, r.lo - 1⟩ :: r :: addRange rest (r.hi + 1) t))
    (c5 : f = r.lo → t < r.hi → P (⟨r.lo, t⟩ :: ⟨t + 1, r.hi⟩ :: rest))
    (c67 : f = r.lo → r.hi ≤ t → P (r :: addRange rest (r.hi + 1) t))
    (c8 : r.hi < f → P (r :: addRange rest f t))
    (c9 : r.lo < f → t < r.hi → P (⟨r.lo, f - 1⟩ :: ⟨f, t⟩ :: ⟨t + 1, r.hi⟩ :: rest))
    (c1011 : r.lo < f → f ≤ r.hi → r.hi ≤ t →
      P (⟨r.lo, f - 1⟩ :: ⟨f, r.hi⟩ :: addRange rest (r.hi + 1) t)) :
    P (addRange (r :: rest) f t) := by
  have done : t < r.hi → addRange rest (r.hi + 1) t = rest :=
    fun h => addRange_empty _ _ _ (by omega)
  rw [addRange, if_neg (fun h => h hft)]
  -- `omega` splits on implications between inequalities, and `c1` … `c1011` are such: every side
  -- goal below follows from the inequalities alone, without a case split (hence the trichotomy)
  rcases Int.lt_trichotomy f r.lo with h1 | h5 | h9
  · rw [if_pos h1]
    by_cases h2 : t < r.lo
    · rw [if_pos h2]; exact c1 h1 h2
    by_cases h3 : t < r.hi
    · rw [if_neg h2, if_pos h3, done h3]; exact c2 h1 (by omega) h3
    · rw [if_neg h2, if_neg h3, ite_self]; exact c34 h1 (by omega) (by omega)
  · rw [if_neg (by omega : ¬ f < r.lo), if_pos h5]
    by_cases h3 : t < r.hi
    · rw [if_pos h3, done h3]; exact c5 h5 h3
    · rw [if_neg h3]; exact c67 h5 (by omega)
  rw [if_neg (by omega : ¬ f < r.lo), if_neg (by omega : ¬ f = r.lo)]
  by_cases h8 : f > r.hi
  · rw [if_pos h8]; exact c8 h8
  rw [if_neg h8]
  by_cases h3 : t < r.hi
  · rw [if_pos h3, done h3]; exact c9 h9 h3
  rw [if_neg h3]
  by_cases h10 : t = r.hi
  · rw [if_pos h10]; subst h10; exact c1011 h9 hft (Int.le_refl _)
  · rw [if_neg h10]; exact c1011 h9 (by omega) (by omega)

theorem addRange_WF {b : Int} {l : List CR} {f : Int} (t : Int) (h : WF b l) (hb : b < f) :
    WF b (addRange l f t) := by
  induction l generalizing b f with
  | nil =>
    by_cases hft : f ≤ t
    · rw [addRange_nil hft]; exact ⟨hb, hft, trivial⟩
    · rwa [addRange_empty _ _ _ hft]
  | cons r rest ih =>
    by_cases hft : f ≤ t
    case neg => rwa [addRange_empty _ _ _ hft]
    obtain ⟨h1, h2, h3⟩ := h
    have hT : WF r.hi (addRange rest (r.hi + 1) t) := ih h3 (by omega)
    apply addRange_cons_cases (P := WF b) hft
    case c8 => exact fun g => ⟨h1, h2, ih h3 g⟩
    all_goals intros; simp only [WF, hT, h3, and_true]; omega

theorem addRange_cover {b : Int} {l : List CR} (f t x : Int) (h : WF b l) :
    cover (addRange l f t) x ↔ cover l x ∨ (f ≤ x ∧ x ≤ t) := by
  induction l generalizing b f with
  | nil =>
    by_cases hft : f ≤ t
    · rw [addRange_nil hft]; simp only [cover, false_or, or_false]
    · rw [addRange_empty _ _ _ hft]; simp only [cover, false_or, false_iff]; omega
  | cons r rest ih =>
    by_cases hft : f ≤ t
    case neg => rw [addRange_empty _ _ _ hft, iff_self_or]; omega
    obtain ⟨h1, h2, h3⟩ := h
    -- up to `cover rest x` on both sides, each case compares two unions of intervals
    by_cases hc : cover rest x <;>
      apply addRange_cons_cases (P := fun l' => cover l' x ↔ _) hft <;> intros <;>
      simp only [cover, ih _ h3, hc, true_or, or_true, false_or, or_false] <;> omega

/-- In a well-formed `l` this makes `c` a union of classes (`Ends.refines`), and unlike
    `Refines` it is kept by `addRange` whatever is added (`addRange_keeps`). -/
def Ends (l : List CR) (c : CR) : Prop :=
  (∃ d ∈ l, d.lo = c.lo) ∧ (∃ d ∈ l, d.hi = c.hi)

theorem Ends.self {l : List CR} {c : CR} (h : c ∈ l) : Ends l c :=
  ⟨⟨c, h, rfl⟩, ⟨c, h, rfl⟩⟩

theorem Ends.mono {l l' : List CR} {c : CR} (h : Ends l c) (hs : l ⊆ l') : Ends l' c :=
  ⟨h.1.imp fun _ hd => ⟨hs hd.1, hd.2⟩, h.2.imp fun _ hd => ⟨hs hd.1, hd.2⟩⟩

theorem Ends.refines {b : Int} {l : List CR} {c : CR} (h : WF b l) (he : Ends l c) :
    Refines l c.lo c.hi := by
  obtain ⟨⟨d, hd, hlo⟩, ⟨e, he, hhi⟩⟩ := he
  intro k hk
  have hd' := WF_mem h d hd
  have he' := WF_mem h e he
  -- a class that contains an end of `c` is the class that has this end
  have h1 : k.lo ≤ c.lo → c.lo ≤ k.hi → k.lo = c.lo := fun h1 h2 =>
    WF_unique h hk hd ⟨h1, h2⟩ ⟨by omega, by omega⟩ ▸ hlo
  have h2 : k.lo ≤ c.hi → c.hi ≤ k.hi → k.hi = c.hi := fun h1 h2 =>
    WF_unique h hk he ⟨h1, h2⟩ ⟨by omega, by omega⟩ ▸ hhi
  omega

theorem Ends.of_refines {l : List CR} {c : CR} (hc : c.lo ≤ c.hi) (hlo : cover l c.lo)
    (hhi : cover l c.hi) (h : Refines l c.lo c.hi) : Ends l c := by
  obtain ⟨d, hd, hd'⟩ := (cover_iff_mem ..).1 hlo
  obtain ⟨e, he, he'⟩ := (cover_iff_mem ..).1 hhi
  exact ⟨⟨d, hd, by have := h d hd; omega⟩, ⟨e, he, by have := h e he; omega⟩⟩

theorem Ends.cons_append {r : CR} {rest T : List CR} (pre : List CR) (hr : Ends pre r)
    (hT : ∀ c ∈ rest, Ends T c) : ∀ c ∈ r :: rest, Ends (pre ++ T) c := by
  intro c hc
  rcases List.mem_cons.1 hc with rfl | hc
  · exact hr.mono (List.subset_append_left ..)
  · exact (hT c hc).mono (List.subset_append_right ..)

/-- `addRange` only cuts classes and adds classes: the ends of a class stay ends of classes. -/
theorem addRange_keeps_mem (l : List CR) (f t : Int) : ∀ c ∈ l, Ends (addRange l f t) c := by
  induction l generalizing f with
  | nil => intro c hc; cases hc
  | cons r rest ih =>
    by_cases hft : f ≤ t
    case neg => rw [addRange_empty _ _ _ hft]; exact fun _ => .self
    apply addRange_cons_cases (P := fun l' => ∀ c ∈ r :: rest, Ends l' c) hft
    case c1 => exact fun _ _ => Ends.cons_append [_, r] (.self (.tail _ (.head _))) (ih _)
    case c2 =>
      exact fun _ _ _ => Ends.cons_append [_, ⟨r.lo, t⟩, ⟨t + 1, r.hi⟩]
        ⟨⟨_, .tail _ (.head _), rfl⟩, ⟨_, .tail _ (.tail _ (.head _)), rfl⟩⟩ fun _ => .self
    case c34 => exact fun _ _ _ => Ends.cons_append [_, r] (.self (.tail _ (.head _))) (ih _)
    case c5 =>
      exact fun _ _ => Ends.cons_append [⟨r.lo, t⟩, ⟨t + 1, r.hi⟩]
        ⟨⟨_, .head _, rfl⟩, ⟨_, .tail _ (.head _), rfl⟩⟩ fun _ => .self
    case c67 => exact fun _ _ => Ends.cons_append [r] (.self (.head _)) (ih _)
    case c8 => exact fun _ => Ends.cons_append [r] (.self (.head _)) (ih _)
    case c9 =>
      exact fun _ _ => Ends.cons_append [⟨r.lo, f - 1⟩, _, ⟨t + 1, r.hi⟩]
        ⟨⟨_, .head _, rfl⟩, ⟨_, .tail _ (.tail _ (.head _)), rfl⟩⟩ fun _ => .self
    case c1011 =>
      exact fun _ _ _ => Ends.cons_append [⟨r.lo, f - 1⟩, ⟨f, r.hi⟩]
        ⟨⟨_, .head _, rfl⟩, ⟨_, .tail _ (.head _), rfl⟩⟩ (ih _)

theorem addRange_keeps {l : List CR} {c : CR} (f t : Int) (h : Ends l c) :
    Ends (addRange l f t) c := by
  obtain ⟨⟨d, hd, hlo⟩, ⟨e, he, hhi⟩⟩ := h
  exact ⟨hlo ▸ (addRange_keeps_mem l f t d hd).1, hhi ▸ (addRange_keeps_mem l f t e he).2⟩

theorem addRange_ends (l : List CR) {f t : Int} (hft : f ≤ t) : Ends (addRange l f t) ⟨f, t⟩ := by
  induction l generalizing f with
  | nil => rw [addRange_nil hft]; exact .self (.head _)
  | cons r rest ih =>
    -- where `r.hi ≤ t`, the class ending at `t` is the last of `pre` or comes from the tail
    have hi : r.hi ≤ t → ∀ pre : List CR, (∃ d ∈ pre, d.hi = r.hi) →
        ∃ d ∈ pre ++ addRange rest (r.hi + 1) t, d.hi = t := by
      intro g pre ⟨d, hd, e⟩
      rcases Int.lt_or_eq_of_le g with g | g
      · obtain ⟨d', hd', e'⟩ := (ih (f := r.hi + 1) (by omega)).2
        exact ⟨d', List.mem_append_right _ hd', e'⟩
      · exact ⟨d, List.mem_append_left _ hd, e.trans g⟩
    apply addRange_cons_cases (P := fun l' => Ends l' ⟨f, t⟩) hft
    case c1 => exact fun _ _ => .self (.head _)
    case c2 => exact fun _ _ _ => ⟨⟨_, .head _, rfl⟩, ⟨_, .tail _ (.head _), rfl⟩⟩
    case c34 => exact fun _ _ g => ⟨⟨_, .head _, rfl⟩, hi g [_, r] ⟨r, .tail _ (.head _), rfl⟩⟩
    case c5 => exact fun g _ => ⟨⟨_, .head _, g.symm⟩, ⟨_, .head _, rfl⟩⟩
    case c67 => exact fun g g' => ⟨⟨r, .head _, g.symm⟩, hi g' [r] ⟨r, .head _, rfl⟩⟩
    case c8 => exact fun _ => (ih hft).mono (List.subset_cons_self ..)
    case c9 => exact fun _ _ => .self (.tail _ (.head _))
    case c1011 =>
      exact fun _ _ g =>
        ⟨⟨_, .tail _ (.head _), rfl⟩, hi g [_, ⟨f, r.hi⟩] ⟨_, .tail _ (.head _), rfl⟩⟩

theorem addRange_refines_new {b : Int} {l : List CR} {f t : Int} (h : WF b l) (hb : b < f)
    (hft : f ≤ t) : Refines (addRange l f t) f t :=
  (addRange_ends l hft).refines (addRange_WF t h hb)

theorem addRange_refines_old {b : Int} {l : List CR} {f : Int} (t : Int) {c : CR} (h : WF b l)
    (hb : b < f) (hc : c.lo ≤ c.hi) (hcov : ∀ x, c.lo ≤ x → x ≤ c.hi → cover l x)
    (href : Refines l c.lo c.hi) : Refines (addRange l f t) c.lo c.hi :=
  (addRange_keeps f t (.of_refines hc (hcov _ (Int.le_refl _) hc) (hcov _ hc (Int.le_refl _))
    href)).refines (addRange_WF t h hb)

/-- Invariant of the `getSymbolClasses` fold: `l` is the class list after adding `seen`. -/
structure ClassInv (l seen : List CR) : Prop where
  wf : ∃ b, WF b l
  cov : ∀ x, cover l x ↔ ∃ r ∈ seen, r.lo ≤ x ∧ x ≤ r.hi
  ref : ∀ r ∈ seen, r.lo ≤ r.hi → Refines l r.lo r.hi

theorem ClassInv.nil : ClassInv [] [] :=
  ⟨⟨0, trivial⟩, fun x => by simp [cover], fun _ h => nomatch h⟩

theorem ClassInv.step {l seen : List CR} (h : ClassInv l seen) (r : CR) :
    ClassInv (addRange l r.lo r.hi) (seen ++ [r]) := by
  obtain ⟨⟨b, hwf⟩, hcov, href⟩ := h
  -- lower the bound below the new range
  have hwf' : WF (min b (r.lo - 1)) l := WF_mono hwf (by omega)
  have hb : min b (r.lo - 1) < r.lo := by omega
  refine ⟨⟨_, addRange_WF _ hwf' hb⟩, fun x => ?_, fun q hq hqle => ?_⟩
  · simp only [addRange_cover _ _ x hwf', hcov x, List.mem_append, List.mem_singleton,
      or_and_right, exists_or, exists_eq_left]
  · rcases List.mem_append.1 hq with hq | hq
    · exact addRange_refines_old _ hwf' hb hqle
        (fun x h1 h2 => (hcov x).2 ⟨q, hq, h1, h2⟩) (href q hq hqle)
    · rw [List.mem_singleton.1 hq] at hqle ⊢
      exact addRange_refines_new hwf' hb hqle

theorem foldl_ClassInv (rs : List CR) {l seen : List CR} (h : ClassInv l seen) :
    ClassInv (rs.foldl (fun l r => addRange l r.lo r.hi) l) (seen ++ rs) := by
  induction rs generalizing l seen with
  | nil => rwa [List.append_nil]
  | cons r rs ih => rw [List.append_cons]; exact ih (h.step r)

theorem classesOf_inv (rs : List CR) : ClassInv (classesOf rs) rs :=
  foldl_ClassInv rs ClassInv.nil

theorem matchLit_eq_matchRange {c : CR} (h : c.lo ≤ c.hi) (v : Int) :
    matchLit v c = matchRange v v c := by
  rw [Bool.eq_iff_iff]
  simp only [matchLit, matchRange, Bool.and_eq_true, decide_eq_true_eq]
  omega

end Gocc
