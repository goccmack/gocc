import Gocc.Model.LexGen
import Gocc.Proofs.WorkList
/-
Lexer ε-closure `emoves` (`Item.Emoves()`): the depth-first work list `WorkList.dfs` on items.
`emoves` is sound for any fuel, and complete relative to a finite universe `U` of items closed under
`emoveStep` (for non-basic items) with out-degree at most `D`: fuel `1 + |U| * (D + 1)` suffices.
The universe for an arbitrary pattern is built in `Proofs/EmovesUniverse.lean`.
-/
namespace Gocc
open WorkList

theorem litem_beq (a b : LItem) : (a == b) = (a.prod == b.prod && a.path == b.path) := by
  cases a; cases b; rfl

instance : LawfulBEq LItem where
  eq_of_beq := by
    intro a b h
    rw [litem_beq] at h
    cases a; cases b
    simpa using h
  rfl := by
    intro a; rw [litem_beq]; simp

/-- reachability by `emoveStep` through non-basic items (basic items are not expanded) -/
inductive EReach (C : LexCtx) (s : LItem) : LItem → Prop
  | refl : EReach C s s
  | step {x y : LItem} : EReach C s x → C.isBasic x = false → y ∈ emoveStep C x → EReach C s y

structure EUniv (C : LexCtx) (U : List LItem) (D : Nat) : Prop where
  closed : ∀ x ∈ U, C.isBasic x = false → ∀ y ∈ emoveStep C x, y ∈ U
  deg : ∀ x ∈ U, C.isBasic x = false → (emoveStep C x).length ≤ D

instance (C : LexCtx) (U : List LItem) (D : Nat) : Decidable (EUniv C U D) :=
  decidable_of_iff
    ((∀ x ∈ U, C.isBasic x = false → ∀ y ∈ emoveStep C x, y ∈ U) ∧
     (∀ x ∈ U, C.isBasic x = false → (emoveStep C x).length ≤ D))
    ⟨fun ⟨a, b⟩ => ⟨a, b⟩, fun h => ⟨h.closed, h.deg⟩⟩

theorem emovesLoop_eq_dfs (C : LexCtx) : ∀ (fuel : Nat) (work visited out : List LItem),
    emovesLoop C fuel work visited out =
      dfs C.isBasic (fun i => (emoveStep C i).reverse) fuel work visited out := by
  intro fuel
  induction fuel with
  | zero => intro work visited out; rfl
  | succ fuel ih =>
    intro work visited out
    cases work with
    | nil => rfl
    | cons i work => simp only [emovesLoop, dfs, ih]

theorem emoves_complete_of_universe {C : LexCtx} {i : LItem} {U : List LItem} {D : Nat}
    (hU : EUniv C U D) (hi : i ∈ U)
    (hfuel : 1 + U.length * (D + 1) ≤ (C.fuel + 2) * (C.fuel + 2)) :
    ∀ y, EReach C i y → C.isBasic y = true → y ∈ emoves C i := by
  unfold emoves
  rw [emovesLoop_eq_dfs]
  obtain ⟨V, v1, _, v3, v4⟩ := dfs_complete (next := fun i => (emoveStep C i).reverse)
    (fun x hx hb y hy => hU.closed x hx hb y (List.mem_reverse.1 hy))
    (fun x hx hb => by rw [List.length_reverse]; exact hU.deg x hx hb)
    ((C.fuel + 2) * (C.fuel + 2)) [i] [] []
    ⟨.nil, nofun, by simpa using hi, nofun, nofun⟩ (by simpa using hfuel)
  intro y hy
  have hV : y ∈ V := by
    induction hy with
    | refl => exact v1 i (List.mem_cons_self ..)
    | step _ hnb hstep ih => exact v3 _ ih hnb _ (List.mem_reverse.2 hstep)
  exact v4 y hV

theorem emoves_sound (C : LexCtx) (i : LItem) :
    ∀ y ∈ emoves C i, EReach C i y ∧ C.isBasic y = true := by
  unfold emoves
  rw [emovesLoop_eq_dfs]
  exact dfs_sound (R := EReach C i) (fun x hx hb y hy => hx.step hb (List.mem_reverse.1 hy))
    _ [i] [] [] (by simp [EReach.refl]) nofun

end Gocc
