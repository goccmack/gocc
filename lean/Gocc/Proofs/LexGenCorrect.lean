import Gocc.Proofs.LexGenCorrectAct
import Gocc.Proofs.LexGenCorrectLoop
import Gocc.Proofs.LexGenCorrectRef
/-
C01 at generator level: the bisimulation between the generated automaton and the reference
automaton, for lexical parts without references to regular definitions.

Relation: `GRel states d m q` — state `m` of the generator and state `q` of the reference exist
and the item list of `m` and the position list of `q` are the same set under `i ↦ [i]`.
-/
namespace Gocc
namespace LexGenC

def GRel (states : Array LState) (d : RefDfa) (m q : Nat) : Prop :=
  ∃ (st : LState) (S : List XPos), states[m]? = some st ∧ d.states[q]? = some S ∧ SetRel st.items S

theorem step_cases {C : LexCtx} {st : LState} (hok : StOK C st) (r : Int) :
    (∃ (k : Nat) (c : CR) (t : Int), st.classes[k]? = some c ∧ st.trans[k]? = some t ∧
        c.lo ≤ r ∧ r ≤ c.hi ∧ st.step r = t) ∨
    ((∀ c ∈ st.classes, ¬ (c.lo ≤ r ∧ r ≤ c.hi)) ∧
        st.step r = if st.matchAny then st.dotTrans else -1) := by
  unfold LState.step
  cases hf : (st.classes.zip st.trans).find?
      (fun p => decide (p.1.lo ≤ r) && decide (r ≤ p.1.hi)) with
  | some pr =>
    left
    have hp := List.find?_some hf
    have hm := List.mem_of_find?_eq_some hf
    obtain ⟨k, hk⟩ := List.mem_iff_getElem?.1 hm
    obtain ⟨h1, h2⟩ := List.getElem?_zip_eq_some.1 hk
    simp only [Bool.and_eq_true, decide_eq_true_eq] at hp
    exact ⟨k, pr.1, pr.2, h1, h2, hp.1, hp.2, rfl⟩
  | none =>
    right
    refine ⟨?_, rfl⟩
    intro c hc hr
    obtain ⟨k, hk⟩ := List.mem_iff_getElem?.1 hc
    have hlt : k < st.classes.length := (List.getElem?_eq_some_iff.1 hk).1
    have hlt' : k < st.trans.length := by rw [hok.tlen]; exact hlt
    have hz : (st.classes.zip st.trans)[k]? = some (c, st.trans[k]) :=
      List.getElem?_zip_eq_some.2 ⟨hk, List.getElem?_eq_getElem hlt'⟩
    have := List.find?_eq_none.1 hf _ (List.mem_of_getElem? hz)
    simp only [Bool.and_eq_true, decide_eq_true_eq] at this
    exact this hr

theorem trans_agree {prods : List LProd} {states : Array LState}
    (hn : noRefs prods = true)
    (gs : GenSpec { prods := prods.toArray } states)
    (rs : RefSpec { prods := prods.toArray } (refDfa prods) (elemStarts prods))
    {m q : Nat} {st : LState} {S : List XPos} (hm : states[m]? = some st)
    (hq : (refDfa prods).states[q]? = some S) (hrel : SetRel st.items S) {r : Int} (hr : IsRune r) :
    ∃ (N : List LItem) (X : List XPos), Target states (st.step r) N ∧
      RTarget (refDfa prods).states ((refDfa prods).step q r) X ∧ SetRel N X := by
  have hC := noRefC_of_noRefs hn
  have hok := gs.ok m st hm
  have hexp := gs.expanded m st hm
  have hgS := rs.good q S hq
  have hlen := hgS.length_le
  obtain ⟨row, hrow, hrowok⟩ := rs.rows q S hq
  obtain ⟨c0, hc0⟩ := exists_elemRep (elemStarts_ok prods) hr.1
  have hidx : (elemStarts prods)[elemIndex (elemStarts prods) r]? = some c0 :=
    elemRep_getElem? (elemStarts_pairwise prods) hc0
  have hR : RTarget (refDfa prods).states ((refDfa prods).step q r)
      (xStep { prods := prods.toArray } S r) := by
    unfold RefDfa.step
    rw [hrow, rs.sts]
    dsimp only
    rw [xStep_uniform hc0 hr S]
    exact hrowok _ c0 hidx
  rcases step_cases hok r with ⟨k, c, t, hk, ht, hlo, hhi, hstep⟩ | ⟨hno, hstep⟩
  · refine ⟨moveSet { prods := prods.toArray } st.items c, _, ?_, hR, ?_⟩
    · rw [hstep]
      have := hexp.1 k c hk
      rw [ht] at this
      exact this
    · refine step_class hC hrel hlen ?_ hlo hhi
      rw [← hok.classes]; exact List.mem_of_getElem? hk
  · refine ⟨dotSet { prods := prods.toArray } st.items, _, ?_, hR, ?_⟩
    · rw [hstep]
      cases hany : st.matchAny with
      | true => exact hexp.2
      | false =>
        simp only [Bool.false_eq_true, if_false]
        -- no item expects `.`
        have hnil : dotSet { prods := prods.toArray } st.items = [] :=
          List.eq_nil_iff_forall_not_mem.2 fun y hy =>
            let ⟨i, hi, he, _⟩ := mem_dotSet.1 hy
            Bool.false_ne_true
              ((hany.symm.trans hok.any).trans ((symbolClasses_snd _ st.items).2 ⟨i, hi, he⟩))
        rw [hnil]
        exact WorkList.TargetOf.nil _
    · refine step_dot hC hrel hlen ?_
      rw [← hok.classes]; exact hno

theorem target_agree {states : Array LState} {d : RefDfa} {t t' : Int} {N : List LItem}
    {X : List XPos} (hT : Target states t N) (hR : RTarget d.states t' X) (hNX : SetRel N X) :
    (t = -1 ↔ t' = -1) ∧ (t ≠ -1 → GRel states d t.toNat t'.toNat) := by
  by_cases hNe : N = []
  · have ht := hT.1 hNe
    exact ⟨⟨fun _ => hR.1 (hNX.nil_iff.1 hNe), fun _ => ht⟩, fun h => absurd ht h⟩
  · obtain ⟨j, stj, hsj, rfl, hsame⟩ := hT.2 hNe
    obtain ⟨j', S', hsj', rfl, hsameX⟩ := hR.2 fun hx => hNe (hNX.nil_iff.2 hx)
    refine ⟨⟨fun h => by omega, fun h => by omega⟩, fun _ => ⟨stj, S', hsj, hsj', fun x => ?_⟩⟩
    rw [hsameX x, hNX x]
    exact ⟨fun ⟨i, hi, e⟩ => ⟨i, (hsame i).2 hi, e⟩, fun ⟨i, hi, e⟩ => ⟨i, (hsame i).1 hi, e⟩⟩

theorem trans_rel {prods : List LProd} {states : Array LState} (hn : noRefs prods = true)
    (gs : GenSpec { prods := prods.toArray } states)
    (rs : RefSpec { prods := prods.toArray } (refDfa prods) (elemStarts prods))
    (acts : Array (Int × Bool)) {a b : Nat} {r : Int} (hr : IsRune r)
    (hab : GRel states (refDfa prods) a b) :
    ((MDfa.tables ⟨states, acts⟩).trans a r = -1 ↔ (refDfa prods).step b r = -1) ∧
    ((MDfa.tables ⟨states, acts⟩).trans a r ≠ -1 → GRel states (refDfa prods)
      ((MDfa.tables ⟨states, acts⟩).trans a r).toNat ((refDfa prods).step b r).toNat) := by
  obtain ⟨st, S, ha, hb, hrel⟩ := hab
  obtain ⟨N, X, hT, hRT, hNX⟩ := trans_agree hn gs rs ha hb hrel hr
  simp only [MDfa.tables, ha]
  exact target_agree hT hRT hNX

theorem genLexer_bisimOn {prods : List LProd} {states : Array LState}
    (h : genLexer prods = .ok states) (hn : noRefs prods = true) (hsz : states.size ≤ 100000)
    (hrs : (refDfa prods).states.size ≤ 20000) (f : LAct → Int × Bool) :
    BisimOn IsRune
      (MDfa.tables {
        states := states,
        acts := states.map fun s => f (lexAction { prods := prods.toArray } s.items) })
      (RDfa.tables {
        dfa := refDfa prods,
        acts := (refDfa prods).states.map fun S => f (xVerdict { prods := prods.toArray } S) })
      (GRel states (refDfa prods)) := by
  have gs := genLexer_spec h hn hsz
  have rs := refDfa_spec hn hrs
  refine ⟨?_, ?_, fun a b r hr hab => (trans_rel hn gs rs _ hr hab).1,
    fun a b r hr hab => (trans_rel hn gs rs _ hr hab).2⟩
  · obtain ⟨st0, h0, hi0⟩ := gs.zero
    exact ⟨st0, _, h0, rs.zero, by rw [hi0]; exact start_rel (noRefC_of_noRefs hn)⟩
  · rintro a b ⟨st, S, ha, hb, hrel⟩
    have hact := act_agree hrel (gs.ok a st ha).sorted (rs.good b S hb)
    simp only [MDfa.tables, RDfa.tables, Array.getElem?_map, ha, hb, Option.map_some, hact,
      Option.getD_some]
    exact ⟨trivial, trivial⟩

end LexGenC
end Gocc
