import Gocc.Proofs.ListAux
/-
The symbol table and the token numbering (C10).

`symbols.NewSymbols` + `Add` build `typeMap` (the id ↔ name table) with `addNoDup`; the token
map of the generated `token` package is `ListTerminals()`, i.e. `typeMap` filtered by
`isTerminal`.  The generated `token.TokMap` has `Id(type) string` (index into the `typeMap`
slice, `"unknown"` out of range) and `Type(name) Type` (lookup in the `idMap` built from the
same slice, Go map miss = 0 = INVALID); they are modelled by `tokId` / `tokType`.
-/
namespace Gocc

/-- `TokenMap.Id` -/
def tokId (terms : List String) (i : Nat) : String := terms[i]?.getD "unknown"

/-- `TokenMap.Type` -/
def tokType (terms : List String) (s : String) : Nat := (terms.idxOf? s).getD 0

def NumInv (tm : List String) : Prop := tm.Nodup ∧ ["INVALID", "␚"] <+: tm

theorem NumInv_foldl_addNoDup (ids tm : List String) (h : NumInv tm) :
    NumInv (ids.foldl addNoDup tm) :=
  ⟨(foldl_addNoDup_spec ids tm).1 h.1, h.2.trans (foldl_addNoDup_spec ids tm).2.1⟩

theorem NumInv_get {tm : List String} (h : NumInv tm) :
    tm.Nodup ∧ tm[0]? = some "INVALID" ∧ tm[1]? = some "␚" := by
  obtain ⟨h1, t, rfl⟩ := h
  exact ⟨h1, by simp, by simp⟩

theorem symAddSym_ok {s s' : PSymbols} {sym : SSym} (h : symAddSym s sym = .ok s') :
    s'.ntList = s.ntList ∧ s'.typeMap = addNoDup s.typeMap sym.name := by
  unfold symAddSym at h
  simp only at h
  split at h
  · split at h
    · cases h
    · cases h; exact ⟨rfl, rfl⟩
  · cases h; exact ⟨rfl, rfl⟩

theorem symAddProd_ok {s s' : PSymbols} {p : SProd} (h : symAddProd s p = .ok s') :
    s'.ntList = addNoDup s.ntList p.head ∧
    s'.typeMap = (p.head :: p.body.map (·.name)).foldl addNoDup s.typeMap := by
  unfold symAddProd at h
  constructor
  · rw [foldlM_ok_proj (g := (·.ntList)) (k := fun nt _ => nt) (fun _ _ _ h => (symAddSym_ok h).1) h]
    exact List.rec rfl (fun _ _ ih => ih) p.body
  · rw [foldlM_ok_proj (g := (·.typeMap)) (k := fun tm sym => addNoDup tm sym.name)
      (fun _ _ _ h => (symAddSym_ok h).2) h, List.foldl_cons, List.foldl_map]

theorem newSymbols_ok {prods : List SProd} {S : PSymbols} (h : newSymbols prods = .ok S) :
    S.ntList = (prods.map (·.head)).foldl addNoDup [] ∧
    S.typeMap = (prods.flatMap fun p => p.head :: p.body.map (·.name)).foldl addNoDup
      ["INVALID", "␚"] := by
  unfold newSymbols at h
  constructor
  · rw [foldlM_ok_proj (g := (·.ntList)) (k := fun nt p => addNoDup nt p.head)
      (fun _ _ _ h => (symAddProd_ok h).1) h, List.foldl_map]
  · rw [foldlM_ok_proj (g := (·.typeMap))
      (k := fun tm p => (p.head :: p.body.map (·.name)).foldl addNoDup tm)
      (fun _ _ _ h => (symAddProd_ok h).2) h, List.foldl_flatMap]

theorem newSymbols_ntList_nodup {prods : List SProd} {S : PSymbols}
    (h : newSymbols prods = .ok S) : S.ntList.Nodup := by
  rw [(newSymbols_ok h).1]; exact (foldl_addNoDup_spec _ []).1 List.nodup_nil

theorem mem_newSymbols_ntList {prods : List SProd} {S : PSymbols}
    (h : newSymbols prods = .ok S) {x : String} : x ∈ S.ntList ↔ ∃ p ∈ prods, p.head = x := by
  rw [(newSymbols_ok h).1, foldl_addNoDup_mem_iff, List.mem_map]
  simp only [List.not_mem_nil, false_or]

theorem mem_newSymbols_typeMap {prods : List SProd} {S : PSymbols}
    (h : newSymbols prods = .ok S) {x : String} :
    x ∈ S.typeMap ↔ x = "INVALID" ∨ x = "␚" ∨
      ∃ p ∈ prods, x = p.head ∨ ∃ s ∈ p.body, s.name = x := by
  rw [(newSymbols_ok h).2, foldl_addNoDup_mem_iff]
  simp only [List.mem_cons, List.not_mem_nil, or_false, List.mem_flatMap, List.mem_map, or_assoc]

theorem newSymbols_inv {prods : List SProd} {S : PSymbols} (h : newSymbols prods = .ok S) :
    NumInv S.typeMap := by
  rw [(newSymbols_ok h).2]
  exact NumInv_foldl_addNoDup _ _ ⟨by decide, List.prefix_refl _⟩

theorem addTokens_inv {S : PSymbols} (ids : List String) (h : NumInv S.typeMap) :
    NumInv (S.addTokens ids).typeMap :=
  NumInv_foldl_addNoDup ids _ h

theorem terminals_numbering (S : PSymbols) (h : NumInv S.typeMap)
    (h0 : S.isTerminal "INVALID" = true) (h1 : S.isTerminal "␚" = true) :
    S.terminals[0]? = some "INVALID" ∧ S.terminals[1]? = some "␚" ∧ S.terminals.Nodup := by
  obtain ⟨hn, t, ht⟩ := h
  unfold PSymbols.terminals
  refine ⟨?_, ?_, hn.filter _⟩
  · rw [← ht]; simp [h0]
  · rw [← ht]; simp [h0, h1]

theorem tokType_tokId (terms : List String) (h : terms.Nodup) (i : Nat) (hi : i < terms.length) :
    tokType terms (tokId terms i) = i := by
  unfold tokId
  rw [List.getElem?_eq_getElem hi, Option.getD_some]
  exact idx_of_get h (List.getElem?_eq_getElem hi)

theorem tokId_tokType (terms : List String) (s : String) (hs : s ∈ terms) :
    tokId terms (tokType terms s) = s := by
  unfold tokType tokId
  rw [term_idx hs, Option.getD_some]

theorem tokType_unknown (terms : List String) (s : String) (hs : s ∉ terms) :
    tokType terms s = 0 := by
  unfold tokType
  rw [List.idxOf?_eq_none_iff.mpr hs]; rfl

theorem tokId_out_of_range (terms : List String) (i : Nat) (hi : terms.length ≤ i) :
    tokId terms i = "unknown" := by
  unfold tokId
  rw [List.getElem?_eq_none hi]; rfl

end Gocc
