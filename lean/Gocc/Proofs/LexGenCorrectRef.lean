import Gocc.Proofs.LexGenCorrectStep
import Gocc.Proofs.LoopsTerminateCount
import Gocc.Proofs.LexEquiv
/-
The loop invariant of `refDfaLoop`, and the elementary intervals of the reference automaton.

  * `refDfa_spec`: when the fuel of `refDfaLoop` is not exhausted (at most 20000 states) every
    state `S` of `refDfa prods` is a good position set, state 0 is `xStart`, and every state has a
    row with one entry per elementary start `c`: `-1` if `xStep C S c` is empty, otherwise the index of
    a state with the same elements as `xStep C S c`;
  * `xStep_uniform`: for a rune `r` in `[0, 0x10FFFF]` and the start `c` of its elementary interval,
    `xStep C S r = xStep C S c` for every position list `S` (every literal / range that a position
    can expect has its bounds `lo`, `hi + 1` among the starts as far as they lie in `[0, 0x10FFFF]`;
    bounds outside that interval cannot separate two runes; a reversed range contains no rune).
-/
namespace Gocc
namespace LexGenC

open EmovesU WorkList

def SameX (a b : List XPos) : Prop := ∀ x, x ∈ a ↔ x ∈ b

/-- the recorded target `t` stands for the position list `X`: `WorkList.TargetOf id` written out -/
def RTarget (states : Array (List XPos)) (t : Int) (X : List XPos) : Prop :=
  (X = [] → t = -1) ∧
  (X ≠ [] → ∃ (j : Nat) (S : List XPos), states[j]? = some S ∧ t = (j : Int) ∧ SameX S X)

theorem RTarget.ext {s s' : Array (List XPos)} {t : Int} {X : List XPos} (h : RTarget s t X)
    (he : ∀ (q : Nat) (S : List XPos), s[q]? = some S → s'[q]? = some S) : RTarget s' t X :=
  TargetOf.ext (items := id) h fun q S hq => ⟨S, he q S hq, rfl⟩

def refRowStep (C : LexCtx) (S : List XPos) (acc : RefDfa × List Int) (c : Int) : RefDfa × List Int :=
  let d := acc.1
  let nxt := xStep C S c
  if nxt.isEmpty then (d, acc.2 ++ [-1])
  else match d.states.findIdx? (sameX · nxt) with
    | some k => (d, acc.2 ++ [(k : Int)])
    | none => ({ d with states := d.states.push nxt }, acc.2 ++ [(d.states.size : Int)])

theorem refDfaLoop_succ (C : LexCtx) (starts : List Int) (fuel i : Nat) (d : RefDfa) :
    refDfaLoop C starts (fuel + 1) i d =
      match d.states[i]? with
      | none => d
      | some S =>
        refDfaLoop C starts fuel (i + 1)
          { (starts.foldl (refRowStep C S) (d, [])).1 with
            trans := (starts.foldl (refRowStep C S) (d, [])).1.trans.push
              (starts.foldl (refRowStep C S) (d, [])).2 } := by
  rw [refDfaLoop]
  cases d.states[i]? with
  | none => rfl
  | some S => rfl

theorem refRowStep_eq (C : LexCtx) (S : List XPos) (acc : RefDfa × List Int) (c : Int) :
    refRowStep C S acc c =
      if (xStep C S c).isEmpty then (acc.1, acc.2 ++ [-1])
      else ({ acc.1 with
          states := (findOrPush (sameX · (xStep C S c)) (xStep C S c) acc.1.states).1 },
        acc.2 ++ [((findOrPush (sameX · (xStep C S c)) (xStep C S c) acc.1.states).2 : Int)]) := by
  unfold refRowStep findOrPush
  dsimp only
  split
  · rfl
  · cases acc.1.states.findIdx? (sameX · (xStep C S c)) <;> rfl

structure RowInv (C : LexCtx) (starts : List Int) (S : List XPos) (d0 d : RefDfa) (row : List Int) :
    Prop where
  good : ∀ (q : Nat) (S' : List XPos), d.states[q]? = some S' → GoodX C S'
  ext : ∀ (q : Nat) (S' : List XPos), d0.states[q]? = some S' → d.states[q]? = some S'
  trans : d.trans = d0.trans
  sts : d.starts = d0.starts
  row : ∀ (j : Nat) (c : Int), j < row.length → starts[j]? = some c →
    RTarget d.states (row[j]?.getD (-1)) (xStep C S c)

theorem refRowStep_inv {C : LexCtx} (hC : NoRefC C) {starts : List Int} {S : List XPos}
    (hS : GoodX C S) {d0 d : RefDfa} {row : List Int} {c : Int}
    (h : RowInv C starts S d0 d row) (hc : starts[row.length]? = some c) :
    RowInv C starts S d0 (refRowStep C S (d, row) c).1 (refRowStep C S (d, row) c).2 ∧
      (refRowStep C S (d, row) c).2.length = row.length + 1 := by
  rw [refRowStep_eq]
  dsimp only
  have hrow : ∀ (s' : Array (List XPos)) (t : Int),
      (∀ (q : Nat) (S' : List XPos), d.states[q]? = some S' → s'[q]? = some S') →
      RTarget s' t (xStep C S c) →
      ∀ (j : Nat) (c' : Int), j < (row ++ [t]).length → starts[j]? = some c' →
        RTarget s' ((row ++ [t])[j]?.getD (-1)) (xStep C S c') := by
    intro s' t hext ht j c' hj hc'
    simp only [List.length_append, List.length_cons, List.length_nil] at hj
    by_cases hjr : j < row.length
    · rw [List.getElem?_append_left hjr]
      exact (h.row j c' hjr hc').ext hext
    · obtain rfl : j = row.length := by omega
      cases hc.symm.trans hc'
      rw [List.getElem?_concat_length, Option.getD_some]
      exact ht
  by_cases hemp : (xStep C S c).isEmpty = true
  · rw [if_pos hemp]
    refine ⟨⟨h.good, h.ext, h.trans, h.sts, ?_⟩, by simp⟩
    rw [List.isEmpty_iff] at hemp
    exact hrow d.states (-1) (fun _ _ hq => hq) (hemp ▸ TargetOf.nil (items := id) _)
  · rw [if_neg hemp]
    have hne : xStep C S c ≠ [] := fun hn => hemp (List.isEmpty_iff.2 hn)
    have hold : ∀ (q : Nat) (S' : List XPos), d.states[q]? = some S' →
        (findOrPush (sameX · (xStep C S c)) (xStep C S c) d.states).1[q]? = some S' :=
      fun _ _ hq => findOrPush_get_old hq
    refine ⟨⟨fun q S' hq => ?_, fun q S' hq => hold q S' (h.ext q S' hq), h.trans, h.sts, ?_⟩,
      by simp⟩
    · rcases findOrPush_get hq with h0 | ⟨_, rfl⟩
      · exact h.good q S' h0
      · exact goodX_xStep hC hS c
    · exact hrow _ _ hold (targetOf_findOrPush (items := id) hne
        (fun m st hm hs => LoopsT.mem_iff_of_sameList (h.good m st hm).nodup hs) rfl)

def RowOK (C : LexCtx) (starts : List Int) (states : Array (List XPos)) (S : List XPos)
    (row : List Int) : Prop :=
  ∀ (k : Nat) (c : Int), starts[k]? = some c → RTarget states (row[k]?.getD (-1)) (xStep C S c)

structure RInv (C : LexCtx) (starts : List Int) (d : RefDfa) : Prop where
  good : ∀ (q : Nat) (S : List XPos), d.states[q]? = some S → GoodX C S
  zero : d.states[0]? = some (xStart C)
  sts : d.starts = starts
  rows : ∀ (q : Nat) (row : List Int), d.trans[q]? = some row →
    ∃ S, d.states[q]? = some S ∧ RowOK C starts d.states S row

theorem refDfaLoop_inv {C : LexCtx} (hC : NoRefC C) (starts : List Int) :
    ∀ (fuel i : Nat) (d : RefDfa), RInv C starts d → i = d.trans.size →
      RInv C starts (refDfaLoop C starts fuel i d) ∧
        ((refDfaLoop C starts fuel i d).states.size ≤ (refDfaLoop C starts fuel i d).trans.size ∨
          (refDfaLoop C starts fuel i d).trans.size = i + fuel) := by
  intro fuel
  induction fuel with
  | zero => intro i d h hi; rw [refDfaLoop]; exact ⟨h, Or.inr (by omega)⟩
  | succ fuel ih =>
    intro i d h hi
    rw [refDfaLoop_succ]
    cases hS : d.states[i]? with
    | none =>
      dsimp only
      refine ⟨h, Or.inl ?_⟩
      rcases Nat.lt_or_ge i d.states.size with hlt | hge
      · rw [Array.getElem?_eq_getElem hlt] at hS; cases hS
      · omega
    | some S =>
      dsimp only
      have hgS := h.good i S hS
      obtain ⟨r1, r2⟩ := foldl_idx_inv (refRowStep C S) (·.2.length)
        (fun b => RowInv C starts S d b.1 b.2) starts (fun _ _ hb hc => refRowStep_inv hC hgS hb hc)
        (d, []) ⟨h.good, fun _ _ hq => hq, rfl, rfl, fun j c hj _ => by simp at hj⟩ rfl
      generalize starts.foldl (refRowStep C S) (d, []) = acc at r1 r2
      have hinv : RInv C starts { acc.1 with trans := acc.1.trans.push acc.2 } := by
        refine ⟨r1.good, r1.ext 0 _ h.zero, by dsimp only; rw [r1.sts]; exact h.sts, ?_⟩
        intro q row hq
        dsimp only at hq ⊢
        rw [r1.trans, Array.getElem?_push] at hq
        split at hq
        · rename_i hqs
          cases hq
          refine ⟨S, r1.ext q S (by rw [hqs, ← hi]; exact hS), ?_⟩
          intro k c hk
          exact r1.row k c (by rw [r2]; exact (List.getElem?_eq_some_iff.1 hk).1) hk
        · obtain ⟨S', hS', hrow⟩ := h.rows q row hq
          exact ⟨S', r1.ext q S' hS', fun k c hk => (hrow k c hk).ext r1.ext⟩
      obtain ⟨g1, g2⟩ := ih (i + 1) _ hinv (by dsimp only; rw [r1.trans]; simp; omega)
      exact ⟨g1, g2.imp_right fun g => g.trans (by omega)⟩

structure RefSpec (C : LexCtx) (d : RefDfa) (starts : List Int) : Prop where
  good : ∀ (q : Nat) (S : List XPos), d.states[q]? = some S → GoodX C S
  zero : d.states[0]? = some (xStart C)
  sts : d.starts = starts
  rows : ∀ (q : Nat) (S : List XPos), d.states[q]? = some S →
    ∃ row, d.trans[q]? = some row ∧ RowOK C starts d.states S row

theorem refDfa_spec {prods : List LProd} (hn : noRefs prods = true)
    (hrs : (refDfa prods).states.size ≤ 20000) :
    RefSpec { prods := prods.toArray } (refDfa prods) (elemStarts prods) := by
  have hC := noRefC_of_noRefs hn
  have hinit : RInv { prods := prods.toArray } (elemStarts prods)
      { states := #[xStart { prods := prods.toArray }], trans := #[], starts := elemStarts prods } := by
    refine ⟨?_, rfl, rfl, ?_⟩
    · intro q S hq
      rw [(LoopsT.getElem?_singleton_some hq).2]; exact goodX_xStart hC
    · intro q row hq; simp at hq
  obtain ⟨h1, h2⟩ := refDfaLoop_inv hC (elemStarts prods) 20000 0 _ hinit rfl
  have e : refDfaLoop { prods := prods.toArray } (elemStarts prods) 20000 0
      { states := #[xStart { prods := prods.toArray }], trans := #[], starts := elemStarts prods } =
      refDfa prods := rfl
  rw [e] at h1 h2
  refine ⟨h1.good, h1.zero, h1.sts, ?_⟩
  intro q S hq
  have hlt := (Array.getElem?_eq_some_iff.1 hq).1
  have hqt : q < (refDfa prods).trans.size := by omega
  obtain ⟨S', hS', hrow⟩ := h1.rows q _ (Array.getElem?_eq_getElem hqt)
  cases hq.symm.trans hS'
  exact ⟨_, Array.getElem?_eq_getElem hqt, hrow⟩

def termBounds : LTerm → List Int
  | .lit v => [v, v + 1]
  | .rng a b => [a, b + 1]
  | .opt p | .rep p | .grp p => boundsOfPat p
  | _ => []

theorem bTerms_eq : ∀ ts : List LTerm, boundsOfPat.bTerms ts = ts.flatMap termBounds
  | [] => rfl
  | t :: rest => by
    rw [List.flatMap_cons, ← bTerms_eq rest]
    cases t <;> simp only [boundsOfPat.bTerms, termBounds]

theorem bAlts_eq : ∀ alts : List LAlt,
    boundsOfPat.bAlts alts = alts.flatMap fun a => boundsOfPat.bTerms a.terms
  | [] => rfl
  | .mk ts :: rest => by rw [boundsOfPat.bAlts, List.flatMap_cons, bAlts_eq rest]; rfl

theorem bounds_hered (X : List Int) : Hered (fun p => ∀ b ∈ boundsOfPat p, b ∈ X)
    (fun ts => ∀ b ∈ boundsOfPat.bTerms ts, b ∈ X) (fun t => ∀ b ∈ termBounds t, b ∈ X) where
  alts := fun p hp a ha b hb => by
    cases p
    rw [boundsOfPat, bAlts_eq] at hp
    exact hp b (List.mem_flatMap.2 ⟨a, ha, hb⟩)
  terms := fun ts h t ht b hb => by
    rw [bTerms_eq] at h
    exact h b (List.mem_flatMap.2 ⟨t, ht, hb⟩)
  sub := fun _ => ⟨id, id, id⟩

theorem mem_elemStarts {prods : List LProd} {b : Int} :
    b ∈ elemStarts prods ↔
      (b = 0 ∨ b ∈ prods.flatMap fun p => boundsOfPat p.pat) ∧ 0 ≤ b ∧ b ≤ 0x10FFFF := by
  unfold elemStarts
  simp only [List.mem_mergeSort, List.mem_filter, List.mem_eraseDups, List.mem_cons,
    decide_eq_true_eq]

theorem elemStarts_pairwise (prods : List LProd) : (elemStarts prods).Pairwise (· < ·) := by
  have hsorted : (elemStarts prods).Pairwise (fun a b => a ≤ b) := by
    unfold elemStarts
    have := List.pairwise_mergeSort (le := fun (a b : Int) => decide (a ≤ b))
      (by intro a b c; simp only [decide_eq_true_eq]; omega)
      (by intro a b; simp only [Bool.or_eq_true, decide_eq_true_eq]; omega)
      (((0 :: prods.flatMap fun p => boundsOfPat p.pat).eraseDups).filter
        fun b => decide (0 ≤ b ∧ b ≤ 0x10FFFF))
    exact this.imp (by intro a b h; simpa using h)
  have hnodup : (elemStarts prods).Nodup := by
    unfold elemStarts
    refine (List.mergeSort_perm _ _).nodup_iff.2 ?_
    exact (eraseDups_spec _).2.sublist List.filter_sublist
  exact (hsorted.and hnodup).imp (by intro a b h; omega)

theorem elemStarts_ok (prods : List LProd) : startsOk (elemStarts prods) = true := by
  have hp := elemStarts_pairwise prods
  have h0 : (0 : Int) ∈ elemStarts prods := mem_elemStarts.2 ⟨Or.inl rfl, by omega, by omega⟩
  cases hl : elemStarts prods with
  | nil => rw [hl] at h0; cases h0
  | cons a rest =>
    rw [hl] at hp h0
    have ha : 0 ≤ a := by
      have : a ∈ elemStarts prods := by rw [hl]; exact List.mem_cons_self
      exact (mem_elemStarts.1 this).2.1
    have ha0 : a = 0 := by
      rcases List.mem_cons.1 h0 with h | h
      · exact h.symm
      · have := (List.pairwise_cons.1 hp).1 0 h; omega
    simp only [startsOk, Bool.and_eq_true, beq_iff_eq]
    exact ⟨ha0, strictInc_iff_pairwise.2 hp⟩

theorem eq_of_pairwise_lt {l1 l2 : List Int} (h1 : l1.Pairwise (· < ·)) (h2 : l2.Pairwise (· < ·))
    (h : ∀ x, x ∈ l1 ↔ x ∈ l2) : l1 = l2 :=
  List.Perm.eq_of_pairwise (fun _ _ _ _ hab hba => absurd hab (Int.lt_asymm hba)) h1 h2
    ((List.perm_ext_iff_of_nodup (h1.imp Int.ne_of_lt) (h2.imp Int.ne_of_lt)).2 h)

/-- how to compute `elemStarts` of a concrete lexical part (`mergeSort` is defined by well-founded
    recursion and does not reduce by `decide`): give the strictly increasing list of the bounds that
    are runes; the hypothesis is decidable -/
theorem elemStarts_eq_of {prods : List LProd} {L : List Int}
    (h : L.Pairwise (· < ·) ∧
      (∀ x ∈ L, x ∈ 0 :: prods.flatMap (fun p => boundsOfPat p.pat) ∧ 0 ≤ x ∧ x ≤ 0x10FFFF) ∧
      ∀ x ∈ 0 :: prods.flatMap (fun p => boundsOfPat p.pat), 0 ≤ x → x ≤ 0x10FFFF → x ∈ L) :
    elemStarts prods = L := by
  refine eq_of_pairwise_lt (elemStarts_pairwise _) h.1 fun x => ?_
  rw [mem_elemStarts, ← List.mem_cons]
  exact ⟨fun ⟨h1, h2, h3⟩ => h.2.2 x h1 h2 h3, h.2.1 x⟩

theorem termHas_uniform {starts : List Int} {r c : Int} (h : ElemRep starts r c) (hr : IsRune r)
    (hc0 : 0 ≤ c) {t : LTerm}
    (hb : ∀ b ∈ termBounds t, 0 ≤ b → b ≤ 0x10FFFF → b ∈ starts) : termHas t r = termHas t c := by
  obtain ⟨hr0, hr1⟩ := hr
  cases hρ : termCR t with
  | none => cases t <;> first | rfl | cases hρ
  | some ρ =>
    -- the bounds `lo`, `hi + 1` of the term's interval are starts, as far as they are runes
    have hbd : termBounds t = [ρ.lo, ρ.hi + 1] := by cases t <;> cases hρ <;> rfl
    rw [Bool.eq_iff_iff, termHas_iff_cr hρ, termHas_iff_cr hρ]
    refine h.mem_interval (fun d => ?_) fun d => ?_
    · by_cases a : 0 ≤ ρ.lo
      · exact h.2.2 _ (hb _ (by rw [hbd]; exact List.mem_cons_self) a (by omega)) d
      · omega
    · by_cases a : 0 ≤ ρ.hi + 1
      · exact h.2.2 _ (hb _ (by rw [hbd]; simp) a (by omega)) d
      · omega

theorem xExpected_bounds {prods : List LProd} {x : XPos} {t : LTerm}
    (h : xExpected { prods := prods.toArray } x = some t) :
    ∀ b ∈ termBounds t, 0 ≤ b → b ≤ 0x10FFFF → b ∈ elemStarts prods := by
  intro b hb h0 h1
  unfold xExpected at h
  cases x with
  | nil => cases h
  | cons top rest =>
    dsimp only at h
    split at h
    · cases h
    · obtain ⟨P, _, _, _, hP, _⟩ := expected_elim h
      have hbP := (bounds_hered (boundsOfPat P.pat)).expected hP h (fun _ hb => hb) b hb
      have hmem : P ∈ prods := List.mem_of_getElem? (List.getElem?_toArray ▸ hP)
      exact mem_elemStarts.2 ⟨Or.inr (List.mem_flatMap.2 ⟨P, hmem, hbP⟩), h0, h1⟩

theorem xStep_uniform {prods : List LProd} {r c : Int} (h : ElemRep (elemStarts prods) r c)
    (hr : IsRune r) (S : List XPos) :
    xStep { prods := prods.toArray } S r = xStep { prods := prods.toArray } S c := by
  have hc0 : 0 ≤ c := (mem_elemStarts.1 h.1).2.1
  have hp : specP { prods := prods.toArray } r = specP { prods := prods.toArray } c := by
    funext x
    unfold specP
    cases he : xExpected { prods := prods.toArray } x with
    | none => rfl
    | some t => exact termHas_uniform h hr hc0 (xExpected_bounds he)
  rw [xStep_eq', xStep_eq', hp]

end LexGenC
end Gocc
