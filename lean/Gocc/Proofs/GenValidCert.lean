import Gocc.Model.GenVCert
/-
Generator-level validity, the derivation certificate `vcertOf G` (Model/GenVCert.lean).  Its three
lists are built by the loop `grow`; with fuel above the number of possible keys it stops because no
candidate is new (pigeonhole: the keys of the list are pairwise different).  So the lists pass
`prodListOk` / `nullListOk` / `firstListOk`, and the nullable list and the FIRST list are closed
under the grammar rules.
-/
namespace Gocc.GenValid

section Grow
variable {α κ : Type} [BEq κ] [LawfulBEq κ]

theorem growStep_some {cands : List α → List α} {key : α → κ} {acc : List α} {x : α}
    (h : growStep cands key acc = some x) : x ∈ cands acc ∧ ∀ y ∈ acc, key y ≠ key x := by
  unfold growStep at h
  refine ⟨List.mem_of_find?_eq_some h, ?_⟩
  have := List.find?_some h
  simp only [Bool.not_eq_true', List.any_eq_false, beq_iff_eq] at this
  exact this

theorem growStep_none {cands : List α → List α} {key : α → κ} {acc : List α}
    (h : growStep cands key acc = none) : ∀ x ∈ cands acc, ∃ y ∈ acc, key y = key x := by
  unfold growStep at h
  rw [List.find?_eq_none] at h
  intro x hx
  have := h x hx
  simpa using this

theorem grow_inv {cands : List α → List α} {key : α → κ} (P : List α → Prop)
    (hstep : ∀ acc x, P acc → x ∈ cands acc → (∀ y ∈ acc, key y ≠ key x) → P (x :: acc)) :
    ∀ (n : Nat) (acc : List α), P acc → P (grow cands key n acc) := by
  intro n
  induction n with
  | zero => intro acc h; exact h
  | succ n ih =>
    intro acc h
    simp only [grow]
    split
    · rename_i x hx
      obtain ⟨h1, h2⟩ := growStep_some hx
      exact ih _ (hstep acc x h h1 h2)
    · exact h

omit [LawfulBEq κ] in
theorem grow_closed_or_long {cands : List α → List α} {key : α → κ} :
    ∀ (n : Nat) (acc : List α), growStep cands key (grow cands key n acc) = none ∨
      (grow cands key n acc).length = acc.length + n := by
  intro n
  induction n with
  | zero => intro acc; exact .inr rfl
  | succ n ih =>
    intro acc
    simp only [grow]
    split
    · rename_i x hx
      rcases ih (x :: acc) with h | h
      · exact .inl h
      · right; rw [h]; simp; omega
    · rename_i hx
      exact .inl hx

theorem grow_closed {cands : List α → List α} {key : α → κ} (K : List κ)
    (hK : ∀ acc, (∀ y ∈ acc, key y ∈ K) → ∀ x ∈ cands acc, key x ∈ K) {n : Nat}
    (hn : K.length < n) : growStep cands key (grow cands key n []) = none := by
  have hinv := grow_inv (cands := cands) (key := key)
    (fun acc => (acc.map key).Nodup ∧ ∀ y ∈ acc, key y ∈ K) (by
      intro acc x ⟨h1, h2⟩ hx hnew
      refine ⟨?_, ?_⟩
      · rw [List.map_cons, List.nodup_cons]
        refine ⟨?_, h1⟩
        intro hm
        rcases List.mem_map.1 hm with ⟨y, hy, hyx⟩
        exact hnew y hy hyx
      · intro y hy
        rcases List.mem_cons.1 hy with rfl | hy
        · exact hK acc h2 _ hx
        · exact h2 y hy) n [] ⟨by simp, by simp⟩
  rcases grow_closed_or_long (cands := cands) (key := key) n [] with h | h
  · exact h
  · exfalso
    have hsub : ∀ k ∈ (grow cands key n []).map key, k ∈ K := by
      intro k hk
      rcases List.mem_map.1 hk with ⟨y, hy, rfl⟩
      exact hinv.2 y hy
    have := List.Nodup.length_le_of_subset hinv.1 hsub
    simp only [List.length_map, List.length_nil, Nat.zero_add] at this h
    omega

end Grow

theorem mem_headKeys {G : NGrammar} {p : Nat} (hp : p < G.prods.size) : G.head p ∈ headKeys G :=
  List.mem_map.2 ⟨p, List.mem_range.2 hp, rfl⟩

theorem hasNT_iff {l : List (Nat × Nat)} {B : Nat} : hasNT l B = true ↔ ∃ y ∈ l, y.1 = B := by
  simp [hasNT]

/-! The productive list and the nullable list are the same loop, run with the test `prodSym`
resp. `nullSym` on the body symbols; `prodListOk` and `nullListOk` differ in the same way.  The
facts about them are stated once, for any candidate function `cands` and check `ok` of that
shape. -/
section Sym
variable {G : NGrammar} {sym : List (Nat × Nat) → Sym → Bool}
  {cands : List (Nat × Nat) → List (Nat × Nat)}
  (hcands : ∀ acc, cands acc = (List.range G.prods.size).filterMap fun p =>
    if (G.body p).all (sym acc) then some (G.head p, p) else none)
include hcands

theorem mem_symCands {acc : List (Nat × Nat)} {x : Nat × Nat} :
    x ∈ cands acc ↔
      ∃ p, p < G.prods.size ∧ (G.body p).all (sym acc) = true ∧ x = (G.head p, p) := by
  rw [hcands]
  simp only [List.mem_filterMap, List.mem_range]
  constructor
  · rintro ⟨p, hp, h⟩
    split at h
    · rename_i hc
      exact ⟨p, hp, hc, (Option.some.inj h).symm⟩
    · cases h
  · rintro ⟨p, hp, hc, rfl⟩
    exact ⟨p, hp, if_pos hc⟩

/-- soundness: every entry of the list the loop builds is justified by the entries after it -/
theorem symListOk_grow {ok : List (Nat × Nat) → Bool} (hnil : ok [] = true)
    (hcons : ∀ A p rest, ok ((A, p) :: rest) = (decide (p < G.prods.size) && G.head p == A &&
      (G.body p).all (sym rest) && ok rest)) (n : Nat) :
    ok (grow cands (fun x => x.1) n []) = true := by
  refine grow_inv (fun acc => ok acc = true) ?_ n [] hnil
  intro acc x h hx _
  obtain ⟨p, hp, hc, rfl⟩ := (mem_symCands hcands).1 hx
  rw [hcons, h, hc, decide_eq_true hp, beq_self_eq_true]
  rfl

theorem sym_closed {p : Nat} (hp : p < G.prods.size)
    (hc : (G.body p).all (sym (grow cands (fun x => x.1) ((headKeys G).length + 1) [])) = true) :
    hasNT (grow cands (fun x => x.1) ((headKeys G).length + 1) []) (G.head p) = true := by
  have hclosed := grow_closed (cands := cands) (key := fun x => x.1) (headKeys G) (by
    intro acc _ x hx
    obtain ⟨q, hq, -, rfl⟩ := (mem_symCands hcands).1 hx
    exact mem_headKeys hq) (Nat.lt_succ_self _)
  exact hasNT_iff.2 (growStep_none hclosed (G.head p, p) ((mem_symCands hcands).2 ⟨p, hp, hc, rfl⟩))

end Sym

theorem mem_firstCands {G : NGrammar} {null : List (Nat × Nat)}
    {acc : List (Nat × Nat × Nat × Nat)} {x : Nat × Nat × Nat × Nat} :
    x ∈ firstCands G null acc ↔ ∃ p i, p < G.prods.size ∧
      ((G.body p).take i).all (nullSym null) = true ∧
      ((∃ b, (G.body p)[i]? = some (Sym.t b) ∧ x = (G.head p, b, p, i)) ∨
       (∃ B y, (G.body p)[i]? = some (Sym.nt B) ∧ y ∈ acc ∧ y.1 = B ∧
          x = (G.head p, y.2.1, p, i))) := by
  unfold firstCands
  simp only [List.mem_flatMap, List.mem_range]
  constructor
  · rintro ⟨p, hp, i, hi, h⟩
    split at h
    · rename_i hc
      refine ⟨p, i, hp, hc, ?_⟩
      split at h
      · rename_i b hb
        exact .inl ⟨b, hb, by simpa using h⟩
      · rename_i B hb
        rcases List.mem_map.1 h with ⟨y, hy, rfl⟩
        rw [List.mem_filter] at hy
        exact .inr ⟨B, y, hb, hy.1, by simpa using hy.2, rfl⟩
      · cases h
    · cases h
  · rintro ⟨p, i, hp, hc, h⟩
    have hi : i < (G.body p).length := by
      rcases h with ⟨b, hb, -⟩ | ⟨B, y, hb, -⟩
      · exact (List.getElem?_eq_some_iff.1 hb).1
      · exact (List.getElem?_eq_some_iff.1 hb).1
    refine ⟨p, hp, i, hi, ?_⟩
    rw [if_pos hc]
    rcases h with ⟨b, hb, rfl⟩ | ⟨B, y, hb, hy, hyB, rfl⟩
    · rw [hb]; simp
    · rw [hb]
      exact List.mem_map.2 ⟨y, List.mem_filter.2 ⟨hy, by simpa using hyB⟩, rfl⟩

theorem prodListOk_vcert (G : NGrammar) : prodListOk G (vcertOf G).prod = true :=
  symListOk_grow (fun _ => rfl) rfl (fun _ _ _ => rfl) _

theorem nullListOk_vcert (G : NGrammar) : nullListOk G (vcertOf G).null = true :=
  symListOk_grow (fun _ => rfl) rfl (fun _ _ _ => rfl) _

theorem firstListOk_cons (G : NGrammar) (null : List (Nat × Nat)) (A b p i : Nat)
    (rest : List (Nat × Nat × Nat × Nat)) :
    firstListOk G null ((A, b, p, i) :: rest) =
      (decide (p < G.prods.size) && G.head p == A && ((G.body p).take i).all (nullSym null) &&
        (match (G.body p)[i]? with
         | some (.t c) => c == b
         | some (.nt B) => rest.any fun x => x.1 == B && x.2.1 == b
         | none => false) &&
        firstListOk G null rest) := by
  rfl

theorem firstListOk_vcert (G : NGrammar) :
    firstListOk G (vcertOf G).null (vcertOf G).first = true := by
  show firstListOk G (nullListOf G) (firstListOf G (nullListOf G)) = true
  unfold firstListOf
  refine grow_inv (fun acc => firstListOk G (nullListOf G) acc = true) ?_ _ [] rfl
  intro acc x h hx _
  obtain ⟨p, i, hp, hc, hx'⟩ := mem_firstCands.1 hx
  rcases hx' with ⟨b, hb, rfl⟩ | ⟨B, y, hb, hy, hyB, rfl⟩
  · rw [firstListOk_cons, h, hc, hb]
    simp [hp]
  · rw [firstListOk_cons, h, hc, hb]
    simp only [hp, decide_true, beq_self_eq_true, Bool.and_self, Bool.true_and, Bool.and_true,
      List.any_eq_true, Bool.and_eq_true, beq_iff_eq]
    exact ⟨y, hy, hyB, rfl⟩

theorem null_closed (G : NGrammar) {p : Nat} (hp : p < G.prods.size)
    (hc : (G.body p).all (nullSym (vcertOf G).null) = true) :
    hasNT (vcertOf G).null (G.head p) = true :=
  sym_closed (cands := nullCands G) (sym := nullSym) (fun _ => rfl) hp hc

theorem prod_closed (G : NGrammar) {p : Nat} (hp : p < G.prods.size)
    (hc : (G.body p).all (prodSym (vcertOf G).prod) = true) :
    hasNT (vcertOf G).prod (G.head p) = true :=
  sym_closed (cands := prodCands G) (sym := prodSym) (fun _ => rfl) hp hc

theorem heads_of_body (G : NGrammar) (h : bodyNTsProductive G = true) :
    headsProductive G = true := by
  simp only [bodyNTsProductive, headsProductive, List.all_eq_true, List.mem_range] at h ⊢
  intro p hp
  exact prod_closed G hp (List.all_eq_true.2 (h p hp))

theorem mem_bodyTerms {G : NGrammar} {p i b : Nat} (hp : p < G.prods.size)
    (hb : (G.body p)[i]? = some (Sym.t b)) : b ∈ bodyTerms G := by
  unfold bodyTerms
  simp only [List.mem_flatMap, List.mem_range, List.mem_filterMap]
  exact ⟨p, hp, Sym.t b, List.mem_of_getElem? hb, rfl⟩

theorem mem_firstKeys {G : NGrammar} {A b : Nat} :
    (A, b) ∈ firstKeys G ↔ A ∈ headKeys G ∧ b ∈ bodyTerms G := by
  unfold firstKeys
  simp only [List.mem_flatMap, List.mem_map, Prod.mk.injEq]
  constructor
  · rintro ⟨A', hA, b', hb, rfl, rfl⟩
    exact ⟨hA, hb⟩
  · rintro ⟨hA, hb⟩
    exact ⟨A, hA, b, hb, rfl, rfl⟩

theorem first_growStep_none (G : NGrammar) (null : List (Nat × Nat)) :
    growStep (firstCands G null) (fun x => (x.1, x.2.1)) (firstListOf G null) = none := by
  unfold firstListOf
  refine grow_closed (firstKeys G) ?_ (Nat.lt_succ_self _)
  intro acc hacc x hx
  obtain ⟨p, i, hp, -, hx'⟩ := mem_firstCands.1 hx
  rcases hx' with ⟨b, hb, rfl⟩ | ⟨B, y, hb, hy, -, rfl⟩
  · exact mem_firstKeys.2 ⟨mem_headKeys hp, mem_bodyTerms hp hb⟩
  · exact mem_firstKeys.2 ⟨mem_headKeys hp, (mem_firstKeys.1 (hacc y hy)).2⟩

theorem mem_fc_first {vc : VCert} {A b : Nat} :
    (A, b) ∈ vc.fc.first ↔ ∃ y ∈ vc.first, y.1 = A ∧ y.2.1 = b := by
  simp only [VCert.fc, List.mem_map, Prod.mk.injEq]

theorem fc_isNullable {vc : VCert} {A : Nat} : vc.fc.isNullable A = hasNT vc.null A := by
  simp only [FirstCert.isNullable, VCert.fc, hasNT]
  rw [Bool.eq_iff_iff]
  simp

theorem first_closed {G : NGrammar} {x : Nat × Nat × Nat × Nat}
    (hx : x ∈ firstCands G (vcertOf G).null (vcertOf G).first) :
    (x.1, x.2.1) ∈ (vcertOf G).fc.first := by
  obtain ⟨y, hy, hyk⟩ := growStep_none (first_growStep_none G (nullListOf G)) x hx
  simp only [Prod.mk.injEq] at hyk
  exact mem_fc_first.2 ⟨y, hy, hyk.1, hyk.2⟩

theorem first_closed_t (G : NGrammar) {p i b : Nat} (hp : p < G.prods.size)
    (hc : ((G.body p).take i).all (nullSym (vcertOf G).null) = true)
    (hb : (G.body p)[i]? = some (Sym.t b)) : (G.head p, b) ∈ (vcertOf G).fc.first :=
  first_closed (x := (G.head p, b, p, i)) (mem_firstCands.2 ⟨p, i, hp, hc, .inl ⟨b, hb, rfl⟩⟩)

theorem first_closed_nt (G : NGrammar) {p i B b : Nat} (hp : p < G.prods.size)
    (hc : ((G.body p).take i).all (nullSym (vcertOf G).null) = true)
    (hb : (G.body p)[i]? = some (Sym.nt B)) (hB : (B, b) ∈ (vcertOf G).fc.first) :
    (G.head p, b) ∈ (vcertOf G).fc.first := by
  obtain ⟨z, hz, hz1, hz2⟩ := mem_fc_first.1 hB
  exact first_closed (x := (G.head p, b, p, i))
    (mem_firstCands.2 ⟨p, i, hp, hc, .inr ⟨B, z, hb, hz, hz1, by rw [hz2]⟩⟩)

end Gocc.GenValid
