import Gocc.Spec.KindGrammar
import Gocc.Proofs.GenSafe
/-
When do the two readings of a syntax part coincide?

  `ngrammarSpec` (Spec/KindGrammar.lean)  symbols BY KIND   — what the author wrote
  `ngrammarOf`   (Model/Validate.lean)    symbols BY SPELLING — what gocc's generator computes with

`SpellingsOk syn tokIds` (decidable, three named clauses over the AUGMENTED grammar `augment syn`,
whose heads are `S'` and the heads of `syn`):

  prodIdDefined    every `.prodId` symbol of a body is spelled like a head;
                   [otherwise: by kind it is a non-terminal — one without productions and without
                    a number, `ngrammarSpec` falls back to 0 —, by spelling the TERMINAL of that
                    name — `S : B` with `B` undefined]
  terminalNotHead  no `.tokId` / `.strLit` symbol of a body is spelled like a head;
                   [otherwise: by kind a terminal, by spelling the NON-TERMINAL — `S : "A" ; A : b`,
                    which `newSymbols` does not even refuse, the literal comes before the head]
  emptyAlone       an alternative whose FIRST symbol is spelled `empty` is the keyword `empty`
                   standing alone: its body is `[⟨.tokId, "empty"⟩]`.
                   [otherwise: by spelling it is the empty alternative (`Item.Len` = 0), by kind it
                    is not — `S : "empty" a` (D16), `S : empty a`, `S : "empty"`; for production 0,
                    `S' : Start`, the clause says that the start symbol is not spelled `empty`]

Each clause is needed (`C02KindEx.clauses_needed`, Props/C02Kind.lean: for each clause a grammar
violating only this clause, generated without panic, on which the two readings differ).  Nothing is
required of
  * `tokIds` (the token ids of the lexical part only add terminals; both readings look a terminal up
    by spelling in the same list) — the parameter is there so that `SpellingsOk` has the signature of
    `NamesOk`;
  * a symbol spelled `empty` that is NOT the first of its alternative (`S : a empty`): both readings
    take it for the terminal spelled `empty` (it is `CompleteNamesOk` that excludes it, for the
    generator's FIRST sets);
  * an alternative with an empty body (both readings: the empty alternative);
  * `error`: at the level of the numbered grammar it is a terminal like any other, for both readings
    (the `error` half of D16 concerns the recovery flags `canRecover`, not the grammar).

MAIN: `ngrammarSpec_eq_ngrammarOf`: for every successful `genParser syn tokIds = .ok r` with
`SpellingsOk syn tokIds`, the two numbered grammars over the tables' `terminals` / `nts` are EQUAL.
-/
namespace Gocc

namespace KindG

def ProdIdDefined (prods : List SProd) : Prop :=
  ∀ p ∈ prods, ∀ s ∈ p.body, s.kind = .prodId → s.name ∈ prods.map (·.head)

def TerminalNotHead (prods : List SProd) : Prop :=
  ∀ p ∈ prods, ∀ s ∈ p.body, s.kind ≠ .prodId → s.name ∉ prods.map (·.head)

def EmptyAlone (prods : List SProd) : Prop :=
  ∀ p ∈ prods, ∀ s ∈ p.body.head?, s.name = "empty" → p.body = [⟨.tokId, "empty"⟩]

instance (prods : List SProd) : Decidable (ProdIdDefined prods) := by
  unfold ProdIdDefined; infer_instance
instance (prods : List SProd) : Decidable (TerminalNotHead prods) := by
  unfold TerminalNotHead; infer_instance
instance (prods : List SProd) : Decidable (EmptyAlone prods) := by
  unfold EmptyAlone; infer_instance

end KindG

/-- the spellings of a syntax part under which reading it by kind and reading it by spelling give
    the same grammar (clauses over `augment syn`, see the head of this file) -/
structure SpellingsOk (syn : List SProd) (tokIds : List String) : Prop where
  prodIdDefined : KindG.ProdIdDefined (augment syn)
  terminalNotHead : KindG.TerminalNotHead (augment syn)
  emptyAlone : KindG.EmptyAlone (augment syn)

instance (syn : List SProd) (tokIds : List String) : Decidable (SpellingsOk syn tokIds) :=
  decidable_of_iff (KindG.ProdIdDefined (augment syn) ∧ KindG.TerminalNotHead (augment syn) ∧
      KindG.EmptyAlone (augment syn))
    ⟨fun h => ⟨h.1, h.2.1, h.2.2⟩, fun h => ⟨h.1, h.2, h.3⟩⟩

namespace KindG

theorem prodLen_zero_iff (p : SProd) :
    prodLen p = 0 ↔ p.body = [] ∨ ∃ s rest, p.body = s :: rest ∧ s.name = "empty" := by
  unfold prodLen
  rcases p.body with _ | ⟨s, rest⟩
  · simp
  · by_cases hn : s.name = "empty" <;> simp [hn]

theorem symSpec_eq_symOf {terms nts : List String} {s : SSym}
    (h1 : s.kind = .prodId → s.name ∈ nts) (h2 : s.kind ≠ .prodId → s.name ∉ nts) :
    symSpec terms nts s = symOf terms nts s.name := by
  unfold symSpec symOf
  cases hk : s.kind with
  | prodId =>
    rw [idxOf?_eq_idxOf (h1 hk)]
    rfl
  | tokId =>
    rw [List.idxOf?_eq_none_iff.2 (h2 (by rw [hk]; intro h; cases h))]
  | strLit =>
    rw [List.idxOf?_eq_none_iff.2 (h2 (by rw [hk]; intro h; cases h))]

theorem body_eq {terms nts : List String} {p : SProd}
    (h1 : ∀ s ∈ p.body, s.kind = .prodId → s.name ∈ nts)
    (h2 : ∀ s ∈ p.body, s.kind ≠ .prodId → s.name ∉ nts)
    (h3 : ∀ s ∈ p.body.head?, s.name = "empty" → p.body = [⟨.tokId, "empty"⟩]) :
    (if isEmptyAlt p then [] else p.body.map (symSpec terms nts)) =
      (if prodLen p == 0 then [] else p.body.map fun s => symOf terms nts s.name) := by
  have hmap : p.body.map (symSpec terms nts) = p.body.map fun s => symOf terms nts s.name :=
    List.map_congr_left fun s hs => symSpec_eq_symOf (h1 s hs) (h2 s hs)
  by_cases he : isEmptyAlt p = true
  · have hb : p.body = [⟨.tokId, "empty"⟩] := by simpa [isEmptyAlt] using he
    have h0 : prodLen p = 0 := (prodLen_zero_iff p).2 (.inr ⟨_, _, hb, rfl⟩)
    simp [he, h0]
  · rw [if_neg he]
    by_cases h0 : prodLen p = 0
    · rcases (prodLen_zero_iff p).1 h0 with hb | ⟨s, rest, hb, hn⟩
      · simp [h0, hb]
      · exfalso
        apply he
        have := h3 s (by rw [hb]; rfl) hn
        simp [isEmptyAlt, this]
    · rw [if_neg (by simpa using h0)]
      exact hmap

theorem spec_eq_of {prods : List SProd} {terms nts : List String}
    (hnts : ∀ x, x ∈ nts ↔ x ∈ prods.map (·.head))
    (h1 : ProdIdDefined prods) (h2 : TerminalNotHead prods) (h3 : EmptyAlone prods) :
    ngrammarSpec prods terms nts = ngrammarOf prods terms nts := by
  unfold ngrammarSpec ngrammarOf
  congr 2
  apply List.map_congr_left
  intro p hp
  congr 1
  exact body_eq (fun s hs hk => (hnts _).2 (h1 p hp s hs hk))
    (fun s hs hk hm => h2 p hp s hs hk ((hnts _).1 hm)) (h3 p hp)

theorem nts_iff_heads {syn : List SProd} {tokIds : List String} {r : LRResult}
    (h : genParser syn tokIds = .ok r) (x : String) :
    x ∈ r.tables.nts ↔ x ∈ (augment syn).map (·.head) := by
  obtain ⟨S0, hS0, hctx, -⟩ := genParser_shape h
  obtain ⟨rows, -, -, hnts, -⟩ := genParser_tables h
  have hnt : r.ctx.S.ntList = S0.ntList := by rw [hctx]; rfl
  rw [hnts, hnt]
  constructor
  · exact newSymbols_ntList_sub hS0 x
  · intro hx
    obtain ⟨p, hp, rfl⟩ := List.mem_map.1 hx
    exact (newSymbols_WFp hS0 p hp).1

end KindG

theorem ngrammarSpec_eq_ngrammarOf {syn : List SProd} {tokIds : List String} {r : LRResult}
    (h : genParser syn tokIds = .ok r) (hs : SpellingsOk syn tokIds) :
    ngrammarSpec (augment syn) r.tables.terminals r.tables.nts =
      ngrammarOf (augment syn) r.tables.terminals r.tables.nts :=
  KindG.spec_eq_of (KindG.nts_iff_heads h) hs.1 hs.2 hs.3

end Gocc
