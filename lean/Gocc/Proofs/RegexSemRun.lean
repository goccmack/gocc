import Gocc.Proofs.RegexSemDen
import Gocc.Proofs.LexGenCorrectStep
/-
`Run C i w f`: from item `i`, reading the runes `w`, the item `f` is reached — ε-steps (`emoveStep`, from
non-basic items) and rune steps (a basic item expecting a literal / range that has the rune moves its
dot).  For lexical parts without references and without `.`:
    x ∈ xRun C w  ↔  x = [y], y basic, Run C ⟨k,[0]⟩ w y for a non-`reg` production k
(`mem_xRun_iff`): the subset construction `xStep` follows exactly the runs, and without `.` the fallback
of `xStep` never adds anything.

The description of `xStart` and `xStep` on sets of singletons (`GoodX`, `mem_xStart_iff`, `mem_xStep_sing`)
is that of the correctness proof of the generator (LexGenCorrectRefSets, LexGenCorrectStep); it rests on
`mem_xClosure_iff`: the fuel of `xClosure` is never exhausted.
-/
namespace Gocc

def xRun (C : LexCtx) (w : List Int) : List XPos := w.foldl (xStep C) (xStart C)

namespace RegexS

open EmovesU LexGenC

def adv (i : LItem) : LItem := { i with path := incLast i.path }

inductive Run (C : LexCtx) : LItem → List Int → LItem → Prop
  | refl (i : LItem) : Run C i [] i
  | eps {i j f : LItem} {w : List Int} :
      C.isBasic i = false → j ∈ emoveStep C i → Run C j w f → Run C i w f
  | rune {i f : LItem} {t : LTerm} {c : Int} {w : List Int} :
      C.expected i = some t → termHas t c = true → Run C (adv i) w f → Run C i (c :: w) f

theorem Run.trans {C : LexCtx} {i j f : LItem} {u v : List Int} (h1 : Run C i u j) (h2 : Run C j v f) :
    Run C i (u ++ v) f := by
  induction h1 with
  | refl => exact h2
  | eps hnb hj _ ih => exact .eps hnb hj (ih h2)
  | rune he hh _ ih => exact .rune he hh (ih h2)

theorem Run.step_eps {C : LexCtx} {i j : LItem} (hnb : C.isBasic i = false) (hj : j ∈ emoveStep C i) :
    Run C i [] j := .eps hnb hj (.refl j)

/-- `Run.trans` with ε-steps at the end (`[] ++ w` reduces to `w`, `w ++ []` does not) -/
theorem Run.trans_nil {C : LexCtx} {i j f : LItem} {w : List Int} (h1 : Run C i w j) (h2 : Run C j [] f) :
    Run C i w f := by
  simpa using h1.trans h2

theorem run_of_ereach {C : LexCtx} {s y : LItem} (h : EReach C s y) : Run C s [] y := by
  induction h with
  | refl => exact .refl s
  | step _ hnb hy ih => exact ih.trans (Run.step_eps hnb hy)

theorem ereach_head {C : LexCtx} {x j y : LItem} (hnb : C.isBasic x = false) (hj : j ∈ emoveStep C x)
    (h : EReach C j y) : EReach C x y := by
  induction h with
  | refl => exact .step .refl hnb hj
  | step _ hnb' hy ih => exact .step ih hnb' hy

theorem ereach_of_run_nil {C : LexCtx} {s y : LItem} {w : List Int} (h : Run C s w y) (hw : w = []) :
    EReach C s y := by
  induction h with
  | refl => exact .refl
  | eps hnb hj _ ih => exact ereach_head hnb hj (ih hw)
  | rune => cases hw

theorem isBasic_of_expected {C : LexCtx} {i : LItem} {t : LTerm} (h : C.expected i = some t) :
    C.isBasic i = true := by
  simp [LexCtx.isBasic, h]

theorem run_basic_nil {C : LexCtx} {i y : LItem} {w : List Int} (hb : C.isBasic i = true)
    (h : Run C i w y) (hw : w = []) : y = i := by
  cases h with
  | refl => rfl
  | eps hnb _ _ => rw [hb] at hnb; cases hnb
  | rune => cases hw

theorem run_split {C : LexCtx} {i f : LItem} {w : List Int} (h : Run C i w f) (hf : C.isBasic f = true) :
    ∀ u v, w = u ++ v → ∃ y, C.isBasic y = true ∧ Run C i u y ∧ Run C y v f := by
  induction h with
  | refl i =>
    intro u v hw
    obtain ⟨rfl, rfl⟩ := List.append_eq_nil_iff.1 hw.symm
    exact ⟨i, hf, .refl i, .refl i⟩
  | eps hnb hj _ ih =>
    intro u v hw
    obtain ⟨y, hy, h1, h2⟩ := ih hf u v hw
    exact ⟨y, hy, .eps hnb hj h1, h2⟩
  | @rune i f t c w he hh hrun ih =>
    intro u v hw
    cases u with
    | nil =>
      simp only [List.nil_append] at hw
      subst hw
      exact ⟨i, isBasic_of_expected he, .refl i, .rune he hh hrun⟩
    | cons c' u' =>
      simp only [List.cons_append, List.cons.injEq] at hw
      obtain ⟨rfl, hw⟩ := hw
      obtain ⟨y, hy, h1, h2⟩ := ih hf u' v hw
      exact ⟨y, hy, .rune he hh h1, h2⟩

theorem run_pos {C : LexCtx} {i f : LItem} {w : List Int} (h : Run C i w f) (hi : Pos C i) : Pos C f := by
  induction h with
  | refl => exact hi
  | eps hnb hj _ ih => exact ih (pos_step hnb _ hj)
  | rune he _ _ ih => exact ih (pos_advance he)

theorem run_prod {C : LexCtx} {i f : LItem} {w : List Int} (h : Run C i w f) : f.prod = i.prod := by
  induction h with
  | refl => rfl
  | eps _ hj _ ih => rw [ih, emoveStep_prod _ _ _ hj]
  | rune _ _ _ ih => rw [ih]; rfl

theorem mem_xStep_iff {C : LexCtx} (hC : NoRefC C) (hD : NoDotC C) {S : List XPos} (hS : GoodX C S)
    (c : Int) (x : XPos) :
    x ∈ xStep C S c ↔ ∃ i t y, [i] ∈ S ∧ C.expected i = some t ∧ termHas t c = true ∧ x = [y] ∧
      EReach C (adv i) y ∧ C.isBasic y = true := by
  rw [mem_xStep_sing hC (fun x hx => let ⟨i, h, _⟩ := hS.sing x hx; ⟨i, h⟩) hS.length_le]
  constructor
  · rintro ⟨i, y, hi, rfl, hy, ⟨t, he, hh⟩ | ⟨_, hd⟩⟩
    · obtain ⟨hr, hb⟩ := (mem_emoves_iff C _ y).1 hy
      exact ⟨i, t, y, hi, he, hh, rfl, hr, hb⟩
    · exact absurd hd (expected_ne_dot hD i)
  · rintro ⟨i, t, y, hi, he, hh, rfl, hr, hb⟩
    exact ⟨i, y, hi, rfl, (mem_emoves_iff C _ y).2 ⟨hr, hb⟩, .inl ⟨t, he, hh⟩⟩

theorem mem_foldl_xStep {C : LexCtx} (hC : NoRefC C) (hD : NoDotC C) : ∀ (w : List Int) (S : List XPos),
    GoodX C S → (∀ i, [i] ∈ S → C.isBasic i = true) →
    GoodX C (w.foldl (xStep C) S) ∧
    ∀ x, x ∈ w.foldl (xStep C) S ↔
      ∃ i y, [i] ∈ S ∧ x = [y] ∧ Run C i w y ∧ C.isBasic y = true := by
  intro w
  induction w with
  | nil =>
    intro S hS hb
    refine ⟨hS, ?_⟩
    intro x
    simp only [List.foldl_nil]
    constructor
    · intro hx
      obtain ⟨i, rfl, _⟩ := hS.sing x hx
      exact ⟨i, i, hx, rfl, .refl i, hb i hx⟩
    · rintro ⟨i, y, hi, rfl, hrun, _⟩
      rw [run_basic_nil (hb i hi) hrun rfl]; exact hi
  | cons c w ih =>
    intro S hS hb
    have hS' := goodX_xStep hC hS c
    have hb' : ∀ j, [j] ∈ xStep C S c → C.isBasic j = true := by
      intro j hj
      obtain ⟨i, t, y, _, _, _, e, _, hby⟩ := (mem_xStep_iff hC hD hS c _).1 hj
      rw [sing_inj e]; exact hby
    obtain ⟨g, hiff⟩ := ih (xStep C S c) hS' hb'
    refine ⟨g, ?_⟩
    intro x
    simp only [List.foldl_cons]
    rw [hiff]
    constructor
    · rintro ⟨j, y, hj, rfl, hrun, hby⟩
      obtain ⟨i, t, y', hi, he, hh, e, hr, _⟩ := (mem_xStep_iff hC hD hS c _).1 hj
      rw [sing_inj e] at hrun
      exact ⟨i, y, hi, rfl, .rune he hh ((run_of_ereach hr).trans hrun), hby⟩
    · rintro ⟨i, y, hi, rfl, hrun, hby⟩
      cases hrun with
      | eps hnb _ _ => rw [hb i hi] at hnb; cases hnb
      | rune he hh hrun' =>
        obtain ⟨j, hbj, h1, h2⟩ := run_split hrun' hby [] w rfl
        exact ⟨j, y, (mem_xStep_iff hC hD hS c _).2
          ⟨i, _, j, hi, he, hh, rfl, ereach_of_run_nil h1 rfl, hbj⟩, rfl, h2, hby⟩

theorem basic_of_mem_xStart {C : LexCtx} (hC : NoRefC C) {i : LItem} (hi : [i] ∈ xStart C) :
    C.isBasic i = true := by
  obtain ⟨_, _, y, _, _, e, _, hb⟩ := (mem_xStart_iff hC _).1 hi
  rw [sing_inj e]; exact hb

theorem goodX_xRun {C : LexCtx} (hC : NoRefC C) (hD : NoDotC C) (w : List Int) : GoodX C (xRun C w) :=
  (mem_foldl_xStep hC hD w (xStart C) (goodX_xStart hC) fun _ => basic_of_mem_xStart hC).1

theorem mem_xRun_iff {C : LexCtx} (hC : NoRefC C) (hD : NoDotC C) (w : List Int) (x : XPos) :
    x ∈ xRun C w ↔ ∃ k P y, C.prods[k]? = some P ∧ P.kind ≠ .reg ∧ x = [y] ∧
      Run C ⟨k, [0]⟩ w y ∧ C.isBasic y = true := by
  unfold xRun
  rw [(mem_foldl_xStep hC hD w (xStart C) (goodX_xStart hC) fun _ => basic_of_mem_xStart hC).2]
  constructor
  · rintro ⟨i, y, hi, rfl, hrun, hby⟩
    obtain ⟨k, P, y', hP, hk, e, hr, _⟩ := (mem_xStart_iff hC _).1 hi
    rw [sing_inj e] at hrun
    exact ⟨k, P, y, hP, hk, rfl, (run_of_ereach hr).trans hrun, hby⟩
  · rintro ⟨k, P, y, hP, hk, rfl, hrun, hby⟩
    obtain ⟨j, hbj, h1, h2⟩ := run_split hrun hby [] w rfl
    exact ⟨j, y, (mem_xStart_iff hC _).2 ⟨k, P, j, hP, hk, rfl, ereach_of_run_nil h1 rfl, hbj⟩,
      rfl, h2, hby⟩

end RegexS
end Gocc
