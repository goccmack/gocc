import Gocc.Model.LitConv
import Gocc.Proofs.Utf8
import Gocc.Spec.GoRuneLit
/-
Rune literal conversion: the digit loop `escDigits` on a list of digit characters computes their positional
value (`escDigits_map`), hence `litToRune` on each shape of valid Go rune literal; the generated copy is the
same function.
-/
namespace Gocc

theorem HexDigit.val_lt (h : HexDigit) : h.val < 16 := h.v.isLt
theorem OctDigit.val_lt (d : OctDigit) : d.val < 8 := d.v.isLt

theorem HexDigit.char_lt (h : HexDigit) : h.char < 128 := by
  have := h.val_lt
  unfold HexDigit.char
  split
  · omega
  split <;> omega

theorem OctDigit.char_lt (d : OctDigit) : d.char < 128 := by
  have := d.val_lt
  unfold OctDigit.char; omega

theorem digitVal_dec (n : Nat) (h : n < 10) : digitVal ((48 + n : Nat) : Int) = n := by
  unfold digitVal
  rw [if_pos (by omega)]; omega

theorem digitVal_lower (n : Nat) (h : n < 6) : digitVal ((97 + n : Nat) : Int) = n + 10 := by
  unfold digitVal
  rw [if_neg (by omega), if_pos (by omega)]; omega

theorem digitVal_upper (n : Nat) (h : n < 6) : digitVal ((65 + n : Nat) : Int) = n + 10 := by
  unfold digitVal
  rw [if_neg (by omega), if_neg (by omega), if_pos (by omega)]; omega

theorem digitVal_hexChar (h : HexDigit) : digitVal (h.char : Int) = h.val := by
  have := h.val_lt
  unfold HexDigit.char
  split
  · exact digitVal_dec _ ‹_›
  split
  · rw [digitVal_upper _ (by omega)]; omega
  · rw [digitVal_lower _ (by omega)]; omega

theorem digitVal_octChar (d : OctDigit) : digitVal (d.char : Int) = d.val :=
  digitVal_dec _ (Nat.lt_trans d.val_lt (by decide))

/-- the number written by the digits `ds`, most significant first, continuing from `x` -/
def posVal {α : Type} (val : α → Nat) (base x : Nat) (ds : List α) : Nat :=
  ds.foldl (fun a d => a * base + val d) x

/-- The loop of `escapeCharVal` over the spellings of the digits `ds`, all of them available before the closing
quote, consumes every digit and returns their positional value.  The digit alphabet is arbitrary: `char d` is the
ASCII byte that spells `d`, `val d` its value. -/
theorem escDigits_map {α : Type} (char val : α → Nat) (base : Nat) (hc : ∀ d, char d < 128)
    (hd : ∀ d, digitVal (char d : Int) = val d) (hb : ∀ d, val d < base)
    (ds : List α) (rest : List Nat) (avail : Int) (x : Nat) (ha : (ds.length : Int) ≤ avail) :
    escDigits base ds.length (ds.map char ++ rest) avail x = .ok (posVal val base x ds) := by
  induction ds generalizing avail x with
  | nil => rfl
  | cons d ds ih =>
    rw [List.length_cons] at ha
    have hav : ¬ (avail ≤ 0) := by omega
    simp only [List.length_cons, List.map_cons, List.cons_append, escDigits, hav, if_false,
      decodeRune_ascii _ _ (hc d), hd, Nat.not_le.2 (hb d), List.drop_succ_cons, List.drop_zero]
    exact ih _ _ (by omega)

theorem escNum_ok {α : Type} (char val : α → Nat) (base max : Nat) (hc : ∀ d, char d < 128)
    (hd : ∀ d, digitVal (char d : Int) = val d) (hb : ∀ d, val d < base)
    (ds : List α) (rest : List Nat) (avail : Int) (ha : (ds.length : Int) ≤ avail)
    {n : Nat} (hv : posVal val base 0 ds = n) (h1 : n ≤ max) (h2 : ¬(0xD800 ≤ n ∧ n < 0xE000)) :
    (escDigits base ds.length (ds.map char ++ rest) avail 0 >>= fun x => escFinish x max) =
      .ok (n : Int) := by
  rw [escDigits_map char val base hc hd hb ds rest avail 0 ha, hv]
  exact if_neg (by omega)

theorem escapeCharVal_oct (q b c : Nat) (rest : List Nat) (h : 48 ≤ c ∧ c ≤ 55) :
    escapeCharVal (q :: b :: c :: rest) =
      (escDigits 8 3 (c :: rest) (((q :: b :: c :: rest).length : Int) - 1 - 2) 0 >>=
        fun x => escFinish x 255) := by
  have : c ≠ 97 ∧ c ≠ 98 ∧ c ≠ 102 ∧ c ≠ 110 ∧ c ≠ 114 ∧ c ≠ 116 ∧ c ≠ 118 ∧ c ≠ 92 ∧ c ≠ 39 := by omega
  simp only [escapeCharVal, this, h, if_false, if_true, and_self]

theorem escapeCharVal_x (q b : Nat) (rest : List Nat) :
    escapeCharVal (q :: b :: 120 :: rest) =
      (escDigits 16 2 rest (((q :: b :: 120 :: rest).length : Int) - 1 - 3) 0 >>=
        fun x => escFinish x 255) := rfl

theorem escapeCharVal_u (q b : Nat) (rest : List Nat) :
    escapeCharVal (q :: b :: 117 :: rest) =
      (escDigits 16 4 rest (((q :: b :: 117 :: rest).length : Int) - 1 - 3) 0 >>=
        fun x => escFinish x 0x10FFFF) := rfl

theorem escapeCharVal_U (q b : Nat) (rest : List Nat) :
    escapeCharVal (q :: b :: 85 :: rest) =
      (escDigits 16 8 rest (((q :: b :: 85 :: rest).length : Int) - 1 - 3) 0 >>=
        fun x => escFinish x 0x10FFFF) := rfl

theorem litToRune_esc (q : Nat) (rest : List Nat) :
    litToRune (q :: 92 :: rest) = escapeCharVal (q :: 92 :: rest) := rfl

theorem gDigitVal_eq : gDigitVal = digitVal := rfl

theorem gEscDigits_eq : gEscDigits = escDigits := by
  funext base i
  induction i with
  | zero => rfl
  | succ i ih => funext rest avail x; simp only [gEscDigits, escDigits, gDigitVal_eq, ih]

theorem gEscapeCharVal_eq : gEscapeCharVal = escapeCharVal := by
  funext lit
  unfold gEscapeCharVal escapeCharVal
  rw [gEscDigits_eq]

open GoRuneLit in
theorem litToRune_raw (c : Nat) (h : (raw c).valid = true) :
    litToRune (raw c).spell = .ok (raw c).value := by
  simp only [valid, isSurrogate, Bool.and_eq_true, Bool.not_eq_true', decide_eq_true_eq,
    Bool.and_eq_false_iff, decide_eq_false_iff_not] at h
  obtain ⟨⟨⟨⟨h1, h2⟩, h3⟩, h4⟩, h5⟩ := h
  have hs : isScalar c = true := by rw [isScalar_iff]; omega
  have hd := decodeRune_encodeRune c [39] hs
  obtain ⟨b, tl, he, hb⟩ := encodeRune_head c h4
  simp only [spell, body, value, number]
  rw [he] at hd ⊢
  simp only [litToRune, List.cons_append, hb, if_false, List.drop_succ_cons, List.drop_zero]
  rw [List.cons_append] at hd
  rw [hd]
  simp only [List.length_cons, List.length_append, List.length_nil]
  rw [if_neg (by omega)]

open GoRuneLit in
theorem litToRune_named (e : NamedEsc) : litToRune (named e).spell = .ok (named e).value := by
  cases e <;> rfl

/-- `\x`, `\u`, `\U`: a key `k` after which `escapeCharVal` reads as many hex digits as `ds` has and checks the
result against `max` -/
theorem litToRune_hexEsc (k max : Nat) (ds : List HexDigit)
    (hk : ∀ rest, escapeCharVal (39 :: 92 :: k :: rest) =
      (escDigits 16 ds.length rest (((39 :: 92 :: k :: rest).length : Int) - 1 - 3) 0 >>=
        fun x => escFinish x max))
    {n : Nat} (hv : posVal HexDigit.val 16 0 ds = n) (h1 : n ≤ max) (h2 : ¬(0xD800 ≤ n ∧ n < 0xE000)) :
    litToRune (39 :: 92 :: k :: (ds.map HexDigit.char ++ [39])) = .ok (n : Int) := by
  rw [litToRune_esc, hk]
  refine escNum_ok _ _ 16 max HexDigit.char_lt digitVal_hexChar HexDigit.val_lt ds [39] _ ?_ hv h1 h2
  simp only [List.length_cons, List.length_append, List.length_map, List.length_nil]
  omega

open GoRuneLit in
theorem litToRune_hex2 (h1 h0 : HexDigit) :
    litToRune (hex2 h1 h0).spell = .ok (hex2 h1 h0).value := by
  have b1 := h1.val_lt; have b0 := h0.val_lt
  have hv : posVal HexDigit.val 16 0 [h1, h0] = (hex2 h1 h0).number := by
    simp only [posVal, number, List.foldl_cons, List.foldl_nil]; omega
  exact litToRune_hexEsc 120 255 [h1, h0] (escapeCharVal_x 39 92) hv (by simp only [number]; omega)
    (by simp only [number]; omega)

open GoRuneLit in
theorem litToRune_oct3 (o2 o1 o0 : OctDigit) (h : (oct3 o2 o1 o0).valid = true) :
    litToRune (oct3 o2 o1 o0).spell = .ok (oct3 o2 o1 o0).value := by
  have b2 := o2.val_lt; have b1 := o1.val_lt; have b0 := o0.val_lt
  have hv : posVal OctDigit.val 8 0 [o2, o1, o0] = (oct3 o2 o1 o0).number := by
    simp only [posVal, number, List.foldl_cons, List.foldl_nil]; omega
  simp only [valid, decide_eq_true_eq] at h
  have hr : 48 ≤ o2.char ∧ o2.char ≤ 55 := by unfold OctDigit.char; omega
  exact (litToRune_esc ..).trans ((escapeCharVal_oct _ _ _ _ hr).trans
    (escNum_ok _ _ 8 255 OctDigit.char_lt digitVal_octChar OctDigit.val_lt [o2, o1, o0] [39]
      (((39 :: 92 :: o2.char :: [o1.char, o0.char, 39]).length : Int) - 1 - 2)
      (by simp only [List.length_cons, List.length_nil]; omega) hv h (by omega)))

open GoRuneLit in
theorem litToRune_u4 (h3 h2 h1 h0 : HexDigit) (h : (u4 h3 h2 h1 h0).valid = true) :
    litToRune (u4 h3 h2 h1 h0).spell = .ok (u4 h3 h2 h1 h0).value := by
  have b3 := h3.val_lt; have b2 := h2.val_lt; have b1 := h1.val_lt; have b0 := h0.val_lt
  have hv : posVal HexDigit.val 16 0 [h3, h2, h1, h0] = (u4 h3 h2 h1 h0).number := by
    simp only [posVal, number, List.foldl_cons, List.foldl_nil]; omega
  simp only [valid, isSurrogate, Bool.not_eq_true', Bool.and_eq_false_iff,
    decide_eq_false_iff_not] at h
  exact litToRune_hexEsc 117 0x10FFFF [h3, h2, h1, h0] (escapeCharVal_u 39 92) hv
    (by simp only [number]; omega) (by omega)

open GoRuneLit in
theorem litToRune_U8 (h7 h6 h5 h4 h3 h2 h1 h0 : HexDigit)
    (h : (U8 h7 h6 h5 h4 h3 h2 h1 h0).valid = true) :
    litToRune (U8 h7 h6 h5 h4 h3 h2 h1 h0).spell = .ok (U8 h7 h6 h5 h4 h3 h2 h1 h0).value := by
  have hv : posVal HexDigit.val 16 0 [h7, h6, h5, h4, h3, h2, h1, h0] =
      (U8 h7 h6 h5 h4 h3 h2 h1 h0).number := by
    simp only [posVal, number, List.foldl_cons, List.foldl_nil]; omega
  simp only [valid, isSurrogate, Bool.and_eq_true, Bool.not_eq_true', decide_eq_true_eq,
    Bool.and_eq_false_iff, decide_eq_false_iff_not] at h
  exact litToRune_hexEsc 85 0x10FFFF [h7, h6, h5, h4, h3, h2, h1, h0] (escapeCharVal_U 39 92) hv h.1
    (by omega)

end Gocc
