import Gocc.Model.ValidateC
import Gocc.Proofs.RecoverLoop
import Gocc.Proofs.Validate
/-
The parser without recovery (`PTables.noRecovery`, `PCfg.noRecovery`, Spec/Recover.lean) as seen by
the validators: `safe`, `safeEnds`, `complete`, `kindsTotal` and `ActsOk` do not read `canRecover`,
so they hold for `T.noRecovery` / `cfg.noRecovery` as soon as they hold for `T` / `cfg`; and two
facts on fuel.  (Grammar level, "as if those alternatives were absent": Proofs/DerivesAvoid.lean.)
-/
namespace Gocc.GenInert

theorem act_noRecovery (T : PTables) (s t : Nat) : T.noRecovery.act s t = T.act s t := rfl

theorem safe_noRecovery (G : NGrammar) (T : PTables) (c : Cert) :
    safe G T.noRecovery c = safe G T c := rfl

theorem safeEnds_noRecovery (T : PTables) (c : Cert) :
    safeEnds T.noRecovery c = safeEnds T c := rfl

theorem complete_noRecovery (G : NGrammar) (T : PTables) (fc : FirstCert) (c : CertLA) :
    complete G T.noRecovery fc c = complete G T fc c := rfl

theorem kindsTotal_noRecovery (T : PTables) : kindsTotal T.noRecovery = kindsTotal T := rfl

theorem actsOk_noRecovery {cfg : PCfg} (hA : ActsOk cfg) : ActsOk cfg.noRecovery := hA

theorem noRecovery_T {cfg : PCfg} {T : PTables} (hT : cfg.T = T) :
    cfg.noRecovery.T = T.noRecovery := by
  subst hT; rfl

theorem parse_fuel_le {cfg : PCfg} {w : List Nat} {fuel fuel' : Nat} {old : PState}
    (h : (parse cfg w fuel old).1 ≠ Outcome.outOfFuel) (hle : fuel ≤ fuel') :
    parse cfg w fuel' old = parse cfg w fuel old := by
  obtain ⟨k, rfl⟩ := Nat.exists_eq_add_of_le hle
  exact parseLoop_fuel_mono h k

theorem not_accept_of_synErr {cfg : PCfg} {w : List Nat} {fuel : Nat} {old : PState}
    {i t : Nat} {e : List Nat} {s : Nat}
    (h : (parse cfg w fuel old).1 = Outcome.synErr i t e s) (fuel' : Nat) (res : Attr) :
    (parse cfg w fuel' old).1 ≠ Outcome.accept res := by
  intro h'
  rcases Nat.le_total fuel fuel' with hle | hle
  · rw [parse_fuel_le (by rw [h]; intro hh; cases hh) hle, h] at h'
    cases h'
  · rw [parse_fuel_le (by rw [h']; intro hh; cases hh) hle, h'] at h
    cases h

end Gocc.GenInert
