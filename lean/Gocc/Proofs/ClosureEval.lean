import Gocc.Model.LR1
/-
A `decide`-friendly copy of the LR(1) closure, for the examples of Props/C09.lean.
`first1` sorts the look-aheads with `List.mergeSort`, which is defined by well-founded recursion and
does not reduce under `decide`; the copies below use insertion sort instead and are provably equal
to the model functions.
-/
namespace Gocc

def insStr (a : String) : List String → List String
  | [] => [a]
  | b :: l => if a ≤ b then a :: b :: l else b :: insStr a l

def insSortStr : List String → List String
  | [] => []
  | a :: l => insStr a (insSortStr l)

theorem insStr_perm (a : String) : ∀ l, (insStr a l).Perm (a :: l) := by
  intro l
  induction l with
  | nil => exact List.Perm.refl _
  | cons b l ih =>
    simp only [insStr]
    split
    · exact List.Perm.refl _
    · exact ((ih.cons b).trans (List.Perm.swap a b l))

theorem insStr_pairwise (a : String) : ∀ l, l.Pairwise (· ≤ ·) → (insStr a l).Pairwise (· ≤ ·) := by
  intro l
  induction l with
  | nil => intro _; simp [insStr]
  | cons b l ih =>
    intro h
    simp only [insStr]
    rw [List.pairwise_cons] at h
    split
    · rename_i hab
      rw [List.pairwise_cons]
      refine ⟨?_, List.pairwise_cons.2 h⟩
      intro x hx
      rcases List.mem_cons.1 hx with rfl | hx
      · exact hab
      · exact String.le_trans hab (h.1 x hx)
    · rename_i hab
      have hba : b ≤ a := by
        rcases String.le_total a b with h' | h'
        · exact absurd h' hab
        · exact h'
      rw [List.pairwise_cons]
      refine ⟨?_, ih h.2⟩
      intro x hx
      have := (insStr_perm a l).subset hx
      rcases List.mem_cons.1 this with rfl | hx'
      · exact hba
      · exact h.1 x hx'

theorem insSortStr_perm : ∀ l, (insSortStr l).Perm l := by
  intro l
  induction l with
  | nil => exact List.Perm.refl _
  | cons a l ih => exact (insStr_perm a _).trans (ih.cons a)

theorem insSortStr_pairwise : ∀ l, (insSortStr l).Pairwise (· ≤ ·) := by
  intro l
  induction l with
  | nil => simp [insSortStr]
  | cons a l ih => exact insStr_pairwise a _ ih

theorem sortStrings_eq_insSortStr (l : List String) : sortStrings l = insSortStr l := by
  unfold sortStrings
  apply List.Perm.eq_of_pairwise (le := (· ≤ ·))
  · intro a b _ _ h1 h2; exact String.le_antisymm h1 h2
  · have := List.pairwise_mergeSort (le := fun (a b : String) => decide (a ≤ b))
      (by intro a b c h1 h2; simp only [decide_eq_true_eq] at *; exact String.le_trans h1 h2)
      (by intro a b; simp only [Bool.or_eq_true, decide_eq_true_eq]; exact String.le_total a b) l
    simpa using this
  · exact insSortStr_pairwise l
  · exact (List.mergeSort_perm l _).trans (insSortStr_perm l).symm

def first1I (C : LRCtx) (i : Item) : List String :=
  insSortStr (firstS C.S C.fs ((C.body i).drop (i.d + 1) ++ [i.la]))

def closureStepI (C : LRCtx) (i : Item) : List Item :=
  if i.d ≥ C.len i || C.S.isTerminal (C.expected i) then []
  else
    let exp := C.expected i
    let f := first1I C i
    (List.range C.prods.size).flatMap fun pi =>
      if C.prods[pi]!.head == exp then f.map fun t => ⟨pi, 0, t⟩ else []

def closureLoopI (C : LRCtx) : Nat → Nat → List Item → List Item
  | 0, _, c => c
  | fuel + 1, k, c =>
    match c[k]? with
    | none => c
    | some i => closureLoopI C fuel (k + 1) ((closureStepI C i).foldl addItem c)

def closureI (C : LRCtx) (items : List Item) : List Item :=
  closureLoopI C (C.maxItems + items.length + 1) 0 (items.foldl addItem [])

theorem closureStep_eq_I (C : LRCtx) (i : Item) : closureStep C i = closureStepI C i := by
  unfold closureStep closureStepI first1 first1I
  rw [sortStrings_eq_insSortStr]

theorem closureLoop_eq_I (C : LRCtx) : ∀ (fuel k : Nat) (c : List Item),
    closureLoop C fuel k c = closureLoopI C fuel k c := by
  intro fuel
  induction fuel with
  | zero => intro k c; rfl
  | succ fuel ih =>
    intro k c
    cases hk : c[k]? with
    | none => simp only [closureLoop, closureLoopI, hk]
    | some i => simp only [closureLoop, closureLoopI, hk]; rw [closureStep_eq_I, ih]

theorem closure_eq_I (C : LRCtx) (items : List Item) : closure C items = closureI C items := by
  unfold closure closureI
  exact closureLoop_eq_I C _ _ _

end Gocc
