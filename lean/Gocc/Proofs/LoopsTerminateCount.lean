/-
Counting lemma for the termination of the two item-set loops (`lrLoop`, `lexLoop`), core Lean only;
the Go `Equal` test on lists (`sameList`) and collections of pairwise different sets (`Distinct`).

A list of pairwise "set-different", duplicate-free lists over a finite universe `U` has at most
`2 ^ |U|` elements:
  * `charVec U s` is the characteristic Boolean vector of `s` over `U`;
  * two duplicate-free lists over `U` with the same vector are equal as sets and have the same
    length, i.e. the Go `Equal` test (`sameItems` / `sameLItems`) answers `true` on them;
  * a duplicate-free list of Boolean vectors of length `n` is a sub-list of the `2 ^ n` vectors
    enumerated by `allVecs n`.
-/
namespace Gocc.LoopsT

def allVecs : Nat → List (List Bool)
  | 0 => [[]]
  | n + 1 => (allVecs n).map (true :: ·) ++ (allVecs n).map (false :: ·)

theorem allVecs_length (n : Nat) : (allVecs n).length = 2 ^ n := by
  induction n with
  | zero => rfl
  | succ n ih =>
    simp only [allVecs, List.length_append, List.length_map, ih, Nat.pow_succ]
    omega

theorem mem_allVecs : ∀ (v : List Bool), v ∈ allVecs v.length
  | [] => by simp [allVecs]
  | b :: v => by
    have := mem_allVecs v
    cases b <;> simp [allVecs, this]

theorem nodup_vecs_length_le {L : List (List Bool)} {n : Nat} (hn : L.Nodup)
    (hl : ∀ v ∈ L, v.length = n) : L.length ≤ 2 ^ n := by
  rw [← allVecs_length n]
  apply List.Nodup.length_le_of_subset hn
  intro v hv
  rw [← hl v hv]
  exact mem_allVecs v

section
variable {α : Type} [BEq α] [LawfulBEq α]

def charVec (U s : List α) : List Bool := U.map fun x => s.contains x

theorem charVec_length (U s : List α) : (charVec U s).length = U.length := by
  simp [charVec]

theorem sub_of_charVec_eq {U s t : List α} (h : charVec U s = charVec U t)
    (hs : ∀ x ∈ s, x ∈ U) : ∀ x ∈ s, x ∈ t := by
  intro x hx
  have h' : s.contains x = t.contains x := (List.map_inj_left.1 h) x (hs x hx)
  have h1 : s.contains x = true := List.contains_iff_mem.2 hx
  rw [h'] at h1
  exact List.contains_iff_mem.1 h1

/-- the Go `Equal` test (same length, every element of the first is in the second).  `sameItems`,
    `sameLItems`, `sameX` of the models are this function at their element types, written out: the
    lemmas below apply to them as they stand. -/
def sameList (a b : List α) : Bool := a.length == b.length && a.all b.contains

theorem sameList_of_mem_iff {a b : List α} (ha : a.Nodup) (hb : b.Nodup) (h : ∀ x, x ∈ a ↔ x ∈ b) :
    sameList a b = true := by
  have l1 := List.Nodup.length_le_of_subset ha (fun x hx => (h x).1 hx)
  have l2 := List.Nodup.length_le_of_subset hb (fun x hx => (h x).2 hx)
  simp only [sameList, Bool.and_eq_true, beq_iff_eq, List.all_eq_true, List.contains_iff_mem]
  exact ⟨by omega, fun x hx => (h x).1 hx⟩

/-- only `a` has to be duplicate-free: a duplicate-free list inside a list that is not longer
    contains it -/
theorem mem_iff_of_sameList {a b : List α} (ha : a.Nodup) (h : sameList a b = true) :
    ∀ x, x ∈ a ↔ x ∈ b := by
  simp only [sameList, Bool.and_eq_true, beq_iff_eq, List.all_eq_true, List.contains_iff_mem] at h
  refine fun x => ⟨h.2 x, fun hx => Classical.byContradiction fun hxa => ?_⟩
  have := List.Nodup.length_le_of_subset (List.nodup_cons.2 ⟨hxa, ha⟩)
    (List.forall_mem_cons.2 ⟨hx, h.2⟩)
  rw [List.length_cons] at this
  omega

theorem sameList_of_charVec_eq {U s t : List α} (hs : ∀ x ∈ s, x ∈ U) (ht : ∀ x ∈ t, x ∈ U)
    (hsn : s.Nodup) (htn : t.Nodup) (h : charVec U s = charVec U t) : sameList s t = true :=
  sameList_of_mem_iff hsn htn fun x => ⟨sub_of_charVec_eq h hs x, sub_of_charVec_eq h.symm ht x⟩

theorem length_le_two_pow {β : Type} (U : List α) (f : β → List α) (L : List β)
    (hU : ∀ a ∈ L, ∀ x ∈ f a, x ∈ U) (hn : ∀ a ∈ L, (f a).Nodup)
    (hd : L.Pairwise fun a b => sameList (f a) (f b) = false) : L.length ≤ 2 ^ U.length := by
  have hv : (L.map fun a => charVec U (f a)).Nodup := by
    unfold List.Nodup
    rw [List.pairwise_map]
    refine List.Pairwise.imp_of_mem ?_ hd
    intro a b ha hb hab heq
    rw [sameList_of_charVec_eq (hU a ha) (hU b hb) (hn a ha) (hn b hb) heq] at hab
    cases hab
  have := nodup_vecs_length_le hv (n := U.length) (by
    intro v hv'
    obtain ⟨a, _, rfl⟩ := List.mem_map.1 hv'
    exact charVec_length U (f a))
  simpa using this

/-! ### a collection of pairwise different item sets

The state of the two set loops: an array of objects carrying lists that satisfy `G` (duplicate-free,
over a finite universe), an earlier one never passing the `Equal` test against a later one. -/

structure Distinct {σ : Type} (items : σ → List α) (G : List α → Prop) (sets : Array σ) : Prop where
  good : ∀ (j : Nat) (st : σ), sets[j]? = some st → G (items st)
  dist : ∀ (j k : Nat) (sj sk : σ), j < k → sets[j]? = some sj → sets[k]? = some sk →
    sameList (items sj) (items sk) = false

section
variable {σ : Type} {items : σ → List α} {G : List α → Prop} {sets : Array σ}

theorem Distinct.size_le {U : List α} (hG : ∀ l, G l → l.Nodup ∧ ∀ x ∈ l, x ∈ U)
    (h : Distinct items G sets) : sets.size ≤ 2 ^ U.length := by
  have hget : ∀ a ∈ sets.toList, G (items a) := fun a ha => by
    obtain ⟨j, hj, rfl⟩ := List.mem_iff_getElem.1 ha
    exact h.good j _ (by rw [Array.getElem_toList]; exact Array.getElem?_eq_getElem _)
  have := length_le_two_pow U items sets.toList (fun a ha => (hG _ (hget a ha)).2)
    (fun a ha => (hG _ (hget a ha)).1) (by
      rw [List.pairwise_iff_getElem]
      intro i j hi hj hij
      exact h.dist i j _ _ hij (Array.getElem?_eq_getElem _) (Array.getElem?_eq_getElem _))
  rwa [Array.length_toList] at this

omit [BEq α] [LawfulBEq α] in
theorem getElem?_singleton_some {a x : α} {j : Nat} (h : (#[a] : Array α)[j]? = some x) :
    j = 0 ∧ x = a := by
  rw [Array.getElem?_singleton] at h
  split at h
  · exact ⟨‹_›, (Option.some.inj h).symm⟩
  · cases h

omit [LawfulBEq α] in
theorem Distinct.singleton {s : σ} (hs : G (items s)) : Distinct items G #[s] :=
  ⟨fun j st hj => (getElem?_singleton_some hj).2 ▸ hs, fun j k sj sk hjk hj hk => by
    have := (getElem?_singleton_some hj).1; have := (getElem?_singleton_some hk).1; omega⟩

omit [LawfulBEq α] in
theorem Distinct.modify (h : Distinct items G sets) (i : Nat) (f : σ → σ)
    (hf : ∀ s, items (f s) = items s) : Distinct items G (sets.modify i f) := by
  have hget : ∀ (j : Nat) (st' : σ), (sets.modify i f)[j]? = some st' →
      ∃ st, sets[j]? = some st ∧ items st' = items st := by
    intro j st' hj
    rw [Array.getElem?_modify] at hj
    split at hj
    · obtain ⟨st, hst, rfl⟩ := Option.map_eq_some_iff.1 hj
      exact ⟨st, hst, hf st⟩
    · exact ⟨st', hj, rfl⟩
  refine ⟨fun j st' hj => ?_, fun j k sj sk hjk hj hk => ?_⟩
  · obtain ⟨st, g1, g2⟩ := hget j st' hj
    exact g2 ▸ h.good j st g1
  · obtain ⟨st1, g1, g2⟩ := hget j sj hj
    obtain ⟨st2, k1, k2⟩ := hget k sk hk
    rw [g2, k2]; exact h.dist j k st1 st2 hjk g1 k1

omit [LawfulBEq α] in
theorem Distinct.push (h : Distinct items G sets) (s : σ) (hs : G (items s))
    (hd : ∀ st ∈ sets, sameList (items st) (items s) = false) : Distinct items G (sets.push s) := by
  have hget : ∀ (j : Nat) (st : σ), (sets.push s)[j]? = some st →
      (j < sets.size ∧ sets[j]? = some st) ∨ (j = sets.size ∧ st = s) := by
    intro j st hj
    rw [Array.getElem?_push] at hj
    split at hj
    · exact .inr ⟨‹_›, (Option.some.inj hj).symm⟩
    · exact .inl ⟨(Array.getElem?_eq_some_iff.1 hj).1, hj⟩
  refine ⟨fun j st hj => ?_, fun j k sj sk hjk hj hk => ?_⟩
  · rcases hget j st hj with ⟨_, g⟩ | ⟨_, rfl⟩
    · exact h.good j st g
    · exact hs
  · rcases hget j sj hj with ⟨hlt, g⟩ | ⟨hje, _⟩
    · rcases hget k sk hk with ⟨_, g'⟩ | ⟨_, rfl⟩
      · exact h.dist j k sj sk hjk g g'
      · exact hd sj (Array.mem_of_getElem? g)
    · have := (Array.getElem?_eq_some_iff.1 hk).1
      rw [Array.size_push] at this
      omega

theorem Distinct.ne_of_ne (hG : ∀ l, G l → l.Nodup) (h : Distinct items G sets) {j k : Nat}
    {sj sk : σ} (hjk : j ≠ k) (hj : sets[j]? = some sj) (hk : sets[k]? = some sk) :
    ¬ ∀ x, x ∈ items sj ↔ x ∈ items sk := by
  intro hsame
  have nj := hG _ (h.good j sj hj)
  have nk := hG _ (h.good k sk hk)
  rcases Nat.lt_or_gt_of_ne hjk with hlt | hlt
  · exact Bool.false_ne_true ((h.dist j k sj sk hlt hj hk).symm.trans (sameList_of_mem_iff nj nk hsame))
  · exact Bool.false_ne_true ((h.dist k j sk sj hlt hk hj).symm.trans
      (sameList_of_mem_iff nk nj fun x => (hsame x).symm))

end

end
end Gocc.LoopsT
