import Gocc.Proofs.ListAux
import Gocc.Model.ValidateC
/-
What a successful run of `genParser` returns: the context, the states and every field of the
tables, obtained by unfolding `genParser` once; then the cells and the shape of the action and goto
tables read from the states.
-/
namespace Gocc

/-- the row of the goto table that `genParser` builds from a state (`getGotoRowData`; -1: no
    entry) -/
def gotoRow (ntList : List String) (st : LRState) : Array Int :=
  (ntList.map fun nt => match st.next nt with
    | some n => (n : Int)
    | none => -1).toArray

theorem genParser_unfold {syn : List SProd} {ids : List String} {r : LRResult}
    (h : genParser syn ids = .ok r) :
    ∃ S0 rows, newSymbols (augment syn) = .ok S0 ∧
      r.ctx = { prods := (augment syn).toArray, S := S0.addTokens ids,
                fs := firstSets (S0.addTokens ids) (augment syn) } ∧
      r.states = lrLoop r.ctx 4096 0 #[{ items := closure r.ctx [⟨0, 0, "␚"⟩] }] ∧
      r.states.toList.mapM (fun st => r.ctx.S.terminals.mapM (setAction r.ctx st)) = .ok rows ∧
      r.tables =
        { terminals := r.ctx.S.terminals, nts := r.ctx.S.ntList,
          action := (rows.map fun row => (row.map (·.1)).toArray).toArray,
          goto_ := r.states.map (gotoRow r.ctx.S.ntList),
          canRecover := r.states.map fun st => st.items.any (itemCanRecover r.ctx),
          prodNT := (augment syn).toArray.map fun p => r.ctx.S.ntList.idxOf p.head,
          prodLen := (augment syn).toArray.map prodLen,
          prodKind := (augment syn).toArray.map fun p =>
            if p.act != 0 then RKind.user p.act p.actId
            else if prodLen p == 0 then RKind.nilEmpty else RKind.dflt,
          conflictStates := (rows.filter fun row => row.any (·.2)).length,
          nStates := r.states.size, numSymbols := r.ctx.S.typeMap.length } := by
  unfold genParser at h
  simp only [bind, Except.bind] at h
  split at h
  · cases h
  · rename_i S0 hS0
    split at h
    · cases h
    · rename_i rows hrows
      cases h
      exact ⟨S0, rows, hS0, rfl, rfl, hrows, rfl⟩

theorem genParser_shape {syn : List SProd} {ids : List String} {r : LRResult}
    (h : genParser syn ids = .ok r) :
    ∃ S0, newSymbols (augment syn) = .ok S0 ∧
      r.ctx = { prods := (augment syn).toArray, S := S0.addTokens ids,
                fs := firstSets (S0.addTokens ids) (augment syn) } ∧
      r.states = lrLoop r.ctx 4096 0 #[{ items := closure r.ctx [⟨0, 0, "␚"⟩] }] := by
  obtain ⟨S0, _, h1, h2, h3, -⟩ := genParser_unfold h
  exact ⟨S0, h1, h2, h3⟩

theorem genParser_tables {syn : List SProd} {ids : List String} {r : LRResult}
    (h : genParser syn ids = .ok r) :
    ∃ rows, r.states.toList.mapM (fun st => r.ctx.S.terminals.mapM (setAction r.ctx st)) = .ok rows ∧
      r.tables.terminals = r.ctx.S.terminals ∧ r.tables.nts = r.ctx.S.ntList ∧
      r.tables.action = (rows.map fun row => (row.map (·.1)).toArray).toArray ∧
      r.tables.goto_ = r.states.map (gotoRow r.ctx.S.ntList) ∧
      r.tables.prodNT = (augment syn).toArray.map (fun p => r.ctx.S.ntList.idxOf p.head) ∧
      r.tables.prodLen = (augment syn).toArray.map prodLen ∧
      r.tables.nStates = r.states.size := by
  obtain ⟨_, rows, -, -, -, hrows, ht⟩ := genParser_unfold h
  rw [ht]
  exact ⟨rows, hrows, rfl, rfl, rfl, rfl, rfl, rfl, rfl⟩

theorem genParser_numSymbols {syn : List SProd} {ids : List String} {r : LRResult}
    (h : genParser syn ids = .ok r) : r.tables.numSymbols = r.ctx.S.typeMap.length := by
  obtain ⟨_, _, -, -, -, -, ht⟩ := genParser_unfold h
  rw [ht]

theorem act_of_state {syn : List SProd} {ids : List String} {r : LRResult}
    (h : genParser syn ids = .ok r) {s t : Nat} {st : LRState} {sym : String}
    (hs : r.states[s]? = some st) (ht : r.ctx.S.terminals[t]? = some sym) :
    ∃ res, setAction r.ctx st sym = .ok res ∧ r.tables.act s t = res.1 ∧
      (r.tables.conflictStates = 0 → res.2 = false) := by
  obtain ⟨_, rows, -, -, -, hrows, hT⟩ := genParser_unfold h
  obtain ⟨row, hrow, hrowf⟩ := mapM_ok_get hrows (Array.getElem?_toList ▸ hs)
  obtain ⟨res, hres, hresf⟩ := mapM_ok_get hrowf ht
  refine ⟨res, hresf, ?_, fun hc => ?_⟩
  · rw [PTables.act, hT]
    simp only [List.getElem?_toArray, List.getElem?_map, hrow, hres, Option.map_some,
      Option.bind_some, Option.join_some]
  · rw [hT] at hc
    have hrm : row ∉ rows.filter fun row => row.any (·.2) := by
      rw [List.eq_nil_of_length_eq_zero hc]; exact List.not_mem_nil
    cases hb : res.2 with
    | false => rfl
    | true =>
      exact (hrm (List.mem_filter.2 ⟨List.mem_of_getElem? hrow,
        List.any_eq_true.2 ⟨res, List.mem_of_getElem? hres, hb⟩⟩)).elim

theorem act_entry {syn : List SProd} {ids : List String} {r : LRResult}
    (h : genParser syn ids = .ok r) {s t : Nat} {a : Act} (ha : r.tables.act s t = some a) :
    ∃ st sym b, r.states[s]? = some st ∧ r.ctx.S.terminals[t]? = some sym ∧
      setAction r.ctx st sym = .ok (some a, b) := by
  obtain ⟨_, rows, -, -, -, hrows, hT⟩ := genParser_unfold h
  rw [PTables.act, hT] at ha
  simp only [List.getElem?_toArray, List.getElem?_map] at ha
  rcases hrow : rows[s]? with _ | row <;> rw [hrow] at ha
  · cases ha
  · simp only [Option.map_some, Option.bind_some, List.getElem?_toArray, List.getElem?_map] at ha
    rcases hres : row[t]? with _ | res <;> rw [hres] at ha
    · cases ha
    · obtain ⟨st, hst, hrowf⟩ := mapM_ok_get' hrows hrow
      obtain ⟨sym, hsym, hresf⟩ := mapM_ok_get' hrowf hres
      have ha : res.1 = some a := ha
      exact ⟨st, sym, res.2, Array.getElem?_toList ▸ hst, hsym, by rw [hresf, ← ha]⟩

theorem goto_cell {syn : List SProd} {ids : List String} {r : LRResult}
    (h : genParser syn ids = .ok r) (s A : Nat) :
    (r.tables.goto_[s]?).bind (·[A]?) =
      (r.states[s]?).bind fun st => (r.ctx.S.ntList[A]?).map fun X =>
        match st.next X with
        | some n => (n : Int)
        | none => -1 := by
  obtain ⟨_, _, -, -, -, -, hT⟩ := genParser_unfold h
  rw [hT]
  simp only [Array.getElem?_map]
  rcases r.states[s]? with _ | st
  · rfl
  · simp only [Option.map_some, Option.bind_some, gotoRow, List.getElem?_toArray,
      List.getElem?_map]

theorem goto_entry {syn : List SProd} {ids : List String} {r : LRResult}
    (h : genParser syn ids = .ok r) {s A : Nat} {g : Int}
    (hg : (r.tables.goto_[s]?).bind (·[A]?) = some g) (hpos : 0 ≤ g) :
    ∃ st X n, r.states[s]? = some st ∧ r.ctx.S.ntList[A]? = some X ∧ st.next X = some n ∧
      g = (n : Int) := by
  rw [goto_cell h] at hg
  rcases hst : r.states[s]? with _ | st <;> rw [hst] at hg
  · cases hg
  · rcases hX : r.ctx.S.ntList[A]? with _ | X <;> rw [hX] at hg
    · cases hg
    · rcases hn : st.next X with _ | n <;>
        simp only [Option.bind_some, Option.map_some, Option.some.injEq, hn] at hg
      · omega
      · exact ⟨st, X, n, rfl, rfl, hn, hg.symm⟩

theorem goto_of_state {syn : List SProd} {ids : List String} {r : LRResult}
    (h : genParser syn ids = .ok r) {s B : Nat} {st : LRState} {X : String}
    (hs : r.states[s]? = some st) (hB : r.ctx.S.ntList[B]? = some X) {n : Nat}
    (hn : st.next X = some n) : r.tables.gotoOf s B = some (n : Int) := by
  rw [PTables.gotoOf, goto_cell h, hs, hB]
  simp only [Option.bind_some, Option.map_some, hn]

theorem tables_shape {syn : List SProd} {ids : List String} {r : LRResult}
    (h : genParser syn ids = .ok r) :
    r.tables.action.size = r.states.size ∧
    (∀ row ∈ r.tables.action.toList, row.size = r.ctx.S.terminals.length) ∧
    r.tables.goto_.size = r.states.size ∧
    (∀ row ∈ r.tables.goto_.toList, row.size = r.ctx.S.ntList.length) := by
  obtain ⟨_, rows, -, -, -, hrows, hT⟩ := genParser_unfold h
  rw [hT]
  refine ⟨?_, ?_, Array.size_map .., ?_⟩
  · simp only [List.size_toArray, List.length_map, mapM_ok_length hrows, Array.length_toList]
  · intro arow harow
    obtain ⟨row, hrow, rfl⟩ := List.mem_map.1 harow
    obtain ⟨i, hi⟩ := List.getElem?_of_mem hrow
    obtain ⟨st, -, hst⟩ := mapM_ok_get' hrows hi
    simp only [List.size_toArray, List.length_map, mapM_ok_length hst]
  · intro grow hgrow
    rw [Array.toList_map] at hgrow
    obtain ⟨st, -, rfl⟩ := List.mem_map.1 hgrow
    simp only [gotoRow, List.size_toArray, List.length_map]

/-- the announced number of conflicts counts the states with a flagged entry; `Q` is any
    description of "some entry of the row of `st` is flagged" -/
theorem conflictStates_eq {syn : List SProd} {ids : List String} {r : LRResult}
    (h : genParser syn ids = .ok r) {Q : LRState → Bool}
    (hQ : ∀ st row, r.ctx.S.terminals.mapM (setAction r.ctx st) = .ok row →
      row.any (·.2) = Q st) :
    r.tables.conflictStates = (r.states.toList.filter Q).length := by
  obtain ⟨_, rows, -, -, -, hrows, hT⟩ := genParser_unfold h
  rw [hT]
  have := congrArg (List.countP id) (mapM_ok_map hQ hrows)
  rwa [List.countP_map, List.countP_map, List.countP_eq_length_filter,
    List.countP_eq_length_filter] at this

end Gocc
