import Gocc.Model.ActionFold
/-
Helper lemmas for C04 / C05 (conflict fold of `ItemSet.Action`) and C12 (zip row encoding).

Method for the fold.  Everything is phrased through *membership* of proposed actions
(`some x ∈ acts`), which makes the predicates trivially invariant under permutation and easy
to extend by one element:

  `PanicsP acts`   accept together with a different action, or two different shifts
  `CompP acts`     two different non-error actions
  `SpecP acts r`   `r` is the shift / the smallest reduce / accept / nothing

`foldStep_inv` shows that one step of the fold maintains
`¬PanicsP pre ∧ SpecP pre r ∧ (c ↔ CompP pre)` or lands in `PanicsP`; `foldActs_inv` is the
fold.  The Bool functions of the model (`specResolve`, `competing`) and `panics` (defined here)
are then tied to the Prop predicates.
-/
namespace Gocc

instance : LawfulBEq Act where
  rfl {a} := by cases a <;> simp [BEq.beq, instBEqAct.beq]
  eq_of_beq {a b} h := by
    cases a <;> cases b <;> simp_all [BEq.beq, instBEqAct.beq]

/-- decidable equality of results, for the `decide` examples in the property files -/
instance ActionFold.decEqExcept {ε α} [DecidableEq ε] [DecidableEq α] :
    DecidableEq (Except ε α)
  | .ok a, .ok b => if h : a = b then isTrue (by rw [h]) else isFalse (by intro h'; cases h'; exact h rfl)
  | .error a, .error b =>
    if h : a = b then isTrue (by rw [h]) else isFalse (by intro h'; cases h'; exact h rfl)
  | .ok _, .error _ => isFalse (by intro h; cases h)
  | .error _, .ok _ => isFalse (by intro h; cases h)

theorem setAction_eq_foldActs (C : LRCtx) (st : LRState) (sym : String) :
    setAction C st sym =
      foldActs (st.items.map fun i => itemAction C i sym ((st.next sym).getD 0)) := by
  unfold setAction foldActs
  rw [List.foldlM_map]
  rfl

def PanicsP (acts : List (Option Act)) : Prop :=
  (some Act.accept ∈ acts ∧ ∃ x, some x ∈ acts ∧ x ≠ Act.accept) ∨
  ∃ s t, s ≠ t ∧ some (Act.shift s) ∈ acts ∧ some (Act.shift t) ∈ acts

def CompP (acts : List (Option Act)) : Prop :=
  ∃ x y, some x ∈ acts ∧ some y ∈ acts ∧ x ≠ y

def SpecP (acts : List (Option Act)) : Option Act → Prop
  | none => ∀ x, some x ∉ acts
  | some (.shift s) => some (.shift s) ∈ acts
  | some (.reduce p) => some (.reduce p) ∈ acts ∧ (∀ s, some (.shift s) ∉ acts) ∧
      ∀ q, some (.reduce q) ∈ acts → p ≤ q
  | some .accept => some .accept ∈ acts ∧ (∀ s, some (.shift s) ∉ acts) ∧
      ∀ p, some (.reduce p) ∉ acts

theorem SpecP_congr {l l' : List (Option Act)} (h : ∀ x : Act, some x ∈ l ↔ some x ∈ l')
    (r : Option Act) : SpecP l r ↔ SpecP l' r := by
  rcases r with _ | r
  · simp [SpecP, h]
  · cases r <;> simp [SpecP, h]

theorem PanicsP_congr {l l' : List (Option Act)} (h : ∀ x : Act, some x ∈ l ↔ some x ∈ l') :
    PanicsP l ↔ PanicsP l' := by
  simp [PanicsP, h]

theorem CompP_congr {l l' : List (Option Act)} (h : ∀ x : Act, some x ∈ l ↔ some x ∈ l') :
    CompP l ↔ CompP l' := by
  simp [CompP, h]

theorem PanicsP_mono {l l' : List (Option Act)} (h : ∀ x : Act, some x ∈ l → some x ∈ l') :
    PanicsP l → PanicsP l' := by
  unfold PanicsP; grind

theorem SpecP_unique {acts : List (Option Act)} {r r' : Option Act} (hp : ¬PanicsP acts)
    (h : SpecP acts r) (h' : SpecP acts r') : r = r' := by
  unfold PanicsP at hp
  rcases r with _ | r <;> rcases r' with _ | r'
  · rfl
  · cases r' <;> simp only [SpecP] at h h' <;> grind
  · cases r <;> simp only [SpecP] at h h' <;> grind
  · cases r <;> cases r' <;> simp only [SpecP] at h h' <;> grind

theorem foldStep_none (acc : Option Act × Bool) : foldStep acc none = .ok acc := by
  unfold foldStep; rfl

theorem foldStep_inv (pre : List (Option Act)) (r : Option Act) (c : Bool) (a : Option Act)
    (hp : ¬PanicsP pre) (hs : SpecP pre r) (hc : c = true ↔ CompP pre) :
    match foldStep (r, c) a with
    | .ok (r', c') =>
      ¬PanicsP (pre ++ [a]) ∧ SpecP (pre ++ [a]) r' ∧ (c' = true ↔ CompP (pre ++ [a]))
    | .error _ => PanicsP (pre ++ [a]) := by
  rcases a with _ | a
  · have hm : ∀ x : Act, some x ∈ pre ++ [none] ↔ some x ∈ pre := by simp
    simp only [foldStep_none, PanicsP_congr hm, SpecP_congr hm, CompP_congr hm]
    exact ⟨hp, hs, hc⟩
  · have hm : ∀ x : Act, some x ∈ pre ++ [some a] ↔ some x ∈ pre ∨ x = a := by simp [eq_comm]
    unfold PanicsP CompP at *
    simp only [hm]
    rcases r with _ | r
    · simp only [SpecP] at hs
      simp only [foldStep, pure, Except.pure, hs, false_or]
      refine ⟨?_, ?_, ?_⟩
      · grind
      · cases a <;> simp [SpecP, hm, hs]
      · grind
    · -- the nine cases of `resolve`, each by the meaning of `SpecP pre r` for that `r`
      cases r <;> cases a <;>
        simp only [foldStep, resolve, pure, Except.pure, bind, Except.bind, beq_iff_eq, reduceCtorEq,
          if_false, Act.shift.injEq, Act.reduce.injEq, if_true, SpecP, hm] at hs ⊢ <;>
        (try split) <;> (try subst_vars) <;> grind

theorem foldlM_inv (l pre : List (Option Act)) (r : Option Act) (c : Bool)
    (hp : ¬PanicsP pre) (hs : SpecP pre r) (hc : c = true ↔ CompP pre) :
    match l.foldlM foldStep (r, c) with
    | .ok (r', c') => ¬PanicsP (pre ++ l) ∧ SpecP (pre ++ l) r' ∧ (c' = true ↔ CompP (pre ++ l))
    | .error _ => PanicsP (pre ++ l) := by
  induction l generalizing pre r c with
  | nil => simpa [pure, Except.pure] using ⟨hp, hs, hc⟩
  | cons a l ih =>
    rw [List.foldlM_cons]
    have hstep := foldStep_inv pre r c a hp hs hc
    cases h : foldStep (r, c) a with
    | error e =>
      rw [h] at hstep
      simp only [bind, Except.bind]
      exact PanicsP_mono (by simp; grind) hstep
    | ok acc =>
      obtain ⟨r1, c1⟩ := acc
      rw [h] at hstep
      obtain ⟨h1, h2, h3⟩ := hstep
      have := ih (pre ++ [a]) r1 c1 h1 h2 h3
      simpa [bind, Except.bind] using this

theorem foldActs_inv (acts : List (Option Act)) :
    match foldActs acts with
    | .ok (r, c) => ¬PanicsP acts ∧ SpecP acts r ∧ (c = true ↔ CompP acts)
    | .error _ => PanicsP acts := by
  have := foldlM_inv acts [] none false (by simp [PanicsP]) (by simp [SpecP]) (by simp [CompP])
  simpa [foldActs] using this

def Act.isShift : Act → Bool
  | .shift _ => true
  | _ => false

/-- generation panics (in every mode): some accept together with a different action, or two
    different shifts -/
def panics (acts : List (Option Act)) : Bool :=
  let as := acts.filterMap id
  (as.contains .accept && as.any (· != .accept)) ||
    as.any fun x => as.any fun y => x.isShift && y.isShift && x != y

theorem mem_filterMap_id {acts : List (Option Act)} {x : Act} :
    x ∈ acts.filterMap id ↔ some x ∈ acts := by simp

theorem panics_iff (acts : List (Option Act)) : panics acts = true ↔ PanicsP acts := by
  unfold panics PanicsP
  simp only [Bool.or_eq_true, Bool.and_eq_true, List.contains_iff_mem, List.any_eq_true,
    mem_filterMap_id, bne_iff_ne]
  constructor
  · rintro (h | ⟨x, hx, y, hy, ⟨h1, h2⟩, h3⟩)
    · exact Or.inl h
    · cases x <;> cases y <;> simp [Act.isShift] at h1 h2
      exact Or.inr ⟨_, _, by simpa using h3, hx, hy⟩
  · rintro (h | ⟨s, t, hne, hs, ht⟩)
    · exact Or.inl h
    · exact Or.inr ⟨_, hs, _, ht, by simp [Act.isShift], by simpa using hne⟩

theorem eraseDups_length_gt_one {α} [BEq α] [LawfulBEq α] (l : List α) :
    l.eraseDups.length > 1 ↔ ∃ x y, x ∈ l ∧ y ∈ l ∧ x ≠ y := by
  cases l with
  | nil => simp
  | cons a t =>
    rw [List.eraseDups_cons]
    cases hf : t.filter (fun b => !b == a) with
    | nil =>
      simp only [List.eraseDups_nil, List.length_cons, List.length_nil]
      rw [List.filter_eq_nil_iff] at hf
      simp at hf
      constructor
      · omega
      · rintro ⟨x, y, hx, hy, hne⟩
        simp only [List.mem_cons] at hx hy
        grind
    | cons b u =>
      rw [List.eraseDups_cons]
      have hb : b ∈ t.filter (fun b => !b == a) := by rw [hf]; simp
      simp at hb
      simp only [List.length_cons]
      constructor
      · intro _
        exact ⟨a, b, by simp, by simp [hb.1], fun h => hb.2 h.symm⟩
      · intro _; omega

theorem competing_iff (acts : List (Option Act)) : competing acts = true ↔ CompP acts := by
  unfold competing CompP
  simp only [decide_eq_true_eq]
  rw [eraseDups_length_gt_one]
  simp only [mem_filterMap_id]

theorem specResolve_spec (acts : List (Option Act)) :
    SpecP acts (specResolve acts) := by
  unfold specResolve
  simp only
  split
  · rename_i sh h
    have := List.find?_some h
    have hm := List.mem_of_find?_eq_some h
    rw [mem_filterMap_id] at hm
    cases sh <;> simp at this
    simpa [SpecP] using hm
  · rename_i h
    rw [List.find?_eq_none] at h
    have hns : ∀ s, some (Act.shift s) ∉ acts := by
      intro s hs
      have := h _ (mem_filterMap_id.mpr hs)
      simp at this
    generalize hrs : List.filterMap _ (List.filterMap id acts) = rs
    have hmr : ∀ p, p ∈ rs ↔ some (Act.reduce p) ∈ acts := by
      intro p
      subst hrs
      simp only [List.mem_filterMap, id]
      constructor
      · rintro ⟨a, ⟨b, hb, rfl⟩, ha⟩
        cases a <;> simp at ha
        subst ha; exact hb
      · intro hp; exact ⟨_, ⟨_, hp, rfl⟩, rfl⟩
    clear hrs
    split
    · simp at hmr
      split
      · rename_i hc
        simp at hc
        simp [SpecP, hns, hmr]
        exact hc
      · rename_i hc
        simp at hc
        simp only [SpecP]
        intro x; cases x
        · exact hns _
        · exact hmr _
        · exact hc
    · rename_i r rest
      -- `rest.foldl min r` is the minimum of `r :: rest`
      obtain ⟨hmem, hle⟩ := List.min?_eq_some_iff.mp (List.min?_cons' (x := r) (xs := rest))
      exact ⟨(hmr _).mp hmem, hns, fun q hq => hle q ((hmr q).mpr hq)⟩

theorem foldActs_eq_ok_iff {acts : List (Option Act)} {r : Option Act} {c : Bool} :
    foldActs acts = .ok (r, c) ↔ ¬PanicsP acts ∧ SpecP acts r ∧ (c = true ↔ CompP acts) := by
  have hi := foldActs_inv acts
  constructor
  · intro h
    rwa [h] at hi
  · rintro ⟨hp, hs, hc⟩
    rcases hf : foldActs acts with e | ⟨r', c'⟩ <;> rw [hf] at hi
    · exact absurd hi hp
    · rw [SpecP_unique hp hs hi.2.1, Bool.eq_iff_iff.2 (hc.trans hi.2.2.symm)]

theorem foldActs_toOption (acts : List (Option Act)) :
    (foldActs acts).toOption =
      if panics acts then none else some (specResolve acts, competing acts) := by
  by_cases hp : panics acts = true
  · have hi := foldActs_inv acts
    rw [if_pos hp]
    rcases hf : foldActs acts with e | ⟨r, c⟩ <;> rw [hf] at hi
    · rfl
    · exact absurd ((panics_iff acts).1 hp) hi.1
  · rw [if_neg hp, foldActs_eq_ok_iff.2
      ⟨mt (panics_iff acts).2 hp, specResolve_spec acts, competing_iff acts⟩]
    rfl

theorem perm_mem_some {acts acts' : List (Option Act)} (h : acts.Perm acts') (x : Act) :
    some x ∈ acts ↔ some x ∈ acts' := h.mem_iff

theorem panics_perm {acts acts' : List (Option Act)} (h : acts.Perm acts') :
    panics acts = panics acts' := by
  rw [Bool.eq_iff_iff, panics_iff, panics_iff]
  exact PanicsP_congr (perm_mem_some h)

theorem competing_perm {acts acts' : List (Option Act)} (h : acts.Perm acts') :
    competing acts = competing acts' := by
  rw [Bool.eq_iff_iff, competing_iff, competing_iff]
  exact CompP_congr (perm_mem_some h)

/-- `specResolve` picks the *first* shift, so it is order independent only when all proposed
    shifts agree — which is the case whenever generation does not panic -/
theorem specResolve_perm {acts acts' : List (Option Act)} (h : acts.Perm acts')
    (hp : panics acts = false) : specResolve acts = specResolve acts' := by
  have hp' : ¬PanicsP acts := by rw [← panics_iff]; simp [hp]
  exact SpecP_unique hp' (specResolve_spec acts)
    ((SpecP_congr (perm_mem_some h) _).mpr (specResolve_spec acts'))

/-! ### C12: zip row encoding -/

def decodeStep (row : List (Option Act)) (e : ZEntry) : List (Option Act) :=
  if e.index < row.length then
    match e.action with
    | 0 => row.set e.index (some .accept)
    | 1 => row.set e.index (some (.reduce e.amount))
    | 2 => row.set e.index (some (.shift e.amount))
    | _ => row
  else row

theorem decodeRow_eq (n : Nat) (es : List ZEntry) :
    decodeRow n es = es.foldl decodeStep (List.replicate n none) := rfl

theorem decodeStep_hit (pre t : List (Option Act)) (x : Option Act) (m : Nat) :
    decodeStep (pre ++ x :: t) ⟨pre.length, 0, m⟩ = pre ++ some .accept :: t ∧
    decodeStep (pre ++ x :: t) ⟨pre.length, 1, m⟩ = pre ++ some (.reduce m) :: t ∧
    decodeStep (pre ++ x :: t) ⟨pre.length, 2, m⟩ = pre ++ some (.shift m) :: t := by
  simp [decodeStep]

theorem decode_encodeRowFrom (rest pre : List (Option Act)) :
    (encodeRowFrom pre.length rest).foldl decodeStep (pre ++ List.replicate rest.length none)
      = pre ++ rest := by
  induction rest generalizing pre with
  | nil => simp [encodeRowFrom]
  | cons a rest ih =>
    have ih' := ih (pre ++ [a])
    simp only [List.length_append, List.length_singleton, List.append_assoc,
      List.singleton_append] at ih'
    rcases a with _ | a
    · simpa [encodeRowFrom, List.replicate_succ] using ih'
    · have hh := fun m => decodeStep_hit pre (List.replicate rest.length none) none m
      cases a <;>
        simp only [encodeRowFrom, List.foldl_cons, List.length_cons, List.replicate_succ] <;>
        simp only [hh] <;> exact ih'

theorem decode_encodeRow (row : List (Option Act)) :
    decodeRow row.length (encodeRow row) = row := by
  simpa [decodeRow_eq, encodeRow] using decode_encodeRowFrom row []

end Gocc
