import Gocc.Model.Utf8
/-
`utf8.DecodeRune` (model in `Gocc/Model/Utf8.lean`): one case analysis of the decoder, from which every
bound used by the scanner and lexer proofs is read off, and the round trip with `encodeRune`.
-/
namespace Gocc

theorem isCont_ge {b : Nat} (h : isCont b = true) : 0x80 ≤ b := by
  simp only [isCont, Bool.and_eq_true, decide_eq_true_eq] at h
  exact h.1

structure DecodeOk (b : Nat) (r : List Nat) (x : Int × Nat) : Prop where
  pos : 1 ≤ x.2
  le4 : x.2 ≤ 4
  inInput : x.2 ≤ r.length + 1
  max : x.1 ≤ 0x10FFFF
  ascii : b < 0x80 → x = ((b : Int), 1)
  nonAscii : 0x80 ≤ b → 0x80 ≤ x.1
  tail : ∀ c ∈ r.take (x.2 - 1), 0x80 ≤ c

theorem decodeRune_cons (b : Nat) (r : List Nat) : DecodeOk b r (decodeRune (b :: r)) := by
  -- ill-formed and truncated sequences all give `(runeError, 1)`
  have herr : ∀ x : Int × Nat, x = (runeError, 1) → 0x80 ≤ b → DecodeOk b r x := by
    rintro _ rfl hb
    refine ⟨Nat.le_refl _, by omega, by omega, by decide, fun h => absurd h (by omega), fun _ => by decide, ?_⟩
    simp
  generalize hx : decodeRune (b :: r) = x
  unfold decodeRune at hx
  dsimp only at hx
  by_cases h1 : b < 0x80
  · rw [if_pos h1] at hx
    subst hx
    exact ⟨Nat.le_refl _, by omega, by omega, by simp only []; omega, fun _ => rfl, fun _ => by omega, by simp⟩
  rw [if_neg h1] at hx
  by_cases h2 : b < 0xC2
  · rw [if_pos h2] at hx; exact herr x hx.symm (by omega)
  rw [if_neg h2] at hx
  by_cases h3 : b < 0xE0
  · rw [if_pos h3] at hx
    match r, hx with
    | [], hx => exact herr x hx.symm (by omega)
    | b1 :: t, hx =>
      dsimp only at hx
      by_cases hc : isCont b1 = true
      · rw [if_pos hc] at hx
        subst hx
        have := isCont_ge hc
        refine ⟨by omega, by omega, by simp, by simp only []; omega, fun _ => by omega,
          fun _ => by simp only []; omega, ?_⟩
        simp [this]
      · rw [if_neg hc] at hx; exact herr x hx.symm (by omega)
  rw [if_neg h3] at hx
  by_cases h4 : b < 0xF0
  · rw [if_pos h4] at hx
    match r, hx with
    | [], hx | [_], hx => exact herr x hx.symm (by omega)
    | b1 :: b2 :: t, hx =>
      dsimp only at hx
      generalize hlo : (if b = 224 then 160 else 128 : Nat) = lo at hx
      generalize hhi : (if b = 237 then 159 else 191 : Nat) = hi at hx
      have hhi' : hi ≤ 191 := by subst hhi; split <;> omega
      have hlo' : 0x80 ≤ lo ∧ (b = 224 → 160 ≤ lo) := by subst hlo; split <;> omega
      by_cases hc : (decide (lo ≤ b1) && decide (b1 ≤ hi) && isCont b2) = true
      · rw [if_pos hc] at hx
        subst hx
        simp only [Bool.and_eq_true, decide_eq_true_eq] at hc
        have := isCont_ge hc.2
        refine ⟨by omega, by omega, by simp, by simp only []; omega, fun _ => by omega,
          fun _ => by simp only []; omega, ?_⟩
        intro c hcm
        simp at hcm
        rcases hcm with rfl | rfl
        · omega
        · exact this
      · rw [if_neg hc] at hx; exact herr x hx.symm (by omega)
  rw [if_neg h4] at hx
  by_cases h5 : b < 0xF5
  · rw [if_pos h5] at hx
    match r, hx with
    | [], hx | [_], hx | [_, _], hx => exact herr x hx.symm (by omega)
    | b1 :: b2 :: b3 :: t, hx =>
      dsimp only at hx
      generalize hlo : (if b = 240 then 144 else 128 : Nat) = lo at hx
      generalize hhi : (if b = 244 then 143 else 191 : Nat) = hi at hx
      have hlo' : 0x80 ≤ lo ∧ (b = 240 → 144 ≤ lo) := by subst hlo; split <;> omega
      have hhi' : hi ≤ 191 ∧ (b = 244 → hi ≤ 143) := by subst hhi; split <;> omega
      by_cases hc : (decide (lo ≤ b1) && decide (b1 ≤ hi) && isCont b2 && isCont b3) = true
      · rw [if_pos hc] at hx
        subst hx
        simp only [Bool.and_eq_true, decide_eq_true_eq] at hc
        have h2 := isCont_ge hc.1.2
        have h3 := isCont_ge hc.2
        refine ⟨by omega, by omega, by simp, by simp only []; omega, fun _ => by omega,
          fun _ => by simp only []; omega, ?_⟩
        intro c hcm
        simp at hcm
        rcases hcm with rfl | rfl | rfl
        · omega
        · exact h2
        · exact h3
      · rw [if_neg hc] at hx; exact herr x hx.symm (by omega)
  · rw [if_neg h5] at hx; exact herr x hx.symm (by omega)

theorem decodeRune_size_pos (l : List Nat) (h : l ≠ []) : 1 ≤ (decodeRune l).2 := by
  cases l with
  | nil => exact absurd rfl h
  | cons b r => exact (decodeRune_cons b r).pos

theorem decodeRune_size_le (l : List Nat) : (decodeRune l).2 ≤ l.length := by
  cases l with
  | nil => exact Nat.le_refl _
  | cons b r => exact (decodeRune_cons b r).inInput

theorem decodeRune_drop {src : List Nat} {p : Nat} (h : p < src.length) :
    1 ≤ (decodeRune (src.drop p)).2 ∧ p + (decodeRune (src.drop p)).2 ≤ src.length := by
  have hl := decodeRune_size_le (src.drop p)
  rw [List.length_drop] at hl
  exact ⟨decodeRune_size_pos _ (mt List.drop_eq_nil_iff.1 (by omega)), by omega⟩

theorem decodeRune_le_max (l : List Nat) : (decodeRune l).1 ≤ 0x10FFFF := by
  cases l with
  | nil => decide
  | cons b r => exact (decodeRune_cons b r).max

theorem decodeRune_ascii (b : Nat) (rest : List Nat) (h : b < 0x80) : decodeRune (b :: rest) = ((b : Int), 1) :=
  (decodeRune_cons b rest).ascii h

theorem decodeRune_ge (b : Nat) (r : List Nat) (h : 0x80 ≤ b) : 0x80 ≤ (decodeRune (b :: r)).1 :=
  (decodeRune_cons b r).nonAscii h

theorem decodeRune_nonneg (l : List Nat) : 0 ≤ (decodeRune l).1 := by
  cases l with
  | nil => decide
  | cons b r =>
    by_cases h : b < 0x80
    · rw [decodeRune_ascii b r h]; exact Int.natCast_nonneg b
    · have := decodeRune_ge b r (by omega); omega

theorem decodeRune_width_prefix (b : Nat) (p : List Nat) (c : Nat) (q : List Nat) (hc : c < 0x80) :
    (decodeRune (b :: p ++ c :: q)).2 ≤ p.length + 1 := by
  have h := (decodeRune_cons b (p ++ c :: q)).tail c
  rw [List.cons_append]
  apply Decidable.byContradiction
  intro hw
  have : 0x80 ≤ c := h (List.mem_take_iff_getElem.2 ⟨p.length, by simp; omega, by simp⟩)
  omega

theorem isScalar_iff (c : Nat) :
    isScalar c = true ↔ c < 0x110000 ∧ ¬(0xD800 ≤ c ∧ c < 0xE000) := by
  simp only [isScalar, Bool.and_eq_true, Bool.not_eq_true', Bool.and_eq_false_iff, decide_eq_true_eq,
    decide_eq_false_iff_not]
  omega

theorem isCont_payload (x : Nat) : isCont (0x80 + x % 64) = true ∧ (0x80 + x % 64) % 64 = x % 64 := by
  simp only [isCont, Bool.and_eq_true, decide_eq_true_eq]; omega

theorem decodeRune_encodeRune_2 (c : Nat) (rest : List Nat) (h0 : 0x80 ≤ c) (h : c < 0x800) :
    decodeRune ([0xC0 + c / 64, 0x80 + c % 64] ++ rest) = ((c : Int), 2) := by
  have a1 : ¬ (0xC0 + c / 64 < 0x80) := by omega
  have a2 : ¬ (0xC0 + c / 64 < 0xC2) := by omega
  have a3 : 0xC0 + c / 64 < 0xE0 := by omega
  have a4 : (0xC0 + c / 64) % 32 = c / 64 := by omega
  simp only [List.cons_append, List.nil_append, decodeRune, a1, a2, a3, a4, isCont_payload, Nat.div_add_mod',
    if_true, if_false]

theorem decodeRune_encodeRune_3 (c : Nat) (rest : List Nat) (h0 : 0x800 ≤ c) (h : c < 0x10000)
    (hs : ¬(0xD800 ≤ c ∧ c < 0xE000)) :
    decodeRune ([0xE0 + c / 4096, 0x80 + (c / 64) % 64, 0x80 + c % 64] ++ rest) = ((c : Int), 3) := by
  have a1 : ¬ (0xE0 + c / 4096 < 0x80) := by omega
  have a2 : ¬ (0xE0 + c / 4096 < 0xC2) := by omega
  have a3 : ¬ (0xE0 + c / 4096 < 0xE0) := by omega
  have a4 : 0xE0 + c / 4096 < 0xF0 := by omega
  have a5 : (0xE0 + c / 4096) % 16 = c / 4096 := by omega
  have a6 : ((if 0xE0 + c / 4096 = 0xE0 then 0xA0 else 0x80) ≤ 0x80 + (c / 64) % 64) := by
    split <;> omega
  have a7 : (0x80 + (c / 64) % 64 ≤ (if 0xE0 + c / 4096 = 0xED then 0x9F else 0xBF)) := by
    split <;> omega
  have a8 : c / 4096 * 4096 + c / 64 % 64 * 64 + c % 64 = c := by omega
  simp only [List.cons_append, List.nil_append, decodeRune, a1, a2, a3, a4, a5, a6, a7, a8, isCont_payload,
    if_true, if_false, decide_true, Bool.and_self]

theorem decodeRune_encodeRune_4 (c : Nat) (rest : List Nat) (h0 : 0x10000 ≤ c) (h : c < 0x110000) :
    decodeRune ([0xF0 + c / 262144, 0x80 + (c / 4096) % 64, 0x80 + (c / 64) % 64, 0x80 + c % 64] ++ rest)
      = ((c : Int), 4) := by
  have a1 : ¬ (0xF0 + c / 262144 < 0x80) := by omega
  have a2 : ¬ (0xF0 + c / 262144 < 0xC2) := by omega
  have a3 : ¬ (0xF0 + c / 262144 < 0xE0) := by omega
  have a4 : ¬ (0xF0 + c / 262144 < 0xF0) := by omega
  have a4' : 0xF0 + c / 262144 < 0xF5 := by omega
  have a5 : (0xF0 + c / 262144) % 8 = c / 262144 := by omega
  have a6 : ((if 0xF0 + c / 262144 = 0xF0 then 0x90 else 0x80) ≤ 0x80 + (c / 4096) % 64) := by
    split <;> omega
  have a7 : (0x80 + (c / 4096) % 64 ≤ (if 0xF0 + c / 262144 = 0xF4 then 0x8F else 0xBF)) := by
    split <;> omega
  have a8 : c / 262144 * 262144 + c / 4096 % 64 * 4096 + c / 64 % 64 * 64 + c % 64 = c := by omega
  simp only [List.cons_append, List.nil_append, decodeRune, a1, a2, a3, a4, a4', a5, a6, a7, a8, isCont_payload,
    if_true, if_false, decide_true, Bool.and_self]

theorem decodeRune_encodeRune (c : Nat) (rest : List Nat) (hc : isScalar c = true) :
    decodeRune (encodeRune c ++ rest) = ((c : Int), (encodeRune c).length) := by
  rw [isScalar_iff] at hc
  unfold encodeRune
  by_cases h1 : c < 0x80
  · rw [if_pos h1]; exact decodeRune_ascii c rest h1
  by_cases h2 : c < 0x800
  · rw [if_neg h1, if_pos h2]; exact decodeRune_encodeRune_2 c rest (by omega) h2
  by_cases h3 : c < 0x10000
  · rw [if_neg h1, if_neg h2, if_pos h3]; exact decodeRune_encodeRune_3 c rest (by omega) h3 hc.2
  · rw [if_neg h1, if_neg h2, if_neg h3]; exact decodeRune_encodeRune_4 c rest (by omega) hc.1

theorem encodeRune_head (c : Nat) (h : c ≠ 92) :
    ∃ b tl, encodeRune c = b :: tl ∧ b ≠ 92 := by
  unfold encodeRune
  by_cases h1 : c < 0x80
  · exact ⟨_, _, if_pos h1, h⟩
  by_cases h2 : c < 0x800
  · exact ⟨_, _, (if_neg h1).trans (if_pos h2), by omega⟩
  by_cases h3 : c < 0x10000
  · exact ⟨_, _, (if_neg h1).trans ((if_neg h2).trans (if_pos h3)), by omega⟩
  · exact ⟨_, _, (if_neg h1).trans ((if_neg h2).trans (if_neg h3)), by omega⟩

end Gocc
