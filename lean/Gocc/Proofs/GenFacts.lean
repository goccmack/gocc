import Gocc.Proofs.GenCompleteItems
/-
What the generator-level completeness proof (Proofs/GenComplete.lean) and the generator-level
validity proof (Proofs/GenValid*.lean) share: the side condition `CompleteNamesOk` on spellings,
the facts `GenFacts` about a successful run, and the reading of the LR(1) certificate `claOf`
(Model/GenCert.lean) in terms of the items of the generator.
-/
namespace Gocc

/-- Side condition of the completeness theorem, on top of `NamesOk` (decidable):
    * `INVALID` is not a body symbol (column `INVALID` never holds an action);
    * no production is called `empty` (the spelling of the empty alternative / FIRST marker);
    * `empty` does not occur in an alternative that is not an empty alternative. -/
def CompleteNamesOk (syn : List SProd) : Prop :=
  "INVALID" ∉ synBodyNames syn ∧ "empty" ∉ synHeads syn ∧
  ∀ p ∈ syn, prodLen p ≠ 0 → "empty" ∉ p.body.map (·.name)

instance (syn : List SProd) : Decidable (CompleteNamesOk syn) := by
  unfold CompleteNamesOk; infer_instance

namespace GenComplete

theorem bodyOk_of {syn : List SProd} {ids : List String} (hn : NamesOk syn ids)
    (hx : CompleteNamesOk syn) : BodyOk (augment syn) := by
  obtain ⟨n1, n2, n3, n4, n5, n6, n7, n8⟩ := hn
  obtain ⟨x1, x2, x3⟩ := hx
  cases syn with
  | nil => exact absurd rfl n1
  | cons q rest =>
    have hq := n2 q (by simp)
    intro p hp s hs
    simp only [augment, List.mem_cons] at hp
    rcases hp with rfl | hp
    · simp only [List.mem_singleton] at hs
      subst hs
      have hqh : q.head ∈ synHeads (q :: rest) := by simp [synHeads]
      exact ⟨fun e => n4 (e ▸ hqh), fun _ => hq.2⟩
    · have hp' : p ∈ q :: rest := List.mem_cons.2 hp
      have hsb : s.name ∈ synBodyNames (q :: rest) :=
        List.mem_flatMap.2 ⟨p, hp', List.mem_map.2 ⟨s, hs, rfl⟩⟩
      refine ⟨fun e => x1 (e ▸ hsb), fun hl e => ?_⟩
      exact x3 p hp' hl (List.mem_map.2 ⟨s, hs, e⟩)

theorem run_ctx {syn : List SProd} {ids : List String} {r : LRResult}
    (h : genParser syn ids = .ok r) :
    WFp r.ctx.S (augment syn) ∧ r.ctx.fs = firstSets r.ctx.S (augment syn) := by
  obtain ⟨S0, hS0, hctx, -⟩ := genParser_shape h
  rw [hctx]
  exact ⟨WFp_addTokens (newSymbols_WFp hS0) ids, rfl⟩

structure GenFacts (syn : List SProd) (r : LRResult) : Prop where
  F : SymFacts (augment syn) r.ctx
  hW : WFp r.ctx.S (augment syn)
  fsEq : r.ctx.fs = firstSets r.ctx.S (augment syn)
  hB : BodyOk (augment syn)
  hE : "empty" ∉ r.ctx.S.ntList
  hT : TInv r.ctx.S r.ctx.fs
  inv : LRInv r.ctx (closure r.ctx [⟨0, 0, "␚"⟩]) r.states
  exp : ∀ j, j < r.states.size → Expanded r.ctx r.states j
  closed : ∀ (j : Nat) (st : LRState), r.states[j]? = some st →
    ∀ i ∈ st.items, ∀ x ∈ closureStep r.ctx i, x ∈ st.items
  laU : ∀ (j : Nat) (st : LRState), r.states[j]? = some st → ∀ i ∈ st.items, i.la ∈ firstU r.ctx.S
  laOk : AllQ (LaOk r.ctx) r.states
  terms : r.tables.terminals = r.ctx.S.terminals
  nts : r.tables.nts = r.ctx.S.ntList

theorem genFacts_of {syn : List SProd} {ids : List String} {r : LRResult}
    (h : genParser syn ids = .ok r) (hn : NamesOk syn ids) (hsz : r.states.size ≤ 4096)
    (hx : CompleteNamesOk syn) : GenFacts syn r := by
  have F := symFacts_of h hn
  obtain ⟨hW, hfs⟩ := run_ctx h
  have hB := bodyOk_of hn hx
  have hE := not_mem_ntList h hx.2.1 (by decide)
  have hT : TInv r.ctx.S r.ctx.fs := by
    rw [hfs]; exact TInv_firstSets hW hB hE
  obtain ⟨hinv, hexp⟩ := genParser_inv h hn
  have hclosed := genParser_states_closed h
  obtain ⟨rows, -, hterm, hnts, -⟩ := genParser_tables h
  have hEof : GoodT r.ctx.S "␚" :=
    ⟨isTerminal_iff.2 (F.term _ (List.mem_of_getElem? F.term1)).1, by decide, by decide⟩
  exact
    { F := F, hW := hW, fsEq := hfs, hB := hB, hE := hE,
      hT := hT, inv := hinv, exp := hexp hsz, closed := fun j st hj => (hclosed j st hj).1,
      laU := fun j st hj => (hclosed j st hj).2,
      laOk := genParser_all h (Q := LaOk r.ctx) ⟨fun _ => rfl, hEof⟩
        (laOk_step F.prods_eq hT hB F.noStart) (fun i hi => hi),
      terms := hterm, nts := hnts }

/-- `terms` is the list of terminals in whichever form it is at hand -/
theorem mem_claOf {r : LRResult} {terms : List String} (ht : r.tables.terminals = terms)
    {s p d a : Nat} :
    (p, d, a) ∈ (claOf r)[s]?.getD [] ↔
      ∃ st, r.states[s]? = some st ∧
        ∃ x ∈ st.items, x.p = p ∧ x.d = d ∧ (terms.idxOf? x.la).getD 0 = a := by
  subst ht
  unfold claOf tIdxOf
  rw [Array.getElem?_map]
  rcases r.states[s]? with _ | st
  · simp
  · simp only [Option.map_some, Option.getD_some, List.mem_eraseDups, List.mem_map,
      Prod.mk.injEq, Option.some.injEq, exists_eq_left']

theorem gbody_get {C : LRCtx} {prods : List SProd} (hC : C.prods = prods.toArray)
    {terms nts : List String} {i : Item} {X : Sym}
    (hX : ((ngrammarOf prods terms nts).body i.p)[i.d]? = some X) :
    i.d < C.len i ∧ symOf terms nts (C.expected i) = X := by
  have hd : i.d < C.len i := by
    rw [← ngrammarOf_body_len hC terms nts]
    exact (List.getElem?_eq_some_iff.1 hX).1
  exact ⟨hd, Option.some.inj ((body_at hC terms nts hd).symm.trans hX)⟩

theorem symOf_t_inv {terms nts : List String} {X : String} {a : Nat}
    (h : symOf terms nts X = Sym.t a) : X ∉ nts ∧ a = (terms.idxOf? X).getD 0 := by
  by_cases hX : X ∈ nts
  · rw [symOf_mem hX] at h; cases h
  · rw [symOf_not_mem hX] at h
    cases h
    exact ⟨hX, rfl⟩

theorem symOf_nt_inv {terms nts : List String} {X : String} {B : Nat}
    (h : symOf terms nts X = Sym.nt B) : X ∈ nts ∧ B = nts.idxOf X := by
  by_cases hX : X ∈ nts
  · rw [symOf_mem hX] at h
    cases h
    exact ⟨hX, rfl⟩
  · rw [symOf_not_mem hX] at h; cases h

theorem mem_terminals {S : PSymbols} {X : String} (h1 : X ∈ S.typeMap) (h2 : X ∉ S.ntList) :
    X ∈ S.terminals := by
  unfold PSymbols.terminals
  rw [List.mem_filter]
  exact ⟨h1, isTerminal_iff.2 h2⟩

theorem expected_facts {C : LRCtx} {prods : List SProd} (hC : C.prods = prods.toArray)
    {S : PSymbols} (hW : WFp S prods) (hB : BodyOk prods) {i : Item} (hd : i.d < C.len i) :
    C.expected i ∈ S.typeMap ∧ C.expected i ≠ "INVALID" := by
  obtain ⟨hp, s, hs, hexp⟩ := expected_spec hd
  obtain ⟨hp', heq⟩ := ctx_prod hC hp
  rw [heq] at hs
  have hmem := List.getElem_mem hp'
  have hsm : s ∈ (prods[i.p]).body := List.mem_of_getElem? hs
  rw [hexp]
  exact ⟨(hW _ hmem).2 s hsm, (hB _ hmem s hsm).1⟩

theorem body_noEmpty {C : LRCtx} {prods : List SProd} (hC : C.prods = prods.toArray)
    (hB : BodyOk prods) {i : Item} {z : String} (hz : z ∈ C.body i) : z ≠ "empty" := by
  obtain ⟨hp, hne, s', hs', rfl⟩ := body_mem hz
  obtain ⟨hp', heq⟩ := ctx_prod hC hp
  rw [heq] at hne hs'
  exact (hB _ (List.getElem_mem hp') s' hs').2 hne

theorem la_facts {syn : List SProd} {r : LRResult} (G : GenFacts syn r) {s : Nat} {st : LRState}
    {i : Item} (hs : r.states[s]? = some st) (hi : i ∈ st.items) :
    LaOk r.ctx i ∧ i.la ∉ r.ctx.S.ntList ∧ i.la ∈ r.ctx.S.terminals := by
  have h1 := G.laOk s st hs i hi
  have h2 := G.laU s st hs i hi
  have hnt : i.la ∉ r.ctx.S.ntList := isTerminal_iff.1 h1.2.1
  refine ⟨h1, hnt, mem_terminals ?_ hnt⟩
  simp only [firstU, List.mem_cons] at h2
  rcases h2 with h2 | h2
  · exact absurd h2 h1.2.2.2
  · exact h2

end GenComplete

end Gocc
