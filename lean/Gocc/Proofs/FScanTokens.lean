import Gocc.Proofs.FScan
/-
Inhabitants of `ScansAs`: the one-byte tokens, ASCII identifiers, character, string and SDT literals over
plain ASCII are scanned as one token by the front-end scanner.
-/
namespace Gocc
namespace FScan

/-- How the inhabitants of `ScansAs` are made: one pass of `Scan` entered at `b :: r ++ x` returns a token
    of type `ty` made at the entry position, in a state positioned at `x`, `(b :: r).length` bytes further. -/
theorem scansAs_of {u : UnicodeOracle} {b : Nat} {r : List Nat} {ty : Int} (hty : ty ≠ tEOF)
    (hb : isWsByte b = false)
    (h : ∀ (x : List Nat) (s : FSt), FollowOK x → At (b :: r ++ x) s →
      ∃ s', scanOnce u s = (some (mkTok ty (position s) s'), s') ∧ At x s' ∧
        s'.pos = s.pos + (b :: r).length) :
    ScansAs u (b :: r) ty :=
  ⟨hty, List.cons_ne_nil _ _, noWsHead_cons hb, fun x s hx hs =>
    let ⟨s', e, h', hp⟩ := h x s hx hs
    ⟨_, s', e, rfl, slice_at hs hp, h'⟩⟩

def punctType : Nat → Option Int
  | 45 => some tMinus
  | 123 => some tLBrace
  | 125 => some tRBrace
  | 58 => some tColon
  | 59 => some tSemi
  | 44 => some tILLEGAL
  | 91 => some tLBrack
  | 93 => some tRBrack
  | 40 => some tLParen
  | 41 => some tRParen
  | 124 => some tBar
  | 46 => some tDot
  | 47 => some tILLEGAL
  | 60 => some tILLEGAL
  | _ => none

theorem punctType_spec {c : Nat} {ty : Int} (h : punctType c = some ty) :
    ty ≠ tEOF ∧ isWsByte c = false ∧ c < 0x80 := by
  unfold punctType at h
  split at h <;> cases h <;> decide

/-- `/` not followed by `/` or `*`, `<` not followed by `<` or `=`, and the other one-byte tokens -/
theorem scanOnce_punct (u : UnicodeOracle) {c : Nat} {ty : Int} (hc : punctType c = some ty) {s : FSt}
    (c0 : s.ch = c) (h47 : (next s).ch ≠ 47 ∧ (next s).ch ≠ 42) (h60 : (next s).ch ≠ 60 ∧ (next s).ch ≠ 61) :
    scanOnce u s = (some (mkTok ty (position s) (next s)), next s) := by
  unfold punctType at hc
  split at hc <;> cases hc
  case h_13 => simp [scanOnce, c0, isLetter, h47]
  case h_14 => simp [scanOnce, c0, isLetter, h60]
  all_goals simp [scanOnce, c0, isLetter]

theorem scansAs_punct (u : UnicodeOracle) {c : Nat} {ty : Int} (hc : punctType c = some ty) :
    ScansAs u [c] ty := by
  obtain ⟨hty, hws, hlt⟩ := punctType_spec hc
  refine scansAs_of hty hws fun x s hx h => ?_
  obtain ⟨c0, h1, hp⟩ := next_at_ascii h hlt
  have hf := followOK_ch hx h1
  exact ⟨next s, scanOnce_punct u hc c0 (by omega) (by omega), h1, hp⟩

/-- bytes of ASCII identifiers: letters, `_`, digits, `!` -/
def isIdentByte (b : Nat) : Bool :=
  (97 ≤ b && b ≤ 122) || (65 ≤ b && b ≤ 90) || b == 95 || (48 ≤ b && b ≤ 57) || b == 33

/-- first bytes of ASCII identifiers: letters, `_`, `!` -/
def isIdentStart (b : Nat) : Bool :=
  (97 ≤ b && b ≤ 122) || (65 ≤ b && b ≤ 90) || b == 95 || b == 33

/-- the token type `scanIdentifier` gives to the ASCII identifier `t` with first byte `b` -/
def identType (b : Nat) (t : List Nat) : Int :=
  if t = [105, 109, 112, 111, 114, 116] then tILLEGAL
  else if b = 33 then tIgnoredTokId
  else if b = 95 then tRegDefId
  else if 65 ≤ b ∧ b ≤ 90 then tProdId
  else tTokId

theorem identByte_cond (u : UnicodeOracle) {c : Nat} (h : isIdentByte c = true) :
    c < 0x80 ∧ (isLetter u c || isDigit u c || (c : Int) == 33) = true := by
  simp only [isIdentByte, isLetter, isDigit, Bool.or_eq_true, Bool.and_eq_true, decide_eq_true_eq,
    beq_iff_eq] at h ⊢
  rcases h with (((h | h) | h) | h) | h <;> omega

/-- what `Scan` and `scanIdentifier` test of the first byte of an identifier -/
theorem identStart_cond (u : UnicodeOracle) {b : Nat}
    (h : (97 ≤ b ∧ b ≤ 122) ∨ (65 ≤ b ∧ b ≤ 90) ∨ b = 95 ∨ b = 33) :
    ((b : Int) = 33 ∨ isLetter u b = true) ∧ ((isUpper u (b : Int) = true) = (65 ≤ b ∧ b ≤ 90)) := by
  have : (b : Int) < 128 := by omega
  simp only [isLetter, isUpper, this, if_true, Bool.or_eq_true, Bool.and_eq_true, decide_eq_true_eq,
    beq_iff_eq]
  exact ⟨by omega, propext ⟨by omega, by omega⟩⟩

theorem follow_stop (u : UnicodeOracle) {c : Int} (h : c = -1 ∨ c = 32 ∨ c = 9 ∨ c = 10 ∨ c = 13) :
    ¬ (isLetter u c || isDigit u c || c == 33) = true := by
  rcases h with h | h | h | h | h <;> rw [h] <;> simp [isLetter, isDigit]

/-- ASCII identifiers (`!x`, `_x`, `Abc`, `abc`, `import`) scan as one token -/
theorem scansAs_ident (u : UnicodeOracle) {b : Nat} {r : List Nat} (hb : isIdentStart b = true)
    (hr : ∀ c ∈ r, isIdentByte c = true) : ScansAs u (b :: r) (identType b (b :: r)) := by
  have hbc : (97 ≤ b ∧ b ≤ 122) ∨ (65 ≤ b ∧ b ≤ 90) ∨ b = 95 ∨ b = 33 := by
    simp [isIdentStart] at hb; omega
  have hb' : isIdentByte b = true := by simp [isIdentByte]; omega
  refine scansAs_of ?_ (by simp [isWsByte]; omega) fun x s hx h => ?_
  · simp only [identType]
    repeat' split
    all_goals decide
  -- the loop runs over `b :: r` and stops at the white space or end behind it
  obtain ⟨k, s', e, h', hp⟩ := asciiLoop_at (L := identLoop u)
    (cont := fun c => (isLetter u c || isDigit u c || c == 33) = true) (fun _ _ hc => if_pos hc)
    (t := b :: r) (List.forall_mem_cons.2 ⟨identByte_cond u hb', fun c hc => identByte_cond u (hr c hc)⟩)
    (fuel s) s (by simp [fuel, h.cur]; omega) h
  have stop : identLoop u (k + 1) s' = s' := if_neg (follow_stop u (followOK_ch hx h'))
  rw [stop] at e
  have c0 : s.ch = (b : Int) := (next_at_ascii h (identByte_cond u hb').1).1
  obtain ⟨hst, eup⟩ := identStart_cond u hbc
  refine ⟨s', ?_, h', hp⟩
  rw [scanOnce_ident u (c0 ▸ hst), e]
  -- the two chains of conditions agree test by test
  have e33 : ((b : Int) = 33) = (b = 33) := propext (Int.natCast_inj (m := b) (n := 33))
  have e95 : ((b : Int) = 95) = (b = 95) := propext (Int.natCast_inj (m := b) (n := 95))
  simp only [scanIdentifier, e, slice_at h hp, c0, e33, e95, eup, identType]

/-- `'c'` for a plain ASCII byte `c` (not newline, `'`, `\`; NUL counts an error and is scanned like any
    other byte) scans as a `char_lit` -/
theorem scansAs_charLit (u : UnicodeOracle) {c : Nat} (h1 : c < 0x80)
    (hq : c ≠ 39) (hb : c ≠ 92) (hn : c ≠ 10) : ScansAs u [39, c, 39] tCharLit := by
  refine scansAs_of (by decide) (by decide) fun x s hx h => ?_
  obtain ⟨c0, a1, p1⟩ := next_at_ascii h (by omega)
  obtain ⟨c1, a2, p2⟩ := next_at_ascii a1 h1
  obtain ⟨c2, a3, p3⟩ := next_at_ascii a2 (by omega)
  have e1 : ¬ ((c : Int) = 39) := by omega
  have e2 : ¬ ((c : Int) = 10 ∨ (c : Int) < 0) := by omega
  have e3 : ¬ ((c : Int) = 92) := by omega
  have hloop : charLoop (fuel (next s)) 0 (next s) = (1, next (next s)) := by
    have : fuel (next s) = x.length + 2 + 1 + 1 := by simp [fuel, a1.cur]
    rw [this]
    simp [charLoop, c1, c2, e1, e2, e3]
  exact ⟨_, scanOnce_char u c0 hloop, a3, by simp [p1, p2, p3]⟩

/-- `'\e'` for a simple escape `e` (one of `a b f n r t v \ ' "`) scans as a `char_lit` -/
theorem scansAs_charLit_esc (u : UnicodeOracle) {e : Nat}
    (he : e = 97 ∨ e = 98 ∨ e = 102 ∨ e = 110 ∨ e = 114 ∨ e = 116 ∨ e = 118 ∨ e = 92 ∨ e = 39 ∨
      e = 34) : ScansAs u [39, 92, e, 39] tCharLit := by
  refine scansAs_of (by decide) (by decide) fun x s hx h => ?_
  obtain ⟨c0, a1, p1⟩ := next_at_ascii h (by omega)
  obtain ⟨c1, a2, p2⟩ := next_at_ascii a1 (by omega)
  obtain ⟨c2, a3, p3⟩ := next_at_ascii a2 (by omega)
  obtain ⟨c3, a4, p4⟩ := next_at_ascii a3 (by omega)
  have hesc : scanEscape (next (next s)) = next (next (next s)) := by
    refine if_pos ?_
    show (next (next s)).ch = _ ∨ _
    rw [c2]
    simp only [← Int.natCast_inj] at he
    exact he
  have hloop : charLoop (fuel (next s)) 0 (next s) = (1, next (next (next s))) := by
    have : fuel (next s) = x.length + 3 + 1 + 1 := by simp [fuel, a1.cur]
    rw [this]
    simp [charLoop, c1, hesc, c3]
  exact ⟨_, scanOnce_char u c0 hloop, a4, by simp [p1, p2, p3, p4]⟩

/-- `"body"` with plain ASCII bytes (no newline, `"`, `\`) scans as a `string_lit` -/
theorem scansAs_stringLit (u : UnicodeOracle) {body : List Nat}
    (hb : ∀ c ∈ body, c < 0x80 ∧ c ≠ 34 ∧ c ≠ 92 ∧ c ≠ 10) :
    ScansAs u (34 :: (body ++ [34])) tStringLit := by
  refine scansAs_of (by decide) (by decide) fun x s hx h => ?_
  rw [List.cons_append, List.append_assoc] at h
  obtain ⟨c0, a1, p1⟩ := next_at_ascii h (by omega)
  obtain ⟨k, s', e, a2, p2⟩ := asciiLoop_at (L := stringLoop)
    (cont := fun c => c ≠ 34 ∧ ¬ (c = 10 ∨ c < 0) ∧ ¬ c = 92)
    (fun _ _ hc => by simp only [stringLoop, hc, ne_eq, not_false_eq_true, if_true, if_false])
    (fun c hc => ⟨(hb c hc).1, by have := hb c hc; omega⟩)
    (fuel (next s)) (next s) (by simp [fuel, a1.cur]; omega) a1
  obtain ⟨c2, a3, p3⟩ := next_at_ascii a2 (by omega)
  have stop : stringLoop (k + 1) s' = s' := by simp [stringLoop, c2]
  exact ⟨next s', by rw [scanOnce_string u c0, scanString, e, stop], a3, by simp [p3, p2, p1]; omega⟩

/-- `<< body >>` with plain ASCII bytes other than `>` scans as a `g_sdt_lit` -/
theorem scansAs_sdtLit (u : UnicodeOracle) {body : List Nat}
    (hb : ∀ c ∈ body, c < 0x80 ∧ c ≠ 62) :
    ScansAs u (60 :: 60 :: (body ++ [62, 62])) tSdtLit := by
  refine scansAs_of (by decide) (by decide) fun x s hx h => ?_
  simp only [List.cons_append, List.append_assoc] at h
  obtain ⟨c0, a1, p1⟩ := next_at_ascii h (by omega)
  obtain ⟨c1, a2, p2⟩ := next_at_ascii a1 (by omega)
  obtain ⟨k, s', e, a3, p3⟩ := asciiLoop_at (L := sdtLoop) (cont := fun c => ¬ c < 0 ∧ ¬ c = 62)
    (fun _ _ hc => by simp only [sdtLoop, hc, if_false])
    (fun c hc => ⟨(hb c hc).1, by have := hb c hc; omega⟩)
    (fuel (next (next s))) (next (next s)) (by simp [fuel, a2.cur]; omega) a2
  obtain ⟨c3, a4, p4⟩ := next_at_ascii a3 (by omega)
  obtain ⟨c4, a5, p5⟩ := next_at_ascii a4 (by omega)
  have stop : sdtLoop (k + 1) s' = next s' := by simp [sdtLoop, c3, c4]
  exact ⟨next (next s'), by rw [scanOnce_sdt u c0 c1, scanSDTLit, e, stop], a5,
    by simp [p5, p4, p3, p2, p1]; omega⟩

end FScan
end Gocc
