import Gocc.Proofs.EmovesUniverse
import Gocc.Proofs.ListAux
/-
Items and item lists of the lexer generator (`Model/LexGen.lean`): what the termination proofs
(`LoopsTerminateLex*`) and the correctness proofs (`LexGenCorrect*`) share.  `addL` / `addAll` are
`ItemList.AddNoDuplicate`, the "append if absent" of Proofs/ListAux.lean.  `Pos C y`: `y` is a dotted
position of the pattern tree of its production.  `Pos` is closed under the ε-step and under moving over
a terminal, so everything the generator builds consists of such items, and they all lie in the finite
universe `LoopsT.lexUniv C`, which `C.fuel` counts.  (`LoopsT.LGood`, in which Props/C09Loops.lean
states it, is the same predicate: `lGood_iff_pos`.)
-/
namespace Gocc
open WorkList

theorem appends_addL (l : List LItem) (i : LItem) : Appends (· = i) l (addL l i) := by
  unfold addL
  split
  · exact .refl _ _
  · rename_i h
    exact ⟨[i], rfl, List.pairwise_singleton _ i,
      List.forall_mem_singleton.2 ⟨rfl, fun hm => h (List.contains_iff_mem.2 hm)⟩⟩

theorem mem_addL {l : List LItem} {i x : LItem} : x ∈ addL l i ↔ x ∈ l ∨ x = i :=
  mem_addNew

theorem mem_addAll {is l : List LItem} {x : LItem} : x ∈ addAll l is ↔ x ∈ l ∨ x ∈ is :=
  (foldl_addNew_spec (fun _ _ => rfl) is l).2.2 x

theorem appends_addAll : ∀ (is l : List LItem), Appends (· ∈ is) l (addAll l is)
  | [], l => .refl _ l
  | i :: is, l =>
    ((appends_addL l i).mono fun _ e => e ▸ List.mem_cons_self).trans
      ((appends_addAll is (addL l i)).mono fun _ h => List.mem_cons_of_mem _ h)

theorem nodup_addAll {is l : List LItem} (h : l.Nodup) : (addAll l is).Nodup :=
  (appends_addAll is l).nodup h

theorem addAll_of_subset {is l : List LItem} (h : ∀ y ∈ is, y ∈ l) : addAll l is = l := by
  obtain ⟨ex, h1, _, h3⟩ := appends_addAll is l
  cases ex with
  | nil => rw [h1, List.append_nil]
  | cons a ex => exact absurd (h a (h3 a List.mem_cons_self).1) (h3 a List.mem_cons_self).2

theorem mem_foldl_addAll {α : Type} (f : α → List LItem) : ∀ (prev : List α) (init : List LItem)
    (x : LItem),
    x ∈ prev.foldl (fun acc i => addAll acc (f i)) init ↔ x ∈ init ∨ ∃ i ∈ prev, x ∈ f i
  | [], init, x => ⟨.inl, fun h => h.elim id nofun⟩
  | i :: prev, init, x => by
    rw [List.foldl_cons, mem_foldl_addAll f prev, mem_addAll, or_assoc]
    simp only [List.mem_cons, exists_eq_or_imp]

theorem nodup_foldl_addAll {α : Type} (f : α → List LItem) (prev : List α) {init : List LItem}
    (h : init.Nodup) : (prev.foldl (fun acc i => addAll acc (f i)) init).Nodup :=
  foldl_inv List.Nodup (fun _ _ _ => nodup_addAll) h

theorem mem_moveOn {C : LexCtx} {i y : LItem} {c : CR} :
    y ∈ moveOn C i c ↔ ∃ t, C.expected i = some t ∧ termMatch t c = true ∧ y ∈ moved C i := by
  unfold moveOn
  cases C.expected i with
  | none => simp
  | some t => by_cases hm : termMatch t c = true <;> simp [hm]

theorem mem_moveDot {C : LexCtx} {i y : LItem} :
    y ∈ moveDot C i ↔ C.expected i = some .dot ∧ y ∈ moved C i := by
  unfold moveDot
  cases C.expected i with
  | none => simp
  | some t => cases t <;> simp

theorem mem_moveRef {C : LexCtx} {i y : LItem} {id : String} :
    y ∈ moveRef C i id ↔
      ∃ r, C.expected i = some (.ref r) ∧ (r == id) = true ∧ y ∈ moved C i := by
  unfold moveRef
  cases C.expected i with
  | none => simp
  | some t =>
    cases t with
    | ref r => by_cases hr : r = id <;> simp [hr]
    | _ => simp

theorem EReach_prod {C : LexCtx} {s y : LItem} (h : EReach C s y) : y.prod = s.prod := by
  induction h with
  | refl => rfl
  | step _ _ hs ih => rw [EmovesU.emoveStep_prod C _ _ hs, ih]

theorem emoves_prod (C : LexCtx) (i : LItem) : ∀ y ∈ emoves C i, y.prod = i.prod :=
  fun y hy => EReach_prod (emoves_sound C i y hy).1

theorem moved_prod (C : LexCtx) (i : LItem) : ∀ y ∈ moved C i, y.prod = i.prod :=
  fun y hy => emoves_prod C { i with path := incLast i.path } y hy

theorem expected_none_of_isReduce {C : LexCtx} {i : LItem} (h : C.isReduce i = true) :
    C.expected i = none := by
  unfold LexCtx.isReduce at h
  split at h
  · rename_i p n pos hpath htop
    -- the path `[p]` has the root on top, which has no terminals
    obtain ⟨P, q, _, hq, hn⟩ := EmovesU.top_elim htop
    rw [hpath] at hq
    obtain rfl : q = [] := by
      cases q with
      | nil => rfl
      | cons a q => cases q <;> simp at hq
    cases hn
    rw [LexCtx.expected, htop]; rfl
  · cases h

namespace LoopsT

def LGood (C : LexCtx) (x : LItem) : Prop :=
  ∃ P, C.prods[x.prod]? = some P ∧ EmovesU.GoodPath (.pat P.pat) x.path

def lexUniv (C : LexCtx) : List LItem := (List.range C.prods.size).flatMap (EmovesU.univ C)

end LoopsT

namespace LexGenC
open EmovesU

def Pos (C : LexCtx) (y : LItem) : Prop :=
  ∃ P, C.prods[y.prod]? = some P ∧ GoodPath (.pat P.pat) y.path

theorem lGood_iff_pos {C : LexCtx} {y : LItem} : LoopsT.LGood C y ↔ Pos C y := Iff.rfl

theorem pos_start {C : LexCtx} {k : Nat} {P : LProd} (h : C.prods[k]? = some P) : Pos C ⟨k, [0]⟩ :=
  ⟨P, h, [], 0, .pat P.pat, rfl, rfl, Nat.zero_le _⟩

theorem pos_step {C : LexCtx} {x : LItem} (hnb : C.isBasic x = false) :
    ∀ y ∈ emoveStep C x, Pos C y := by
  induction x using step_elim (C := C) with
  | h0 x h => rw [h]; nofun
  | h1 k P q pos n hP hn =>
    exact fun y hy => let ⟨h1, h2⟩ := step_good hP hn y hy; ⟨P, h1 ▸ hP, h2 hnb⟩

theorem pos_advance {C : LexCtx} {i : LItem} {t : LTerm} (h : C.expected i = some t) :
    Pos C { i with path := incLast i.path } := by
  obtain ⟨P, q, pos, n, hP, hpath, hn, ht⟩ := expected_elim h
  exact ⟨P, hP, q, pos + 1, n, by rw [hpath]; exact incLast_snoc q pos, hn, termAt_lt ht⟩

theorem EReach_pos {C : LexCtx} {s y : LItem} (hs : Pos C s) (h : EReach C s y) : Pos C y := by
  induction h with
  | refl => exact hs
  | step _ hnb hstep _ => exact pos_step hnb _ hstep

theorem pos_emoves {C : LexCtx} {s : LItem} (hs : Pos C s) : ∀ y ∈ emoves C s, Pos C y :=
  fun y hy => EReach_pos hs (emoves_sound C s y hy).1

theorem pos_moved {C : LexCtx} {x : LItem} {t : LTerm} (he : C.expected x = some t) :
    ∀ y ∈ moved C x, Pos C y :=
  pos_emoves (pos_advance he)

theorem pos_moveOn {C : LexCtx} (x : LItem) (c : CR) : ∀ y ∈ moveOn C x c, Pos C y :=
  fun y hy => let ⟨_, he, _, h⟩ := mem_moveOn.1 hy; pos_moved he y h

theorem pos_moveDot {C : LexCtx} (x : LItem) : ∀ y ∈ moveDot C x, Pos C y :=
  fun y hy => pos_moved (mem_moveDot.1 hy).1 y (mem_moveDot.1 hy).2

theorem pos_moveRef {C : LexCtx} (x : LItem) (id : String) : ∀ y ∈ moveRef C x id, Pos C y :=
  fun y hy => let ⟨_, he, _, h⟩ := mem_moveRef.1 hy; pos_moved he y h

theorem pos_initialItems {C : LexCtx} {r : String} {init : List LItem}
    (h : initialItems C r = .ok init) : ∀ y ∈ init, Pos C y := by
  unfold initialItems at h
  split at h
  · rename_i k hk
    cases h
    obtain ⟨hlt, _⟩ := Array.findIdx?_eq_some_iff_getElem.1 hk
    exact pos_emoves (pos_start (Array.getElem?_eq_getElem hlt))
  · cases h

theorem pos_mem_lexUniv {C : LexCtx} {x : LItem} (h : Pos C x) : x ∈ LoopsT.lexUniv C := by
  obtain ⟨P, hP, hg⟩ := h
  refine List.mem_flatMap.2 ⟨x.prod, List.mem_range.2 (Array.getElem?_eq_some_iff.1 hP).1, ?_⟩
  rw [univ, hP]
  exact List.mem_map.2 ⟨x.path, goodPath_mem_enum hg, rfl⟩

theorem sum_range_succ_le {α : Type} (g : α → Nat) : ∀ (l : List α) (f : Nat → Nat),
    (∀ k (hk : k < l.length), f k + 1 ≤ g l[k]) →
    ((List.range l.length).map f).sum + l.length ≤ (l.map g).sum
  | [], _, _ => Nat.le_refl _
  | a :: l, f, h => by
    have h0 := h 0 (Nat.zero_lt_succ _)
    have := sum_range_succ_le g l (fun k => f (k + 1)) fun k hk => h (k + 1) (Nat.succ_lt_succ hk)
    rw [List.length_cons, List.range_succ_eq_map, List.map_cons, List.map_map, List.sum_cons,
      List.map_cons, List.sum_cons]
    simp only [List.getElem_cons_zero] at h0
    have e : (f ∘ Nat.succ) = fun k => f (k + 1) := rfl
    rw [e]
    omega

theorem lexUniv_length (C : LexCtx) : (LoopsT.lexUniv C).length + C.prods.size + 8 ≤ C.fuel := by
  have := sum_range_succ_le (fun p : LProd => 4 * p.pat.size + 4) C.prods.toList
    (fun k => (univ C k).length) (by
      intro k hk
      have hP : C.prods[k]? = some C.prods.toList[k] := by
        rw [Array.getElem_toList]; exact Array.getElem?_eq_getElem (by simpa using hk)
      have := univ_length C k
      simp only [univD, hP] at this
      omega)
  rw [LoopsT.lexUniv, List.length_flatMap, LexCtx.fuel]
  rw [Array.length_toList] at this
  omega

theorem length_le_fuel_of_pos {C : LexCtx} {l : List LItem} (hn : l.Nodup) (hp : ∀ i ∈ l, Pos C i) :
    l.length ≤ C.fuel := by
  have := List.Nodup.length_le_of_subset hn (fun i hi => pos_mem_lexUniv (hp i hi))
  have := lexUniv_length C
  omega

theorem step_deg {C : LexCtx} {x : LItem} (hnb : C.isBasic x = false) :
    (emoveStep C x).length ≤ C.fuel := by
  have h1 := (step_in_univ x hnb).2
  have h2 := univD_fuel C x.prod
  omega

end LexGenC
end Gocc
