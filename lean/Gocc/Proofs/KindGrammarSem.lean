import Gocc.Proofs.KindGrammar
import Gocc.Proofs.SemCheck
/-
`SpellingsOk` and what gocc's front end refuses (`semCheck`, Model/SemCheck.lean: `consistent` with
the fixes D14 and D15).

A grammar that passes `semCheck` satisfies
  * `prodIdDefined`     — `undefinedUse` (with `KindsOk`, Proofs/SemCheck.lean: the scanner does not
                           classify a token id or a keyword as a production id);
  * `terminalNotHead`   for STRING LITERALS — `reservedUse`, first clause (fix D15);
  * `emptyAlone`        for symbols that are NOT string literals — `reservedUse`, second clause.
What remains an assumption on the input:
  * `TokIdsNotHeads`: a `.tokId` symbol is not spelled like a head.  gocc's scanner guarantees it
    (token ids begin with a lower-case letter, production ids with a capital); nothing in `semCheck`
    looks at it, and the abstract syntax `SSym` does not enforce it;
  * `NoLiteralEmptyFirst`: no alternative begins with the string literal `"empty"`.  This is NOT
    refused by gocc — known finding D16 (gocc's own grammar writes its keywords as the string
    literals `"empty"` / `"error"`, so refusing them breaks self-hosting);
  * `NamesOk` (side condition of every generator-level theorem): start symbol not spelled `empty`,
    no body symbol spelled `S'`.
-/
namespace Gocc

def TokIdsNotHeads (syn : List SProd) : Prop :=
  ∀ p ∈ syn, ∀ s ∈ p.body, s.kind = .tokId → s.name ∉ syn.map (·.head)

instance (syn : List SProd) : Decidable (TokIdsNotHeads syn) := by
  unfold TokIdsNotHeads; infer_instance

def NoLiteralEmptyFirst (syn : List SProd) : Prop :=
  ∀ p ∈ syn, ∀ s ∈ p.body.head?, s.kind = .strLit → s.name ≠ "empty"

instance (syn : List SProd) : Decidable (NoLiteralEmptyFirst syn) := by
  unfold NoLiteralEmptyFirst; infer_instance

namespace KindG

theorem ite_some_eq_none {α : Type} {c : Prop} [Decidable c] {a : α} {x : Option α} :
    (if c then some a else x) = none ↔ ¬ c ∧ x = none := by
  split <;> simp [*]

theorem reservedUse_none {g : Grammar} (h : reservedUse g = none) :
    (∀ p ∈ g.syn, p.head ∉ reservedNames) ∧
    (∀ p ∈ g.syn, ∀ s ∈ p.body, s.kind = .strLit →
      s.name ∉ reservedNames ∧ s.name ∉ g.syn.map (·.head)) ∧
    (∀ p ∈ g.syn, ∀ s ∈ p.body, s.kind ≠ .strLit → s.name = "empty" → p.body.length ≤ 1) := by
  -- every `if … then some _ else …` of the two nested searches contributes its negated condition
  simp only [reservedUse, List.findSome?_eq_none_iff, ite_some_eq_none, Bool.and_eq_true,
    Bool.or_eq_true, beq_iff_eq, bne_iff_ne, List.contains_iff_mem, decide_eq_true_eq,
    and_true] at h
  refine ⟨fun p hp => (h p hp).1, fun p hp s hs hk => ?_, fun p hp s hs hk hn => ?_⟩
  · have := ((h p hp).2 s hs).1
    exact ⟨fun h1 => this ⟨hk, .inl h1⟩, fun h2 => this ⟨hk, .inr h2⟩⟩
  · exact Nat.le_of_not_gt fun hl => ((h p hp).2 s hs).2 ⟨⟨hk, hn⟩, hl⟩

end KindG

theorem semCheck_spelling_clauses {lex : List LProd} {syn : List SProd} {imports : List String}
    (h : semCheck { lex := lex, syn := syn } imports = .ok ())
    (hk : KindsOk { lex := lex, syn := syn }) :
    -- `prodIdDefined` (undefinedUse)
    (∀ p ∈ syn, ∀ s ∈ p.body, s.kind = .prodId → s.name ∈ syn.map (·.head)) ∧
    -- `terminalNotHead`, string literals (reservedUse)
    (∀ p ∈ syn, ∀ s ∈ p.body, s.kind = .strLit → s.name ∉ syn.map (·.head)) ∧
    -- `emptyAlone`, symbols other than string literals (reservedUse)
    (∀ p ∈ syn, ∀ s ∈ p.body, s.kind ≠ .strLit → s.name = "empty" →
      p.body = [⟨.tokId, "empty"⟩]) := by
  revert h
  refine semCheck_cases _ imports (fun _ _ => nofun) (fun _ _ => nofun) (fun _ _ => nofun)
    (fun _ _ => nofun) (fun _ _ => nofun) (fun _ _ => nofun) fun _ _ hres _ hu _ _ => ?_
  obtain ⟨-, r2, r3⟩ := KindG.reservedUse_none hres
  refine ⟨(undefinedUse_none_iff hk).1 hu, fun p hp s hs hkd => (r2 p hp s hs hkd).2,
    fun p hp s hs hkd hn => ?_⟩
  obtain ⟨kind, name⟩ := s
  obtain rfl : name = "empty" := hn
  have hkind : kind = .tokId := by
    cases kind with
    | prodId => exact absurd rfl (hk p hp _ hs rfl).2.1
    | tokId => rfl
    | strLit => exact absurd rfl hkd
  subst hkind
  match hb : p.body, hs, r3 p hp _ hs hkd rfl with
  | [x], hs, _ => rw [List.mem_singleton.1 hs]

theorem spellingsOk_of_semCheck {lex : List LProd} {syn : List SProd} {imports tokIds : List String}
    (h : semCheck { lex := lex, syn := syn } imports = .ok ())
    (hk : KindsOk { lex := lex, syn := syn }) (hn : NamesOk syn tokIds)
    (ht : TokIdsNotHeads syn) (hD16 : NoLiteralEmptyFirst syn) : SpellingsOk syn tokIds := by
  obtain ⟨c1, c2, c3⟩ := semCheck_spelling_clauses h hk
  obtain ⟨n1, n2, -, -, n5, -⟩ := hn
  obtain ⟨q, rest, rfl⟩ := List.exists_cons_of_ne_nil n1
  have hS' : ∀ p ∈ q :: rest, ∀ s ∈ p.body, s.name ≠ "S'" := fun p hp s hs he =>
    n5 (List.mem_flatMap.2 ⟨p, hp, List.mem_map.2 ⟨s, hs, he⟩⟩)
  -- `augment (q :: rest)` is `S' : q.head` followed by `q :: rest`; its heads are `S'` and theirs
  refine ⟨fun p hp s hs hkd => ?_, fun p hp s hs hkd hm => ?_, fun p hp s hs hne => ?_⟩
  · rcases List.mem_cons.1 hp with rfl | hp
    · obtain rfl := List.mem_singleton.1 hs
      exact List.mem_cons_of_mem _ List.mem_cons_self
    · exact List.mem_cons_of_mem _ (c1 p hp s hs hkd)
  · rcases List.mem_cons.1 hp with rfl | hp
    · obtain rfl := List.mem_singleton.1 hs
      exact hkd rfl
    · rcases List.mem_cons.1 hm with he | hm
      · exact hS' p hp s hs he
      · cases hkk : s.kind with
        | prodId => exact hkd hkk
        | tokId => exact ht p hp s hs hkk hm
        | strLit => exact c2 p hp s hs hkk hm
  · rcases List.mem_cons.1 hp with rfl | hp
    · obtain rfl := Option.some.inj hs
      exact absurd hne (n2 q List.mem_cons_self).2
    · by_cases hkd : s.kind = .strLit
      · exact absurd hne (hD16 p hp s hs hkd)
      · exact c3 p hp s (List.mem_of_mem_head? hs) hkd hne

end Gocc
