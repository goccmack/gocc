import Gocc.Proofs.GenFacts
/-
Generator-level completeness: for every grammar for which the generator model records no conflict,
the generated tables pass the completeness validator `firstOk` / `complete`
(Model/ValidateC.lean) with the certificates `fcOf`, `claOf` (Model/GenCert.lean) read off the
generator's FIRST sets and item sets.
-/
namespace Gocc.GenComplete

theorem complete_intro {G : NGrammar} {T : PTables} {fc : FirstCert} {c : CertLA}
    (h1 : T.numSymbols > 1)
    (h2 : ∀ row ∈ T.action.toList, row.size ≤ T.numSymbols)
    (h3 : ∀ p, p < G.prods.size →
      T.prodNT[p]? = some (G.head p) ∧ T.prodLen[p]? = some (G.body p).length)
    (h4 : ∃ A, G.body 0 = [Sym.nt A])
    (h5t : ∀ p, p < G.prods.size → ∀ a, Sym.t a ∈ G.body p → a < T.numSymbols)
    (h5n : ∀ p, p < G.prods.size → ∀ B, Sym.nt B ∈ G.body p → B ≠ G.head 0)
    (h6 : (0, 0, 1) ∈ c[0]?.getD [])
    (hsh : ∀ (s p d a t' : Nat), (p, d, a) ∈ c[s]?.getD [] → (G.body p)[d]? = some (Sym.t t') →
      ∃ s', T.act s t' = some (.shift s') ∧ (p, d + 1, a) ∈ c[s']?.getD [])
    (hgo : ∀ (s p d a B : Nat), (p, d, a) ∈ c[s]?.getD [] → (G.body p)[d]? = some (Sym.nt B) →
      ∃ n : Nat, T.gotoOf s B = some (n : Int) ∧ (p, d + 1, a) ∈ c[n]?.getD [])
    (hcl : ∀ (s p d a B : Nat), (p, d, a) ∈ c[s]?.getD [] → (G.body p)[d]? = some (Sym.nt B) →
      ∀ q, q < G.prods.size → G.head q = B →
        ∀ b ∈ firstOfSeq fc ((G.body p).drop (d + 1)) a, (q, 0, b) ∈ c[s]?.getD [])
    (hre : ∀ (s p d a : Nat), (p, d, a) ∈ c[s]?.getD [] → d = (G.body p).length →
      (p = 0 → a = 1 ∧ T.act s 1 = some .accept) ∧ (p ≠ 0 → T.act s a = some (.reduce p))) :
    complete G T fc c = true := by
  simp only [complete, Bool.and_eq_true, List.all_eq_true, List.mem_range, beq_iff_eq,
    decide_eq_true_eq]
  refine ⟨⟨⟨⟨⟨⟨h1, h2⟩, h3⟩, ?_⟩, ?_⟩, ?_⟩, ?_⟩
  · obtain ⟨A, hA⟩ := h4
    rw [hA]
  · intro p hp X hX
    cases X with
    | t a => simpa using h5t p hp a hX
    | nt B => simpa using h5n p hp B hX
  · simpa [CertLA.has] using h6
  · intro s _ ⟨p, d, a⟩ hm
    dsimp only
    split
    · rename_i t' hb
      obtain ⟨s', e1, e2⟩ := hsh s p d a t' hm hb
      rw [e1]
      simpa [CertLA.has] using e2
    · rename_i B hb
      simp only [Bool.and_eq_true, List.all_eq_true, List.mem_range, Bool.or_eq_true,
        bne_iff_ne, ne_eq]
      constructor
      · obtain ⟨n, e1, e2⟩ := hgo s p d a B hm hb
        rw [e1]
        simpa [CertLA.has] using e2
      · intro q hq
        by_cases hh : G.head q = B
        · right
          intro b hbm
          simpa [CertLA.has] using hcl s p d a B hm hb q hq hh b hbm
        · exact .inl hh
    · rename_i hb
      simp only [Bool.or_eq_true, bne_iff_ne, ne_eq]
      by_cases hd : d = (G.body p).length
      · right
        obtain ⟨r1, r2⟩ := hre s p d a hm hd
        by_cases hp : p = 0
        · subst hp
          obtain ⟨e1, e2⟩ := r1 rfl
          simp [e1, e2]
        · simp [hp, r2 hp]
      · exact .inl hd


theorem trans_target {syn : List SProd} {r : LRResult} (G : GenFacts syn r) {s : Nat}
    {st : LRState} {i : Item} (hs : r.states[s]? = some st) (hi : i ∈ st.items)
    (hd : i.d < r.ctx.len i) :
    ∃ n st', st.next (r.ctx.expected i) = some n ∧ r.states[n]? = some st' ∧
      ({ i with d := i.d + 1 } : Item) ∈ st'.items := by
  have hadv := goto_mem_of hi hd rfl
  have hne : goto r.ctx st.items (r.ctx.expected i) ≠ [] := by
    intro he; rw [he] at hadv; cases hadv
  obtain ⟨idx, hidx⟩ := G.exp s (Array.getElem?_eq_some_iff.1 hs).1 st hs _
    (expected_facts G.F.prods_eq G.hW G.hB hd).1 hne
  obtain ⟨n, hn⟩ := LRState.next_of_mem hidx
  obtain ⟨-, st', h2, h3⟩ := G.inv.trans s st hs _ (LRState.next_some hn)
  have hnd := state_nodup G.inv (closure_nodup _ _) h2
  exact ⟨n, st', hn, h2, (LoopsT.mem_iff_of_sameList hnd h3 _).2 hadv⟩

theorem itemAction_shift_intro {C : LRCtx} {i : Item} {sym : String} (nx : Nat)
    (h1 : sym ≠ "INVALID") (hd : i.d < C.len i) (hsym : sym = C.expected i) :
    itemAction C i sym nx = some (.shift nx) := by
  unfold itemAction
  dsimp only
  subst hsym
  have h2 : ¬ (C.len i ≤ i.d) := by omega
  have h3 : C.len i ≠ 0 := by omega
  simp [h1, h2, h3]

theorem itemAction_accept_intro {C : LRCtx} {i : Item} (nx : Nat) (hp : i.p = 0)
    (hd : C.len i ≤ i.d) (hla : i.la = "␚") : itemAction C i "␚" nx = some .accept := by
  unfold itemAction
  dsimp only
  simp [hp, hd, hla]

theorem itemAction_reduce_intro {C : LRCtx} {i : Item} (nx : Nat) (hp : i.p ≠ 0)
    (hd : C.len i ≤ i.d) (hla : i.la ≠ "INVALID") :
    itemAction C i i.la nx = some (.reduce i.p) := by
  unfold itemAction
  dsimp only
  simp [hp, hd, hla]

theorem k2_shift {syn : List SProd} {ids : List String} {r : LRResult}
    (h : genParser syn ids = .ok r) (G : GenFacts syn r) (hc : r.tables.conflictStates = 0)
    {s : Nat} {st : LRState} {i : Item} (hs : r.states[s]? = some st) (hi : i ∈ st.items)
    (hd : i.d < r.ctx.len i) (hX : r.ctx.expected i ∉ r.ctx.S.ntList) :
    ∃ n st', r.tables.act s ((r.ctx.S.terminals.idxOf? (r.ctx.expected i)).getD 0) =
        some (.shift n) ∧ r.states[n]? = some st' ∧ ({ i with d := i.d + 1 } : Item) ∈ st'.items := by
  obtain ⟨n, st', hnext, hst', hadv⟩ := trans_target G hs hi hd
  obtain ⟨e1, e2⟩ := expected_facts G.F.prods_eq G.hW G.hB hd
  obtain ⟨res, hres, hact, hflag⟩ := act_of_state h hs (term_idx (mem_terminals e1 hX))
  have := setAction_noconf hres (hflag hc) hi
    (itemAction_shift_intro ((st.next (r.ctx.expected i)).getD 0) e2 hd rfl)
  rw [hnext] at this
  exact ⟨n, st', by rw [hact, this]; rfl, hst', hadv⟩

theorem k2_goto {syn : List SProd} {ids : List String} {r : LRResult}
    (h : genParser syn ids = .ok r) (G : GenFacts syn r)
    {s : Nat} {st : LRState} {i : Item} (hs : r.states[s]? = some st) (hi : i ∈ st.items)
    (hd : i.d < r.ctx.len i) (hX : r.ctx.expected i ∈ r.ctx.S.ntList) :
    ∃ (n : Nat) (st' : LRState),
      r.tables.gotoOf s (r.ctx.S.ntList.idxOf (r.ctx.expected i)) = some (n : Int) ∧
      r.states[n]? = some st' ∧ ({ i with d := i.d + 1 } : Item) ∈ st'.items := by
  obtain ⟨n, st', hnext, hst', hadv⟩ := trans_target G hs hi hd
  have hB : r.ctx.S.ntList[r.ctx.S.ntList.idxOf (r.ctx.expected i)]? = some (r.ctx.expected i) := by
    rw [List.getElem?_eq_getElem (List.idxOf_lt_length_of_mem hX), List.getElem_idxOf]
  exact ⟨n, st', goto_of_state h hs hB hnext, hst', hadv⟩

/-- (K1) closure: the look-aheads demanded by the validator are among those the generator
    computed -/
theorem k1_closure {syn : List SProd} {r : LRResult} (G : GenFacts syn r)
    {s : Nat} {st : LRState} {i : Item} (hs : r.states[s]? = some st) (hi : i ∈ st.items)
    (hd : i.d < r.ctx.len i) (hX : r.ctx.expected i ∈ r.ctx.S.ntList) {q : Nat}
    (hq : q < (augment syn).length) (hh : ((augment syn)[q]).head = r.ctx.expected i) :
    ∀ b ∈ firstOfSeq (mkFc r.ctx.S.terminals r.ctx.S.ntList r.ctx.fs)
        (((r.ctx.body i).drop (i.d + 1)).map (symOf r.ctx.S.terminals r.ctx.S.ntList))
        ((r.ctx.S.terminals.idxOf? i.la).getD 0),
      ∃ x ∈ st.items, x.p = q ∧ x.d = 0 ∧ (r.ctx.S.terminals.idxOf? x.la).getD 0 = b := by
  intro b hb
  obtain ⟨hla, hlant, -⟩ := la_facts G hs hi
  obtain ⟨t, ht1, ht2, ht3⟩ := firstOfSeq_sub r.ctx.S.terminals hlant _
    (fun y hy _ => body_noEmpty G.F.prods_eq G.hB (List.mem_of_mem_drop hy)) hla.2.2.2 b hb
  have hfirst : t ∈ first1 r.ctx i :=
    mem_first1_iff.2 (mem_firstS_iff.2 ⟨ht2, fun e => absurd e ht1⟩)
  have hqs : q < r.ctx.prods.size := by rw [G.F.prods_eq]; simpa using hq
  have hhead : r.ctx.prods[q]!.head = r.ctx.expected i := by
    rw [getElem!_pos r.ctx.prods q hqs, (ctx_prod G.F.prods_eq hqs).2]; exact hh
  exact ⟨⟨q, 0, t⟩,
    G.closed s st hs i hi _ (mem_closureStep_iff.2 ⟨⟨hqs, rfl, hfirst, hd, hhead⟩, hX⟩), rfl, rfl, ht3⟩

theorem k3_reduce {syn : List SProd} {ids : List String} {r : LRResult}
    (h : genParser syn ids = .ok r) (G : GenFacts syn r) (hc : r.tables.conflictStates = 0)
    {s : Nat} {st : LRState} {i : Item} (hs : r.states[s]? = some st) (hi : i ∈ st.items)
    (hd : r.ctx.len i ≤ i.d) :
    (i.p = 0 → (r.ctx.S.terminals.idxOf? i.la).getD 0 = 1 ∧ r.tables.act s 1 = some .accept) ∧
    (i.p ≠ 0 →
      r.tables.act s ((r.ctx.S.terminals.idxOf? i.la).getD 0) = some (.reduce i.p)) := by
  obtain ⟨hla, -, hlat⟩ := la_facts G hs hi
  constructor
  · intro hp
    have hl := hla.1 hp
    obtain ⟨res, hres, hact, hflag⟩ := act_of_state h hs G.F.term1
    have := setAction_noconf hres (hflag hc) hi (itemAction_accept_intro _ hp hd hl)
    exact ⟨by rw [hl]; exact idx_of_get G.F.termsNodup G.F.term1, by rw [hact, this]⟩
  · intro hp
    obtain ⟨res, hres, hact, hflag⟩ := act_of_state h hs (term_idx hlat)
    have := setAction_noconf hres (hflag hc) hi (itemAction_reduce_intro _ hp hd hla.2.2.1)
    rw [hact, this]

theorem idxOf?_getD_lt {l : List String} (x : String) (h : 0 < l.length) :
    (l.idxOf? x).getD 0 < l.length := by
  cases hx : l.idxOf? x with
  | none => exact h
  | some k => exact (List.idxOf?_eq_some_iff.1 hx).1

theorem head_eq_of {syn : List SProd} {r : LRResult} (F : SymFacts (augment syn) r.ctx)
    (terms : List String) {q : Nat} (hq : q < (augment syn).length) {X : String}
    (hX : X ∈ r.ctx.S.ntList)
    (hh : (ngrammarOf (augment syn) terms r.ctx.S.ntList).head q = r.ctx.S.ntList.idxOf X) :
    ((augment syn)[q]).head = X := by
  have hqh := F.heads _ (List.getElem_mem hq)
  rw [ngrammarOf_head _ _ hq, idxOf?_eq_idxOf hqh, Option.getD_some] at hh
  have h1 := (getBang_idxOf hqh).2
  rw [hh, (getBang_idxOf hX).2] at h1
  exact h1.symm

/-- the FIRST half needs neither the bound on the number of states nor the absence of conflicts -/
theorem genParser_firstOk {syn : List SProd} {ids : List String} {r : LRResult}
    (h : genParser syn ids = .ok r) (hn : NamesOk syn ids) (hx : CompleteNamesOk syn) :
    firstOk (ngrammarOf (augment syn) r.tables.terminals r.tables.nts) (fcOf r) = true := by
  obtain ⟨hW, hfs⟩ := run_ctx h
  obtain ⟨rows, -, hterm, hnts, -⟩ := genParser_tables h
  rw [fcOf_eq, hterm, hnts, hfs]
  exact firstOk_gen _ hW (bodyOk_of hn hx) (not_mem_ntList h hx.2.1 (by decide))

theorem genParser_complete {syn : List SProd} {ids : List String} {r : LRResult}
    (h : genParser syn ids = .ok r) (hn : NamesOk syn ids) (hsz : r.states.size ≤ 4096)
    (hc : r.tables.conflictStates = 0) (hx : CompleteNamesOk syn) :
    firstOk (ngrammarOf (augment syn) r.tables.terminals r.tables.nts) (fcOf r) = true ∧
    complete (ngrammarOf (augment syn) r.tables.terminals r.tables.nts) r.tables (fcOf r)
      (claOf r) = true := by
  refine ⟨genParser_firstOk h hn hx, ?_⟩
  have G := genFacts_of h hn hsz hx
  have F := G.F
  have hC := F.prods_eq
  rw [fcOf_eq, G.terms, G.nts]
  obtain ⟨rows, -, -, -, -, -, hpnt, hplen, -⟩ := genParser_tables h
  have hnum := genParser_numSymbols h
  have hpos := prods_pos F
  have h0 : 0 < (augment syn).length := by rw [hC] at hpos; simpa using hpos
  have hlen2 : 1 < r.ctx.S.terminals.length := (List.getElem?_eq_some_iff.1 F.term1).1
  have hle : r.ctx.S.terminals.length ≤ r.ctx.S.typeMap.length := by
    unfold PSymbols.terminals; exact List.length_filter_le _ _
  apply complete_intro
  · rw [hnum]; omega
  · intro row hrow
    rw [(tables_shape h).2.1 row hrow, hnum]; exact hle
  · intro p hp
    rw [ngrammarOf_size] at hp
    rw [hpnt, hplen]
    exact prodTable_ok F hp
  · exact body0_ok F
  · intro p _ a ha
    obtain ⟨k, hk⟩ := List.mem_iff_getElem?.1 ha
    obtain ⟨-, hsym⟩ := gbody_get hC (i := ⟨p, k, ""⟩) hk
    rw [(symOf_t_inv hsym).2, hnum]
    exact Nat.lt_of_lt_of_le (idxOf?_getD_lt _ (by omega)) hle
  · -- a body non-terminal equal to the head `S'` of production 0 would be a reference to `S'`
    intro p _ B hB heq
    obtain ⟨k, hk⟩ := List.mem_iff_getElem?.1 hB
    obtain ⟨hd, hsym⟩ := gbody_get hC (i := ⟨p, k, ""⟩) hk
    obtain ⟨hX, rfl⟩ := symOf_nt_inv hsym
    apply F.noStart _ hd
    rw [getElem!_pos r.ctx.prods 0 hpos, (ctx_prod hC hpos).2]
    exact head_eq_of F _ h0 hX heq.symm
  · -- (K0)
    obtain ⟨st0, g1, g2⟩ := G.inv.zero
    refine (mem_claOf G.terms).2 ⟨st0, g1, ⟨0, 0, "␚"⟩, ?_, rfl, rfl,
      idx_of_get F.termsNodup F.term1⟩
    rw [g2]; exact closure_subset _ _ _ (by simp)
  · -- (K2) shift
    intro s p d a t' hm hb
    obtain ⟨st, hs, x, hx, rfl, rfl, rfl⟩ := (mem_claOf G.terms).1 hm
    obtain ⟨hd, hsym⟩ := gbody_get hC hb
    obtain ⟨hX, rfl⟩ := symOf_t_inv hsym
    obtain ⟨n, st', e1, e2, e3⟩ := k2_shift h G hc hs hx hd hX
    exact ⟨n, e1, (mem_claOf G.terms).2 ⟨st', e2, _, e3, rfl, rfl, rfl⟩⟩
  · -- (K2) goto
    intro s p d a B hm hb
    obtain ⟨st, hs, x, hx, rfl, rfl, rfl⟩ := (mem_claOf G.terms).1 hm
    obtain ⟨hd, hsym⟩ := gbody_get hC hb
    obtain ⟨hX, rfl⟩ := symOf_nt_inv hsym
    obtain ⟨n, st', e1, e2, e3⟩ := k2_goto h G hs hx hd hX
    exact ⟨n, e1, (mem_claOf G.terms).2 ⟨st', e2, _, e3, rfl, rfl, rfl⟩⟩
  · -- (K1) closure
    intro s p d a B hm hb q hq hhead b hbm
    obtain ⟨st, hs, x, hx, rfl, rfl, rfl⟩ := (mem_claOf G.terms).1 hm
    obtain ⟨hd, hsym⟩ := gbody_get hC hb
    obtain ⟨hX, rfl⟩ := symOf_nt_inv hsym
    rw [ngrammarOf_size] at hq
    rw [ngrammarOf_body_ctx hC, ← List.map_drop] at hbm
    obtain ⟨y, hy, e1, e2, e3⟩ :=
      k1_closure G hs hx hd hX hq (head_eq_of F _ hq hX hhead) b hbm
    exact (mem_claOf G.terms).2 ⟨st, hs, y, hy, e1, e2, e3⟩
  · -- (K3)
    intro s p d a hm hd
    obtain ⟨st, hs, x, hx, rfl, rfl, rfl⟩ := (mem_claOf G.terms).1 hm
    rw [ngrammarOf_body_len hC] at hd
    exact k3_reduce h G hc hs hx (by omega)

end Gocc.GenComplete
