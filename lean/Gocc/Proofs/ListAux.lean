import Gocc.Model.LR1
/-
Lists as the generator uses them: the "append if absent" step behind `addNoDup` / `addItem`,
invariants of `foldl` and of `foldlM` / `mapM` in `Except`, `toOption`, `idxOf`.
-/
namespace Gocc

theorem mem_addNew {α : Type} [BEq α] [LawfulBEq α] {l : List α} {a x : α} :
    x ∈ (if l.contains a then l else l ++ [a]) ↔ x ∈ l ∨ x = a := by
  split
  · rename_i h
    rw [List.contains_iff_mem] at h
    exact ⟨Or.inl, fun h' => h'.elim id (· ▸ h)⟩
  · rw [List.mem_append, List.mem_singleton]

theorem nodup_addNew {α : Type} [BEq α] [LawfulBEq α] {l : List α} {a : α} (h : l.Nodup) :
    (if l.contains a then l else l ++ [a]).Nodup := by
  split
  · exact h
  · rename_i hc
    rw [List.contains_iff_mem] at hc
    refine List.nodup_append.2 ⟨h, by simp, fun x hx y hy hxy => ?_⟩
    rw [List.mem_singleton] at hy
    exact hc (hy ▸ hxy ▸ hx)

theorem prefix_addNew {α : Type} [BEq α] (l : List α) (a : α) :
    l <+: (if l.contains a then l else l ++ [a]) := by
  split
  · exact List.prefix_refl l
  · exact List.prefix_append l [a]

theorem foldl_addNew_spec {α : Type} [BEq α] [LawfulBEq α] {f : List α → α → List α}
    (hf : ∀ l a, f l a = if l.contains a then l else l ++ [a]) (l : List α) : ∀ (c : List α),
    (c.Nodup → (l.foldl f c).Nodup) ∧ c <+: l.foldl f c ∧
    ∀ x, x ∈ l.foldl f c ↔ x ∈ c ∨ x ∈ l := by
  induction l with
  | nil => intro c; simp
  | cons a l ih =>
    intro c
    obtain ⟨h1, h2, h3⟩ := ih (f c a)
    rw [List.foldl_cons]
    rw [hf] at h1 h2 h3 ⊢
    refine ⟨fun hc => h1 (nodup_addNew hc), (prefix_addNew c a).trans h2, fun x => ?_⟩
    rw [h3, mem_addNew, List.mem_cons, or_assoc]

instance : LawfulBEq Item where
  eq_of_beq := by
    intro a b h
    cases a; cases b
    simpa [BEq.beq, instBEqItem.beq] using h
  rfl := by
    intro a; cases a; simp [BEq.beq, instBEqItem.beq]

theorem mem_addNoDup {l : List String} {s x : String} : x ∈ addNoDup l s ↔ x ∈ l ∨ x = s :=
  mem_addNew

theorem addNoDup_nodup {l : List String} {s : String} (h : l.Nodup) : (addNoDup l s).Nodup :=
  nodup_addNew h

theorem foldl_addNoDup_spec (l c : List String) :
    (c.Nodup → (l.foldl addNoDup c).Nodup) ∧ c <+: l.foldl addNoDup c ∧
    ∀ x, x ∈ l.foldl addNoDup c ↔ x ∈ c ∨ x ∈ l :=
  foldl_addNew_spec (fun _ _ => rfl) l c

theorem foldl_addNoDup_mem_iff {f : List String} {acc : List String} {t : String} :
    t ∈ f.foldl addNoDup acc ↔ t ∈ acc ∨ t ∈ f :=
  (foldl_addNoDup_spec f acc).2.2 t

theorem mem_addItem {l : List Item} {i j : Item} : j ∈ addItem l i ↔ j ∈ l ∨ j = i :=
  mem_addNew

theorem addItem_nodup {l : List Item} {i : Item} (h : l.Nodup) : (addItem l i).Nodup :=
  nodup_addNew h

theorem foldl_addItem_spec (l : List Item) : ∀ (c : List Item),
    (c.Nodup → (l.foldl addItem c).Nodup) ∧ c <+: l.foldl addItem c ∧
    ∀ j, j ∈ l.foldl addItem c ↔ j ∈ c ∨ j ∈ l :=
  foldl_addNew_spec (fun _ _ => rfl) l

theorem foldl_inv_rel {α β : Type} (P : β → Prop) (R : β → β → Prop) (Q : α → Prop)
    (g : β → α → β) (hrefl : ∀ b, R b b) (htrans : ∀ a b c, R a b → R b c → R a c)
    (hstep : ∀ b x, Q x → P b → P (g b x) ∧ R b (g b x)) :
    ∀ (l : List α) (b : β), (∀ x ∈ l, Q x) → P b → P (l.foldl g b) ∧ R b (l.foldl g b) := by
  intro l
  induction l with
  | nil => intro b _ hb; exact ⟨hb, hrefl b⟩
  | cons x xs ih =>
    intro b hQ hb
    rw [List.foldl_cons]
    have h1 := hstep b x (hQ x (List.mem_cons_self ..)) hb
    have h2 := ih (g b x) (fun y hy => hQ y (List.mem_cons_of_mem _ hy)) h1.1
    exact ⟨h2.1, htrans _ _ _ h1.2 h2.2⟩

theorem foldl_inv {α β : Type} (P : β → Prop) {g : β → α → β} {l : List α}
    (hstep : ∀ b, ∀ x ∈ l, P b → P (g b x)) {b : β} (hb : P b) : P (l.foldl g b) :=
  (foldl_inv_rel P (fun _ _ => True) (· ∈ l) g (fun _ => trivial) (fun _ _ _ _ _ => trivial)
    (fun b x hx hb => ⟨hstep b x hx hb, trivial⟩) l b (fun _ h => h) hb).1

/-- a fold whose accumulator carries the index of the element it is at (`for k, a := range L`) -/
theorem foldl_idx_inv {α β : Type} (g : β → α → β) (idx : β → Nat) (P : β → Prop) (L : List α)
    (hstep : ∀ b a, P b → L[idx b]? = some a → P (g b a) ∧ idx (g b a) = idx b + 1)
    (b : β) (hb : P b) (h0 : idx b = 0) : P (L.foldl g b) ∧ idx (L.foldl g b) = L.length := by
  suffices ∀ (cs pre : List α) (b : β), L = pre ++ cs → P b → idx b = pre.length →
      P (cs.foldl g b) ∧ idx (cs.foldl g b) = L.length from this L [] b rfl hb h0
  intro cs
  induction cs with
  | nil => intro pre b hL hb hi; rw [hL, List.append_nil]; exact ⟨hb, hi⟩
  | cons a cs ih =>
    intro pre b hL hb hi
    obtain ⟨h1, h2⟩ := hstep b a hb (by
      rw [hL, hi, List.getElem?_append_right (Nat.le_refl _), Nat.sub_self]; rfl)
    exact ih (pre ++ [a]) _ (by rw [hL, List.append_assoc]; rfl) h1 (by
      rw [h2, hi, List.length_append]; rfl)

theorem foldlM_ok_proj {σ α β ε : Type} {f : σ → α → Except ε σ} {g : σ → β} {k : β → α → β}
    (hf : ∀ s x s', f s x = .ok s' → g s' = k (g s) x) :
    ∀ {l : List α} {init r : σ}, l.foldlM f init = .ok r → g r = l.foldl k (g init) := by
  intro l
  induction l with
  | nil =>
    intro init r h
    cases h; rfl
  | cons a l ih =>
    intro init r h
    rw [List.foldlM_cons] at h
    cases hfa : f init a with
    | error e => rw [hfa] at h; cases h
    | ok s1 =>
      rw [hfa] at h
      rw [ih h, hf _ _ _ hfa, List.foldl_cons]

theorem mapM_ok_map {α β γ ε : Type} {f : α → Except ε β} {P : β → γ} {Q : α → γ}
    (hPQ : ∀ a b, f a = .ok b → P b = Q a) :
    ∀ {l : List α} {r : List β}, l.mapM f = .ok r → r.map P = l.map Q := by
  intro l
  induction l with
  | nil => intro r h; cases h; rfl
  | cons x xs ih =>
    intro r h
    rw [List.mapM_cons] at h
    cases hx : f x with
    | error e => rw [hx] at h; cases h
    | ok b =>
      cases hxs : xs.mapM f with
      | error e => rw [hx, hxs] at h; cases h
      | ok bs =>
        rw [hx, hxs] at h
        cases h
        rw [List.map_cons, List.map_cons, ih hxs, hPQ x b hx]

theorem mapM_ok_length {α β ε : Type} {f : α → Except ε β} {l : List α} {r : List β}
    (h : l.mapM f = .ok r) : r.length = l.length := by
  simpa using congrArg List.length (mapM_ok_map (P := fun _ => ()) (Q := fun _ => ())
    (fun _ _ _ => rfl) h)

theorem mapM_ok_getElem? {α β ε : Type} {f : α → Except ε β} {l : List α} {r : List β}
    (h : l.mapM f = .ok r) (i : Nat) : l[i]?.map f = r[i]?.map .ok := by
  have := congrArg (·[i]?) (mapM_ok_map (P := Except.ok) (Q := f) (fun _ _ h => h.symm) h)
  simpa using this.symm

theorem exists_of_map_eq_map {α β γ : Type} {f : α → γ} {g : β → γ} {x : Option α} {y : Option β}
    (h : x.map f = y.map g) {a : α} (ha : x = some a) : ∃ b, y = some b ∧ f a = g b := by
  subst ha
  cases y with
  | none => cases h
  | some b => exact ⟨b, rfl, Option.some.inj h⟩

theorem mapM_ok_get {α β ε : Type} {f : α → Except ε β} {l : List α} {r : List β}
    (h : l.mapM f = .ok r) {i : Nat} {a : α} (ha : l[i]? = some a) :
    ∃ b, r[i]? = some b ∧ f a = .ok b :=
  exists_of_map_eq_map (mapM_ok_getElem? h i) ha

theorem mapM_ok_get' {α β ε : Type} {f : α → Except ε β} {l : List α} {r : List β}
    (h : l.mapM f = .ok r) {i : Nat} {b : β} (hb : r[i]? = some b) :
    ∃ a, l[i]? = some a ∧ f a = .ok b :=
  let ⟨a, h1, h2⟩ := exists_of_map_eq_map (mapM_ok_getElem? h i).symm hb
  ⟨a, h1, h2.symm⟩

theorem toOption_map_of {ε α β γ : Type} {x : Except ε α} {f : α → β} {b : β}
    (h : x.toOption.map f = some b) (g : β → γ) :
    x.toOption.map (fun a => g (f a)) = some (g b) := by
  cases x with
  | error e => cases h
  | ok a => exact congrArg (fun o => o.map g) h

theorem exists_of_toOption_map {ε α β : Type} {x : Except ε α} {f : α → β} {b : β}
    (h : x.toOption.map f = some b) : ∃ a, x = .ok a ∧ f a = b := by
  cases x with
  | error e => cases h
  | ok a => exact ⟨a, rfl, Option.some.inj h⟩

theorem of_toOption_map {ε α β : Type} {x : Except ε α} {f : α → β} {b : β} {a : α}
    (h : x.toOption.map f = some b) (hx : x = .ok a) : f a = b := by
  subst hx
  exact Option.some.inj h

theorem idxOf?_eq_idxOf {l : List String} {a : String} (h : a ∈ l) :
    l.idxOf? a = some (l.idxOf a) :=
  List.findIdx?_eq_some_of_exists ⟨a, h, beq_self_eq_true a⟩

theorem term_idx {l : List String} {X : String} (hX : X ∈ l) :
    l[(l.idxOf? X).getD 0]? = some X := by
  rw [idxOf?_eq_idxOf hX, Option.getD_some,
    List.getElem?_eq_getElem (List.idxOf_lt_length_of_mem hX), List.getElem_idxOf]

theorem idx_of_get {terms : List String} (hn : terms.Nodup) {t : Nat} {sym : String}
    (ht : terms[t]? = some sym) : (terms.idxOf? sym).getD 0 = t := by
  obtain ⟨hlt, rfl⟩ := List.getElem?_eq_some_iff.1 ht
  rw [idxOf?_eq_idxOf (List.getElem_mem hlt), hn.idxOf_getElem]
  rfl

end Gocc
