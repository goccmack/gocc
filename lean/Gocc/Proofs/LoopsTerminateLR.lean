import Gocc.Proofs.Termination
import Gocc.Proofs.LoopsTerminateCount
/-
Termination of the UNBOUNDED loop of `GetItemSets` (internal/parser/lr1/items/itemsets.go),
modelled by `lrLoop` on fuel: every state is a duplicate-free list over the finite universe `U` of
LR(1) items `(p, d, la)`, and an earlier state never passes the `Equal` test (`sameItems`) against a
later one (`Distinct`); hence `size ≤ 2 ^ |U|`.  Last, the size of the universe against the fuel
constant of `closure`.
-/
namespace Gocc.LoopsT

def itemUniv (C : LRCtx) : List Item :=
  (List.range C.prods.size).flatMap fun p =>
    (List.range (prodLen C.prods[p]! + 1)).flatMap fun d =>
      (firstU C.S).map fun la => ⟨p, d, la⟩

theorem mem_itemUniv {C : LRCtx} {x : Item} :
    x ∈ itemUniv C ↔ x.p < C.prods.size ∧ x.d ≤ C.len x ∧ x.la ∈ firstU C.S := by
  unfold itemUniv LRCtx.len
  simp only [List.mem_flatMap, List.mem_range, List.mem_map]
  constructor
  · rintro ⟨p, hp, d, hd, la, hla, rfl⟩
    exact ⟨hp, by dsimp only; omega, hla⟩
  · rintro ⟨h1, h2, h3⟩
    exact ⟨x.p, h1, x.d, by omega, x.la, h3, by cases x; rfl⟩

/-- the universe of the states reachable from the kernel `K` -/
def stateUniv (C : LRCtx) (K : List Item) : List Item := K ++ itemUniv C

theorem closure_sub_univ {C : LRCtx} {K : List Item} (hW : WFc C K) :
    ∀ x ∈ closure C K, x ∈ stateUniv C K := by
  intro x hx
  rcases (closure_inv hW).univ x hx with h1 | h1
  · exact List.mem_append_left _ h1
  · obtain ⟨h3, h4, h2⟩ := mem_itemU.1 h1
    exact List.mem_append_right _ (mem_itemUniv.2 ⟨h3, by omega, h2⟩)

theorem univ_la {C : LRCtx} {K : List Item} (hW : WFc C K) :
    ∀ x ∈ stateUniv C K, x.la ∈ firstU C.S := by
  intro x hx
  rcases List.mem_append.1 hx with h | h
  · exact hW.la x h
  · exact (mem_itemUniv.1 h).2.2

theorem goto_sub_univ {C : LRCtx} {K : List Item} (hW : WFc C K) (I : List Item) (X : String)
    (hI : ∀ i ∈ I, i ∈ stateUniv C K) : ∀ j ∈ goto C I X, j ∈ stateUniv C K := by
  intro j hj
  have hla := (goto_closedLA hW (fun i hi => univ_la hW i (hI i hi)) X).2 j hj
  obtain ⟨h1, h2⟩ := goto_itemOk hj
  exact List.mem_append_right _ (mem_itemUniv.2 ⟨h1, h2, hla⟩)

theorem lrLoop_distinct {C : LRCtx} {G : List Item → Prop}
    (hg : ∀ I X, G I → goto C I X ≠ [] → G (goto C I X)) (fuel i : Nat) (sets : Array LRState) :
    Distinct LRState.items G sets → Distinct LRState.items G (lrLoop C fuel i sets) := by
  refine lrLoop_induct (fun sets i sti X hi h => ?_) fuel i sets
  rcases expStep_cases C X hi with ⟨-, e⟩ | ⟨idx, -, -, e⟩ | ⟨hne, hd, e⟩ <;> rw [e]
  · exact h
  · exact h.modify _ _ fun _ => rfl
  · exact (h.push { items := goto C sti.items X } (hg _ X (h.good i sti hi) hne) hd).modify _ _
      fun _ => rfl

def lrBound (C : LRCtx) (K : List Item) : Nat := 2 ^ (stateUniv C K).length

theorem lrLoop_bounded {C : LRCtx} {K : List Item} (hW : WFc C K) (fuel : Nat) :
    Distinct LRState.items (fun I => I.Nodup ∧ ∀ x ∈ I, x ∈ stateUniv C K)
      (lrLoop C fuel 0 #[{ items := closure C K }]) ∧
    (lrLoop C fuel 0 #[{ items := closure C K }]).size ≤ lrBound C K := by
  have h := lrLoop_distinct (C := C) (G := fun I => I.Nodup ∧ ∀ x ∈ I, x ∈ stateUniv C K)
    (fun I X hI _ => ⟨goto_nodup C I X, goto_sub_univ hW I X hI.2⟩) fuel 0 _
    (Distinct.singleton (s := { items := closure C K }) ⟨closure_nodup C K, closure_sub_univ hW⟩)
  exact ⟨h, h.size_le fun _ hl => hl⟩

theorem range_map_getBang (a : Array SProd) (g : SProd → Nat) :
    ((List.range a.size).map fun p => g a[p]!) = a.toList.map g := by
  apply List.ext_getElem
  · simp
  · intro i h1 h2
    simp at h1 h2
    simp [h1]

theorem sum_mul_le (M : Nat) : ∀ l : List SProd,
    (l.map fun q => (prodLen q + 1) * M).sum ≤ (l.map fun q => q.body.length + 1).sum * M := by
  intro l
  induction l with
  | nil => simp
  | cons q l ih =>
    simp only [List.map_cons, List.sum_cons]
    have h1 : prodLen q ≤ q.body.length := by
      rcases prodLen_cases q with h | h <;> omega
    rw [Nat.add_mul (q.body.length + 1)]
    exact Nat.add_le_add (Nat.mul_le_mul_right _ (by omega)) ih

theorem itemUniv_length (C : LRCtx) :
    (itemUniv C).length = (C.prods.toList.map fun q => (prodLen q + 1) * (C.S.typeMap.length + 1)).sum := by
  unfold itemUniv
  rw [List.length_flatMap, ← range_map_getBang]
  congr 2
  funext p
  rw [length_flatMap_const _ _ (C.S.typeMap.length + 1) fun _ => by simp [firstU],
    List.length_range]

theorem itemUniv_length_lt (C : LRCtx) : (itemUniv C).length + 1 ≤ C.maxItems := by
  rw [itemUniv_length]
  have := sum_mul_le (C.S.typeMap.length + 1) C.prods.toList
  unfold LRCtx.maxItems
  omega

theorem lrBound_le (C : LRCtx) (K : List Item) : lrBound C K ≤ 2 ^ (K.length + C.maxItems - 1) := by
  unfold lrBound stateUniv
  apply Nat.pow_le_pow_right (by omega)
  have := itemUniv_length_lt C
  rw [List.length_append]
  omega

end Gocc.LoopsT
