import Gocc.Proofs.ParseTerm
/-
Every stack of the parser is reached on some sentence ("run-validity" of LR(1) items).

`IV G γ p d a` (Proofs/ValidateV.lean) says that the item `(p, d, a)` is justified by sentences
`x y z` (`x` derived from the stack below the item's body, `y` from the body, `z` beginning with
`a`).  `RV` adds: the parser WITHOUT recovery, run on such a sentence, has after consuming the
part of the sentence that belongs to the stack exactly the stack `ss` — whatever derivations `x`,
`y` have.  Proof: induction over the justification of the items along the stack
(`VStk.items_ind`: start item, closure, edge), with one symbol of the run added at every edge
(`RV.advance`: the key lemma `run_item` of the completeness proof, for that one symbol).

Use (Proofs/ParseTermRec.lean): a configuration reached AFTER an error recovery is not reachable
by the parser without recovery on the real input, but its stack is reachable on a virtual input,
to which the termination theorem of Proofs/ParseTerm.lean applies.
-/
namespace Gocc.ParseTerm
open Gocc

/-- the item `(p, d, a)` of the top state of the stack `ss`, which spells `γ` (bottom first), is
    justified by sentences on which the parser reaches `ss` -/
def RV (G : NGrammar) (cfg : PCfg) (γ : List Sym) (ss : List Nat) (p d a : Nat) : Prop :=
  p < G.prods.size ∧ ∃ δ z, γ = δ ++ (G.body p).take d ∧ d ≤ (G.body p).length ∧
    z.head?.getD 1 = a ∧ (∃ x0, NDerives G δ x0) ∧
    ∀ x y1 y2, NDerives G δ x → NDerives G ((G.body p).take d) y1 →
      NDerives G ((G.body p).drop d) y2 →
      NSentence G (x ++ y1 ++ y2 ++ z) ∧
      ∃ ps, Steps cfg (x ++ y1 ++ y2 ++ z) (initPS (x ++ y1 ++ y2 ++ z)) ps ∧ ps.states = ss ∧
        ps.ntok = (x ++ y1).length + 1 ∧
        ps.next = scanTok (x ++ y1 ++ y2 ++ z) (x ++ y1).length ∧
        ps.attrs.length = ps.states.length

theorem RV.start {G : NGrammar} {cfg : PCfg} (h0 : 0 < G.prods.size) : RV G cfg [] [0] 0 0 1 := by
  refine ⟨h0, [], [], by simp, Nat.zero_le _, rfl, ⟨[], .nil⟩, ?_⟩
  intro x y1 y2 hx hy1 hy2
  have e1 := hx.nil_inv
  subst e1
  have e2 : y1 = [] := by
    rw [List.take_zero] at hy1
    exact hy1.nil_inv
  subst e2
  rw [List.drop_zero] at hy2
  refine ⟨by simpa [NSentence] using hy2, initPS _, .refl _, rfl, rfl, rfl, rfl⟩

theorem drop_of_getElem? {α : Type} {l : List α} {d : Nat} {x : α} (h : l[d]? = some x) :
    l.drop d = x :: l.drop (d + 1) := by
  rw [List.drop_eq_getElem?_toList_append, h]
  rfl

theorem take_succ_of_getElem? {α : Type} {l : List α} {d : Nat} {x : α} (h : l[d]? = some x) :
    l.take (d + 1) = l.take d ++ [x] := by
  rw [List.take_add_one, h]
  rfl

theorem RV.closure {G : NGrammar} {T : PTables} {c : CertLA} {fc : FirstCert}
    (VF : ValidFacts G T c fc) {cfg : PCfg} {γ : List Sym} {ss : List Nat} {p d a q b : Nat}
    (h : RV G cfg γ ss p d a) (hX : (G.body p)[d]? = some (Sym.nt (G.head q)))
    (hq : q < G.prods.size) (hb : b ∈ firstOfSeq fc ((G.body p).drop (d + 1)) a) :
    RV G cfg γ ss q 0 b := by
  obtain ⟨hp, δ, z, hγ, -, hz, ⟨x0, hx0⟩, hctx⟩ := h
  obtain ⟨y2', hy2', hb2⟩ := firstOfSeq_exact VF.nullS VF.firstS hz
    (fun X hXm => VF.prodB p hp X (List.mem_of_mem_drop hXm)) hb
  obtain ⟨y10, hy10⟩ : ∃ y, NDerives G ((G.body p).take d) y :=
    productive_of_all fun X hXm => VF.prodB p hp X (List.mem_of_mem_take hXm)
  refine ⟨hq, γ, y2' ++ z, by simp, Nat.zero_le _, hb2, ⟨x0 ++ y10, ?_⟩, ?_⟩
  · rw [hγ]
    exact hx0.append hy10
  intro x' y1' yq hx' hy1' hyq
  have e1 : y1' = [] := by
    rw [List.take_zero] at hy1'
    exact hy1'.nil_inv
  subst e1
  rw [List.drop_zero] at hyq
  rw [hγ] at hx'
  obtain ⟨x, y1, rfl, hx, hy1⟩ := hx'.append_inv
  have hy2 : NDerives G ((G.body p).drop d) (yq ++ y2') := by
    rw [drop_of_getElem? hX]
    exact .nt hq hyq hy2'
  obtain ⟨hsent, ps, hrun, hst, hnt, hnx, hat⟩ := hctx x y1 (yq ++ y2') hx hy1 hy2
  have hin : x ++ y1 ++ [] ++ yq ++ (y2' ++ z) = x ++ y1 ++ (yq ++ y2') ++ z := by simp
  have hlen : (x ++ y1 ++ []).length = (x ++ y1).length := by simp
  rw [hin, hlen]
  exact ⟨hsent, ps, hrun, hst, hnt, hnx, hat⟩

theorem RV.advance {G : NGrammar} {T : PTables} {fc : FirstCert} {c : CertLA}
    (F : CompleteFacts G T fc c) (hf : firstOk G fc = true) {cfg : PCfg} (hA : ActsOk cfg)
    (hT : cfg.T = T) {γ : List Sym} {s : Nat} {rest : List Nat} {p d a : Nat} {X : Sym} {s' : Nat}
    (h : RV G cfg γ (s :: rest) p d a) (hm : (p, d, a) ∈ c[s]?.getD [])
    (hX : (G.body p)[d]? = some X) (he : Edge T s X s') :
    RV G cfg (γ ++ [X]) (s' :: s :: rest) p (d + 1) a := by
  subst hT
  obtain ⟨hp, δ, z, hγ, -, hz, hprod, hctx⟩ := h
  have hdl : d + 1 ≤ (G.body p).length := by
    have := (List.getElem?_eq_some_iff.mp hX).1
    omega
  refine ⟨hp, δ, z, by rw [hγ, take_succ_of_getElem? hX, List.append_assoc], hdl, hz, hprod, ?_⟩
  intro x y1' y2' hx hy1' hy2'
  rw [take_succ_of_getElem? hX] at hy1'
  obtain ⟨y1, yX, rfl, hy1, hyX⟩ := hy1'.append_inv
  have hy2 : NDerives G ((G.body p).drop d) (yX ++ y2') := by
    rw [drop_of_getElem? hX]
    exact NDerives.append (α := [X]) hyX hy2'
  obtain ⟨hsent, ps, hrun, hst, hnt, hnx, hat⟩ := hctx x y1 (yX ++ y2') hx hy1 hy2
  have hin : x ++ (y1 ++ yX) ++ y2' ++ z = x ++ y1 ++ (yX ++ y2') ++ z := by simp
  rw [hin]
  refine ⟨hsent, ?_⟩
  have hw0 : (x ++ y1 ++ (yX ++ y2') ++ z).drop (x ++ y1).length = yX ++ (y2' ++ z) := by
    have : x ++ y1 ++ (yX ++ y2') ++ z = (x ++ y1) ++ (yX ++ (y2' ++ z)) := by simp
    rw [this, List.drop_left]
  have hlen : (x ++ (y1 ++ yX)).length = (x ++ y1).length + yX.length := by simp; omega
  rw [hlen]
  -- the run over `X`: it pushes one state, entered from `s` on `X`
  obtain ⟨ps', ss, _, _, a1, a2, a3, -, a4, -, a6, a7, a8⟩ :=
    run_item F hf hA (x ++ y1 ++ (yX ++ y2') ++ z) hyX hy2' hp (drop_of_getElem? hX) hst
      (by rw [hat]) hm hnt hnx hw0 hz
  obtain ⟨s1, e1, e2⟩ := a4 X [] rfl
  obtain rfl : ss = [s'] := by
    rcases ss with _ | ⟨s0, _ | _⟩
    · cases a2
    · obtain rfl : s0 = s1 := Option.some.inj e1
      rw [he.unique e2]
    · cases a2
  exact ⟨ps', hrun.trans a1, a3, a7, a8, a6⟩

theorem VStk.rv {G : NGrammar} {cfg : PCfg} {c : CertLA} {fcv fc : FirstCert}
    (VF : ValidFacts G cfg.T c fcv) (F : CompleteFacts G cfg.T fc c) (hf : firstOk G fc = true)
    (hA : ActsOk cfg) {ss : List Nat} {γ : List Sym} (h : VStk cfg.T ss γ) :
    ∀ p d a, (p, d, a) ∈ c[ss.headD 0]?.getD [] → RV G cfg γ.reverse ss p d a :=
  VStk.items_ind VF (P := fun ss γ => RV G cfg γ ss) RV.start (RV.closure VF)
    (fun h hm hX he => h.advance F hf hA rfl hm hX he) h

end Gocc.ParseTerm
