import Gocc.Model.Md
/-
`loadMd`: a pointwise relation `MdRel` between input and output (same length; every output rune is the
input rune or a blank replacing a non-newline), proved for every state of `loadMdAux`; then the
vocabulary of structured documents and fence-by-fence evaluation lemmas for them.
-/
namespace Gocc

def MdRel : List Int → List Int → Prop
  | [], [] => True
  | a :: l, b :: o => (b = a ∨ (b = 32 ∧ a ≠ 10)) ∧ MdRel l o
  | _, _ => False

theorem mdKeep_rel (text : Bool) (c : Int) :
    mdKeep text c = c ∨ (mdKeep text c = 32 ∧ c ≠ 10) := by
  unfold mdKeep mdBlank
  cases text <;> simp
  by_cases h : c = 10 <;> simp [h]

/-- hypothesis: the `k` runes still to be skipped are not newlines (in the calls `loadMd` makes
    they are the remaining back-quotes of a fence) -/
theorem loadMdAux_rel (text : Bool) (k : Nat) (nc : Bool) (l : List Int)
    (h : ∀ x ∈ l.take k, x ≠ 10) : MdRel l (loadMdAux text k nc l) := by
  induction l generalizing text k nc with
  | nil => trivial
  | cons c rest ih =>
    cases k with
    | succ k =>
      simp only [loadMdAux, MdRel]
      simp only [List.take_succ_cons, List.mem_cons, forall_eq_or_imp] at h
      exact ⟨Or.inr ⟨trivial, h.1⟩, ih _ _ _ h.2⟩
    | zero =>
      simp only [loadMdAux]
      split
      · rename_i hf
        simp only [Bool.and_eq_true, List.take_succ_cons, beq_iff_eq, List.cons.injEq] at hf
        simp only [MdRel]
        refine ⟨Or.inr ⟨trivial, by omega⟩, ih _ _ _ ?_⟩
        rw [hf.2.2]; simp
      · simp only [MdRel]
        exact ⟨mdKeep_rel text c, ih _ _ _ (by simp)⟩

theorem loadMd_rel (l : List Int) : MdRel l (loadMd l) :=
  loadMdAux_rel true 0 false l (by simp)

theorem MdRel.length_eq : ∀ {l o : List Int}, MdRel l o → o.length = l.length
  | [], [], _ => rfl
  | _ :: _, _ :: _, h => congrArg (· + 1) (MdRel.length_eq h.2)
  | [], _ :: _, h => h.elim
  | _ :: _, [], h => h.elim

theorem MdRel.get : ∀ {l o : List Int}, MdRel l o → ∀ i : Nat,
    (l[i]? = none ∧ o[i]? = none) ∨
    ∃ a b, l[i]? = some a ∧ o[i]? = some b ∧ (b = a ∨ (b = 32 ∧ a ≠ 10))
  | [], [], _, _ => Or.inl ⟨rfl, rfl⟩
  | a :: _, b :: _, h, 0 => Or.inr ⟨a, b, rfl, rfl, h.1⟩
  | _ :: _, _ :: _, h, i + 1 => MdRel.get h.2 i
  | [], _ :: _, h, _ => h.elim
  | _ :: _, [], h, _ => h.elim

/-- three back-quotes -/
def mdFence : List Int := [96, 96, 96]

def hasFence : List Int → Bool
  | [] => false
  | c :: rest => (c :: rest).take 3 == [96, 96, 96] || hasFence rest

/-- a piece that starts at a position where fences are recognised and that is followed by a
    fence: no fence may start inside it, i.e. it contains no ``` and does not end in a
    back-quote (a trailing back-quote would be taken as the start of the following fence) -/
def startOk (q : List Int) : Bool := !hasFence q && q.getLast? != some 96

/-- a piece between two fences: non-empty (its first rune is not examined for a fence), and
    the remainder is `startOk` -/
def midOk (p : List Int) : Bool := !p.isEmpty && startOk p.tail

/-- the piece after the last fence: no fence from its second rune on (may be empty) -/
def lastOk (p : List Int) : Bool := !hasFence p.tail

theorem loadMdAux_fence (text : Bool) (rest : List Int) :
    loadMdAux text 0 false (mdFence ++ rest) = [32, 32, 32] ++ loadMdAux (!text) 0 true rest := rfl

theorem loadMdAux_start (text : Bool) (q rest : List Int) (h : startOk q = true) :
    loadMdAux text 0 false (q ++ (mdFence ++ rest)) =
      q.map (mdKeep text) ++ loadMdAux text 0 false (mdFence ++ rest) := by
  induction q with
  | nil => rfl
  | cons c q ih =>
    simp only [startOk, hasFence, Bool.and_eq_true, Bool.not_eq_true', Bool.or_eq_false_iff,
      bne_iff_ne, ne_eq] at h
    obtain ⟨⟨h3, hf⟩, hl⟩ := h
    -- a fence starting at `c` would lie inside `c :: q` (`h3`) or use its last rune (`hl`)
    have hc : ((c :: (q ++ (mdFence ++ rest))).take 3 == [96, 96, 96]) = false := by
      rcases q with _ | ⟨d, _ | ⟨e, q⟩⟩
      · exact beq_eq_false_iff_ne.2 fun e => hl (congrArg some (List.cons.inj e).1)
      · exact beq_eq_false_iff_ne.2 fun e => hl (congrArg some (List.cons.inj (List.cons.inj e).2).1)
      · exact h3
    have hq : startOk q = true := by
      simp only [startOk, hf, Bool.not_false, Bool.true_and, bne_iff_ne, ne_eq]
      cases q with
      | nil => exact nofun
      | cons d q => exact hl
    simp only [List.cons_append, loadMdAux, hc, Bool.not_false, Bool.and_false, Bool.false_eq_true,
      if_false, List.map_cons]
    rw [ih hq]

theorem loadMdAux_mid (text : Bool) (p rest : List Int) (h : midOk p = true) :
    loadMdAux text 0 true (p ++ (mdFence ++ rest)) =
      p.map (mdKeep text) ++ loadMdAux text 0 false (mdFence ++ rest) := by
  cases p with
  | nil => simp [midOk] at h
  | cons c q =>
    have hq : startOk q = true := by simpa [midOk] using h
    simp [loadMdAux, loadMdAux_start text q rest hq]

theorem loadMdAux_noFence (text : Bool) (q : List Int) (h : hasFence q = false) :
    loadMdAux text 0 false q = q.map (mdKeep text) := by
  induction q with
  | nil => simp [loadMdAux]
  | cons c q ih =>
    simp only [hasFence, Bool.or_eq_false_iff] at h
    simp only [loadMdAux, h.1, Bool.and_false, Bool.false_eq_true, if_false, List.map_cons, ih h.2]

theorem loadMdAux_last (text : Bool) (p : List Int) (h : lastOk p = true) :
    loadMdAux text 0 true p = p.map (mdKeep text) := by
  cases p with
  | nil => simp [loadMdAux]
  | cons c q =>
    have hq : hasFence q = false := by simpa [lastOk] using h
    simp [loadMdAux, loadMdAux_noFence text q hq]

theorem map_mdKeep_false (p : List Int) : p.map (mdKeep false) = p := List.map_id p

theorem map_mdKeep_true (p : List Int) : p.map (mdKeep true) = p.map mdBlank := rfl

end Gocc
