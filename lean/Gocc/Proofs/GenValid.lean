import Gocc.Proofs.GenValidItems
/-
Generator-level validity: for every grammar whose body non-terminals are all productive,
the tables computed by the generator model pass the validity validator `validItems`
(Model/ValidateV.lean) with the item sets of the generator as LR(1) certificate (`claOf`,
Model/GenCert.lean) and the derivation certificate `vcertOf` of the numbered grammar
(Model/GenVCert.lean).  Conflicts are allowed: conflict resolution only removes actions.
-/
namespace Gocc.GenValid

open Gocc.GenComplete

theorem edgeOkLA_intro {G : NGrammar} {c : CertLA} {s s' : Nat} {X : Sym} (h0 : s' ≠ 0)
    (h : ∀ p d a, (p, d + 1, a) ∈ c[s']?.getD [] →
      (G.body p)[d]? = some X ∧ (p, d, a) ∈ c[s]?.getD []) : edgeOkLA G c s X s' = true := by
  simp only [edgeOkLA, Bool.and_eq_true, bne_iff_ne, ne_eq, List.all_eq_true]
  refine ⟨h0, ?_⟩
  intro ⟨p, d, a⟩ hm
  cases d with
  | zero => simp
  | succ d =>
    obtain ⟨h1, h2⟩ := h p d a hm
    simp [h1, CertLA.has, h2]

theorem validItems_intro {G : NGrammar} {T : PTables} {c : CertLA} {vc : VCert}
    (h1 : prodListOk G vc.prod = true)
    (h2t : ∀ p, p < G.prods.size → ∀ a, Sym.t a ∈ G.body p → a ≠ 0 ∧ a ≠ 1)
    (h2n : ∀ p, p < G.prods.size → ∀ B, Sym.nt B ∈ G.body p → hasNT vc.prod B = true)
    (h3 : nullListOk G vc.null = true) (h4 : firstListOk G vc.null vc.first = true)
    (h5 : ∀ s, itemsJust G vc.fc s (c[s]?.getD []).reverse = true)
    (hsh : ∀ s t s', T.act s t = some (.shift s') →
      edgeOkLA G c s (Sym.t t) s' = true ∧
      ∃ p d a, (p, d, a) ∈ c[s]?.getD [] ∧ (G.body p)[d]? = some (Sym.t t))
    (hre : ∀ s t p, T.act s t = some (.reduce p) → (p, (G.body p).length, t) ∈ c[s]?.getD [])
    (hac : ∀ s t, T.act s t = some .accept → t = 1 ∧ (0, (G.body 0).length, 1) ∈ c[s]?.getD [])
    (hgo : ∀ (s A : Nat) (g : Int), (T.goto_[s]?).bind (·[A]?) = some g → 0 ≤ g →
      edgeOkLA G c s (Sym.nt A) g.toNat = true) :
    validItems G T c vc = true := by
  simp only [validItems, Bool.and_eq_true, List.all_eq_true, List.mem_range]
  refine ⟨⟨⟨⟨⟨⟨h1, ?_⟩, h3⟩, h4⟩, fun s _ => h5 s⟩, ?_⟩, ?_⟩
  · intro p hp X hX
    cases X with
    | t a => simpa using h2t p hp a hX
    | nt B => exact h2n p hp B hX
  · intro s _ t _
    rw [act_getD_eq]
    rcases hact : T.act s t with _ | a
    · rfl
    · cases a with
      | shift s' =>
        obtain ⟨e1, p, d, a, e2, e3⟩ := hsh s t s' hact
        simp only [Bool.and_eq_true, List.any_eq_true]
        exact ⟨e1, (p, d, a), e2, by simp [e3]⟩
      | reduce p => simpa [CertLA.has] using hre s t p hact
      | accept => simpa [CertLA.has] using hac s t hact
  · intro s _ A _
    rw [goto_getD_eq]
    rcases hg : (T.goto_[s]?).bind (·[A]?) with _ | g
    · rfl
    · simp only [Bool.or_eq_true, decide_eq_true_eq]
      by_cases hneg : g < 0
      · exact .inl hneg
      · exact .inr (hgo s A g hg (by omega))

theorem edgeOkLA_of_trans {prods : List SProd} {r : LRResult} {I0 : List Item}
    (hC : r.ctx.prods = prods.toArray) (inv : LRInv r.ctx I0 r.states) {terms : List String}
    (hterms : r.tables.terminals = terms) (nts : List String) {s : Nat}
    {st : LRState} {X : String} {n : Nat} (hs : r.states[s]? = some st)
    (hn : (X, n) ∈ st.trans) {Xn : Sym} (hX : symOf terms nts X = Xn) :
    edgeOkLA (ngrammarOf prods terms nts) (claOf r) s Xn n = true := by
  obtain ⟨h0, st', h2, h3⟩ := inv.edge hC hs hn terms nts
  refine edgeOkLA_intro h0 fun p d a hm => ?_
  obtain ⟨st'', g1, x, hx, rfl, hxd, rfl⟩ := (mem_claOf hterms).1 hm
  cases h2.symm.trans g1
  obtain ⟨hb, i, hi, hp, hd, hla⟩ := h3 x hx d hxd
  exact ⟨hX ▸ hb, (mem_claOf hterms).2 ⟨st, hs, i, hi, hp, hd, by rw [hla]⟩⟩

/-- (V2/V3) a shift entry: the edge check, and an item of the state expects the terminal -/
theorem shift_valid {syn : List SProd} {r : LRResult} (GF : GenFacts syn r) {s t n : Nat}
    {st : LRState} {sym : String} {b : Bool} (hs : r.states[s]? = some st)
    (ht : r.ctx.S.terminals[t]? = some sym)
    (ha : setAction r.ctx st sym = .ok (some (.shift n), b)) :
    edgeOkLA (ngrammarOf (augment syn) r.ctx.S.terminals r.ctx.S.ntList) (claOf r) s (Sym.t t) n
      = true ∧
    ∃ p d a, (p, d, a) ∈ (claOf r)[s]?.getD [] ∧
      ((ngrammarOf (augment syn) r.ctx.S.terminals r.ctx.S.ntList).body p)[d]? =
        some (Sym.t t) := by
  have F := GF.F
  obtain ⟨t1, t2, t3⟩ := F.term sym (List.mem_of_getElem? ht)
  obtain ⟨i, hi, hd, rfl, rfl, hgne⟩ := shift_item ha t3
  obtain ⟨idx, hidx⟩ := GF.exp s (Array.getElem?_eq_some_iff.1 hs).1 st hs _ t2 hgne
  obtain ⟨m, hm⟩ := LRState.next_of_mem hidx
  have hsymOf := symOf_term (nts := r.ctx.S.ntList) F.termsNodup ht t1
  refine ⟨hm ▸ edgeOkLA_of_trans F.prods_eq GF.inv GF.terms _ hs (LRState.next_some hm) hsymOf,
    _, _, _, (mem_claOf GF.terms).2 ⟨st, hs, i, hi, rfl, rfl, rfl⟩, ?_⟩
  rw [body_at F.prods_eq _ _ hd, hsymOf]

/-- (V5) no body holds the terminals `INVALID` (0) or end of input (1) -/
theorem body_term_ok {syn : List SProd} {ids : List String} {r : LRResult}
    (h : genParser syn ids = .ok r) (hn : NamesOk syn ids) (GF : GenFacts syn r) {p a : Nat}
    (ha : Sym.t a ∈ (ngrammarOf (augment syn) r.ctx.S.terminals r.ctx.S.ntList).body p) :
    a ≠ 0 ∧ a ≠ 1 := by
  obtain ⟨k, hk⟩ := List.mem_iff_getElem?.1 ha
  obtain ⟨hd, hsym⟩ := gbody_get GF.F.prods_eq (i := ⟨p, k, ""⟩) hk
  obtain ⟨hX, rfl⟩ := symOf_t_inv hsym
  obtain ⟨e1, e2⟩ := expected_facts GF.F.prods_eq GF.hW GF.hB hd
  have hget := term_idx (mem_terminals e1 hX)
  constructor
  · intro h0
    rw [h0, (run_terminals h hn.2.2.1 hn.2.2.2.1).1] at hget
    exact e2 (Option.some.inj hget).symm
  · intro h1
    rw [h1, GF.F.term1] at hget
    exact GF.F.noEof _ hd (Option.some.inj hget).symm

theorem genParser_validItems {syn : List SProd} {ids : List String} {r : LRResult}
    (h : genParser syn ids = .ok r) (hn : NamesOk syn ids) (hx : CompleteNamesOk syn)
    (hsz : r.states.size ≤ 4096)
    (hp : bodyNTsProductive (ngrammarOf (augment syn) r.tables.terminals r.tables.nts) = true) :
    validItems (ngrammarOf (augment syn) r.tables.terminals r.tables.nts) r.tables (claOf r)
      (vcertOf (ngrammarOf (augment syn) r.tables.terminals r.tables.nts)) = true := by
  have GF := genFacts_of h hn hsz hx
  have F := GF.F
  rw [GF.terms, GF.nts] at hp ⊢
  apply validItems_intro
  · exact prodListOk_vcert _
  · intro p _ a ha
    exact body_term_ok h hn GF ha
  · intro p hp' B hB
    simp only [bodyNTsProductive, List.all_eq_true, List.mem_range] at hp
    exact hp p hp' _ hB
  · exact nullListOk_vcert _
  · exact firstListOk_vcert _
  · exact itemsJust_state GF
  · intro s t s' hact
    obtain ⟨st, sym, b, hs, ht, ha⟩ := act_entry h hact
    exact shift_valid GF hs ht ha
  · -- (V3) a reduce entry is proposed by the complete item with that look-ahead
    intro s t p hact
    obtain ⟨st, sym, b, hs, ht, ha⟩ := act_entry h hact
    obtain ⟨i, hi, rfl, hd, rfl⟩ := reduce_item (state_itemOk GF.inv (prods_pos F) hs) ha
    exact (mem_claOf GF.terms).2 ⟨st, hs, i, hi, rfl,
      hd.trans (ngrammarOf_body_len F.prods_eq ..).symm, idx_of_get F.termsNodup ht⟩
  · -- (V3) an accept entry is in column 1 and proposed by the complete start item, whose
    -- look-ahead is `␚`
    intro s t hact
    obtain ⟨st, sym, b, hs, ht, ha⟩ := act_entry h hact
    obtain ⟨i, hi, hp, hd, rfl⟩ := accept_item (state_itemOk GF.inv (prods_pos F) hs) ha
    have h1 := idx_of_get F.termsNodup F.term1
    refine ⟨(idx_of_get F.termsNodup ht).symm.trans h1, (mem_claOf GF.terms).2 ⟨st, hs, i, hi, hp,
      hd.trans (hp ▸ ngrammarOf_body_len F.prods_eq ..).symm, ?_⟩⟩
    rw [(la_facts GF hs hi).1.1 hp]
    exact h1
  · -- (V2) a goto entry is a recorded transition
    intro s A g hg hpos
    obtain ⟨st, X, n, hs, hA, hnx, rfl⟩ := goto_entry h hg hpos
    exact edgeOkLA_of_trans F.prods_eq GF.inv GF.terms _ hs (LRState.next_some hnx)
      (symOf_nt F.ntsNodup hA)

end Gocc.GenValid
