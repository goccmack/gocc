import Gocc.Proofs.GenValidCert
import Gocc.Proofs.GenCompleteFirst
/-
Generator-level validity, the FIRST sets: every element of the FIRST sets the generator computes
(`firstSets`, an iteration from the empty sets) has a derivation recorded in the certificate
`vcertOf G` (invariant `FsSub`: what a step of a pass adds is certified, `stepAdds_sub`); hence the
look-aheads `first1` gives to closure items are in the exact FIRST sets
`firstOfSeq (vcertOf G).fc`.
-/
namespace Gocc.GenValid

open Gocc.GenComplete

def FsSub (terms nts : List String) (vc : VCert) (fs : FirstSets) : Prop :=
  ∀ A ∈ nts, ∀ t ∈ fs.get A,
    (t = "empty" → hasNT vc.null (nts.idxOf A) = true) ∧
    (t ≠ "empty" → (nts.idxOf A, (terms.idxOf? t).getD 0) ∈ vc.fc.first)

/-- a symbol with the marker in its FIRST set is a certified-nullable non-terminal (the terminal
    spelled `empty` aside) -/
theorem nullSym_of_marker {S : PSymbols} {fs : FirstSets} {terms : List String} {vc : VCert}
    (hsub : FsSub terms S.ntList vc fs) {y : String} (hne : y ∉ S.ntList → y ≠ "empty")
    (h : "empty" ∈ first S fs y) :
    y ∈ S.ntList ∧ nullSym vc.null (symOf terms S.ntList y) = true := by
  by_cases hy : y ∈ S.ntList
  · rw [first_nt hy] at h
    exact ⟨hy, by rw [symOf_mem hy]; exact (hsub y hy "empty" h).1 rfl⟩
  · rw [first_t hy] at h
    exact absurd (List.mem_singleton.1 h).symm (hne hy)

theorem first_sym_cases {S : PSymbols} {fs : FirstSets} {terms : List String} {vc : VCert}
    (hsub : FsSub terms S.ntList vc fs) {y t : String} (ht : t ≠ "empty")
    (h : t ∈ first S fs y) :
    (∃ B, symOf terms S.ntList y = Sym.nt B ∧ (B, (terms.idxOf? t).getD 0) ∈ vc.fc.first) ∨
    symOf terms S.ntList y = Sym.t ((terms.idxOf? t).getD 0) := by
  by_cases hy : y ∈ S.ntList
  · rw [first_nt hy] at h
    exact .inl ⟨_, symOf_mem hy, (hsub y hy t h).2 ht⟩
  · rw [first_t hy] at h
    rw [List.mem_singleton.1 h]
    exact .inr (symOf_not_mem hy)

/-- the facts about production `pi` (= `p`) the step needs -/
structure ProdFacts (S : PSymbols) (prods : List SProd) (pi : Nat) (p : SProd) : Prop where
  get : prods[pi]? = some p
  head : p.head ∈ S.ntList
  noEmpty : ∀ y ∈ genBody p, y ≠ "empty"
  emptyNT : "empty" ∉ S.ntList

section Step
variable {S : PSymbols} {prods : List SProd} {terms : List String}

local notation "GG" => ngrammarOf prods terms S.ntList

theorem ProdFacts.lt {pi : Nat} {p : SProd} (P : ProdFacts S prods pi p) : pi < prods.length :=
  (List.getElem?_eq_some_iff.1 P.get).1

theorem ProdFacts.eq {pi : Nat} {p : SProd} (P : ProdFacts S prods pi p) :
    prods[pi]'P.lt = p := (List.getElem?_eq_some_iff.1 P.get).2

theorem gg_head {pi : Nat} {p : SProd} (P : ProdFacts S prods pi p) :
    (GG).head pi = S.ntList.idxOf p.head := by
  rw [ngrammarOf_head _ _ P.lt, P.eq, idxOf?_eq_idxOf P.head]
  rfl

theorem gg_body {pi : Nat} {p : SProd} (P : ProdFacts S prods pi p) :
    (GG).body pi = (genBody p).map (symOf terms S.ntList) := by
  rw [ngrammarOf_body _ _ P.lt, P.eq]

theorem gg_lt {pi : Nat} {p : SProd} (P : ProdFacts S prods pi p) : pi < (GG).prods.size := by
  rw [ngrammarOf_size]; exact P.lt

/-- along the body of production `pi`: behind a certified-nullable prefix `pre`, whatever is in
    the FIRST sequence of the rest `suf` is certified for the head -/
theorem seq_certified {fs : FirstSets} {pi : Nat} {p : SProd} (P : ProdFacts S prods pi p)
    (hsub : FsSub terms S.ntList (vcertOf GG) fs) {t : String}
    (ht : t ≠ "empty") : ∀ (suf pre : List String),
    genBody p = pre ++ suf →
    (pre.map (symOf terms S.ntList)).all (nullSym (vcertOf GG).null) = true →
    InFirstSeq S fs t suf →
    (S.ntList.idxOf p.head, (terms.idxOf? t).getD 0) ∈ (vcertOf GG).fc.first := by
  intro suf
  induction suf with
  | nil => intro pre _ _ h; exact h.elim
  | cons y ys ih =>
    intro pre hsplit hpre hin
    have hbody : (GG).body pi = (pre ++ y :: ys).map (symOf terms S.ntList) := by
      rw [gg_body P, hsplit]
    have htake : ((GG).body pi).take pre.length = pre.map (symOf terms S.ntList) := by
      rw [hbody, List.map_append, List.take_left' (by simp)]
    have hat : ((GG).body pi)[pre.length]? = some (symOf terms S.ntList y) := by
      rw [hbody, List.map_append, List.getElem?_append_right (by simp)]
      simp
    rcases hin with h1 | ⟨h1, h2⟩
    · rw [← gg_head P]
      rcases first_sym_cases hsub ht h1 with ⟨B, hB, hfirst⟩ | hT
      · exact first_closed_nt _ (gg_lt P) (i := pre.length) (htake ▸ hpre) (hB ▸ hat) hfirst
      · exact first_closed_t _ (gg_lt P) (i := pre.length) (htake ▸ hpre) (hT ▸ hat)
    · -- `y` has the marker: it is certified nullable, go on
      have hyne : y ∉ S.ntList → y ≠ "empty" := fun _ => P.noEmpty y (by rw [hsplit]; simp)
      refine ih (pre ++ [y]) (by rw [hsplit]; simp) ?_ h2
      rw [List.map_append, List.all_append, hpre]
      simp only [List.map_cons, List.map_nil, List.all_cons, List.all_nil, Bool.and_true,
        Bool.true_and]
      exact (nullSym_of_marker hsub hyne h1).2

theorem all_null_of_marker {fs : FirstSets} {pi : Nat} {p : SProd} (P : ProdFacts S prods pi p)
    (hsub : FsSub terms S.ntList (vcertOf GG) fs)
    (hall : ∀ y ∈ genBody p, "empty" ∈ first S fs y) :
    hasNT (vcertOf GG).null (S.ntList.idxOf p.head) = true := by
  rw [← gg_head P]
  apply null_closed _ (gg_lt P)
  rw [gg_body P, List.all_map, List.all_eq_true]
  intro y hy
  exact (nullSym_of_marker hsub (fun _ => P.noEmpty y hy) (hall y hy)).2

/-- what the step for production `pi` adds to the set of its head is certified: by the sequence
    rule along the body, or — for the marker — by a body of nullable non-terminals -/
theorem stepAdds_sub {fs : FirstSets} {pi : Nat} {p : SProd} (P : ProdFacts S prods pi p)
    (hsub : FsSub terms S.ntList (vcertOf GG) fs) : ∀ t ∈ stepAdds S fs p,
    (t = "empty" → hasNT (vcertOf GG).null (S.ntList.idxOf p.head) = true) ∧
    (t ≠ "empty" → (S.ntList.idxOf p.head, (terms.idxOf? t).getD 0) ∈ (vcertOf GG).fc.first) := by
  intro t ht
  rcases (mem_stepAdds_iff P.emptyNT).1 ht with ⟨hne, hin⟩ | ⟨rfl, hall⟩
  · exact ⟨fun e => absurd e hne, fun _ => seq_certified P hsub hne _ [] rfl rfl hin⟩
  · exact ⟨fun _ => all_null_of_marker P hsub hall, fun h => absurd rfl h⟩

theorem firstSets_sub (hW : WFp S prods) (hB : BodyOk prods) (hE : "empty" ∉ S.ntList) :
    FsSub terms S.ntList (vcertOf GG) (firstSets S prods) := by
  intro A hA t ht
  refine firstSets_get_ind hW (fun A t => A ∈ S.ntList →
    (t = "empty" → hasNT (vcertOf GG).null (S.ntList.idxOf A) = true) ∧
    (t ≠ "empty" → (S.ntList.idxOf A, (terms.idxOf? t).getD 0) ∈ (vcertOf GG).fc.first))
    ?_ A t ht hA
  intro fs p hp hfs t ht _
  obtain ⟨pi, hpi⟩ := List.mem_iff_getElem?.1 hp
  exact stepAdds_sub ⟨hpi, (hW _ hp).1, hB.noEmpty hp, hE⟩
    (fun A hA t ht => hfs A t ht hA) t ht

end Step

theorem mem_firstOfSeq_of_seq {S : PSymbols} {fs : FirstSets} {terms : List String} {vc : VCert}
    (hsub : FsSub terms S.ntList vc fs) {la t : String} (hla : la ∉ S.ntList)
    (ht : t ≠ "empty") : ∀ (β : List String), (∀ y ∈ β, y ∉ S.ntList → y ≠ "empty") →
    InFirstSeq S fs t (β ++ [la]) →
    (terms.idxOf? t).getD 0 ∈
      firstOfSeq vc.fc (β.map (symOf terms S.ntList)) ((terms.idxOf? la).getD 0) := by
  intro β
  induction β with
  | nil =>
    intro _ h
    simp only [List.nil_append, InFirstSeq, first_t hla, List.mem_singleton, and_false,
      or_false] at h
    subst h
    simp [firstOfSeq]
  | cons y ys ih =>
    intro hβ h
    rw [List.cons_append] at h
    rcases h with h1 | ⟨h1, h2⟩
    · rcases first_sym_cases hsub ht h1 with ⟨B, hB, hfirst⟩ | hT
      · rw [List.map_cons, hB]
        simp only [firstOfSeq, List.mem_append, List.mem_map, List.mem_filter, beq_iff_eq]
        exact .inl ⟨_, ⟨hfirst, rfl⟩, rfl⟩
      · rw [List.map_cons, hT]
        exact List.mem_singleton.2 rfl
    · obtain ⟨hy, hn⟩ := nullSym_of_marker hsub (hβ y (List.mem_cons_self ..)) h1
      rw [symOf_mem hy] at hn
      rw [List.map_cons, symOf_mem hy]
      simp only [firstOfSeq, List.mem_append]
      right
      rw [if_pos (by rw [fc_isNullable]; exact hn)]
      exact ih (fun z hz => hβ z (List.mem_cons_of_mem _ hz)) h2

end Gocc.GenValid
