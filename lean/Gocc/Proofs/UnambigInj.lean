import Gocc.Proofs.ValidateC
/-
Unambiguity from completeness (for C04).  Under `TreeKinds` (every production has the harness
action that builds a full node labelled with the production's number) `evalT` has a left inverse
on well-formed trees, hence is injective.  The validators do not read `prodKind`, so tables
passing `firstOk` / `complete` also pass with these actions (`treeCfg`); the run that follows one
tree of the input evaluates every tree of it (`result_is_eval_of_every_tree`), so two trees have
the same value, hence are equal (`C04_complete_tables_unambiguous`).  (Positions stored in the
leaves do not matter: Proofs/UnambigPos.lean.)
-/
namespace Gocc.Unambig

/-- every production `p < n` has the action `<< vh.Mk(C, p, X) >>` -/
def TreeKinds (kinds : Array RKind) (n : Nat) : Prop :=
  ∀ p : Nat, p < n → kinds[p]? = some (RKind.user 1 p)

theorem evalT_node {kinds : Array RKind} {n : Nat} (hk : TreeKinds kinds n) {p : Nat} (hp : p < n)
    {kids : List PT} {log : List Nat} {a : Attr} {l' : List Nat}
    (h : evalT kinds (.node p kids) log = some (a, l')) :
    ∃ xs l, evalL kinds kids log = some (xs, l) ∧ a = Attr.node p xs ∧ l' = p :: l := by
  simp only [evalT, hk p hp, Option.getD_some, userAction] at h
  rcases he : evalL kinds kids log with _ | ⟨xs, l⟩
  · rw [he] at h; cases h
  · rw [he] at h
    simp only [Option.some.injEq, Prod.mk.injEq] at h
    exact ⟨xs, l, rfl, h.1.symm, h.2.symm⟩

mutual
/-- the tree a value was built from (under `TreeKinds`) -/
def unT : Attr → PT
  | .tok i t => .leaf i t
  | .node p xs => .node p (unL xs)
  | _ => .leaf 0 0
def unL : List Attr → List PT
  | [] => []
  | x :: xs => unT x :: unL xs
end

mutual
/-- under `TreeKinds` the value records the tree: `.node p xs` production and children, `.tok i t`
    position and type -/
theorem unT_evalT {G : NGrammar} {kinds : Array RKind} (hk : TreeKinds kinds G.prods.size) :
    (t : PT) → t.wf G → ∀ (l : List Nat) (a : Attr) (l' : List Nat),
      evalT kinds t l = some (a, l') → unT a = t
  | .leaf i t, _, l, a, l', h => by
    simp only [evalT, Option.some.injEq, Prod.mk.injEq] at h
    rw [← h.1, unT]
  | .node p ks, hw, l, a, l', h => by
    obtain ⟨xs, m, he, rfl, -⟩ := evalT_node hk hw.1 h
    rw [unT, unL_evalL hk ks hw.2.2 l xs m he]
theorem unL_evalL {G : NGrammar} {kinds : Array RKind} (hk : TreeKinds kinds G.prods.size) :
    (ks : List PT) → PT.wfL G ks → ∀ (l : List Nat) (xs : List Attr) (l' : List Nat),
      evalL kinds ks l = some (xs, l') → unL xs = ks
  | [], _, l, xs, l', h => by
    simp only [evalL, Option.some.injEq, Prod.mk.injEq] at h
    rw [← h.1, unL]
  | k :: ks, hw, l, xs, l', h => by
    obtain ⟨a, m, as, he, hf, rfl⟩ := evalL_cons h
    rw [unL, unT_evalT hk k hw.1 l a m he, unL_evalL hk ks hw.2 m as l' hf]
end

theorem evalT_inj {G : NGrammar} {kinds : Array RKind} (hk : TreeKinds kinds G.prods.size)
    (t1 t2 : PT) (hw1 : t1.wf G) (hw2 : t2.wf G) (l1 l2 : List Nat) (a : Attr) (l1' l2' : List Nat)
    (h1 : evalT kinds t1 l1 = some (a, l1')) (h2 : evalT kinds t2 l2 = some (a, l2')) : t1 = t2 :=
  (unT_evalT hk t1 hw1 l1 a l1' h1).symm.trans (unT_evalT hk t2 hw2 l2 a l2' h2)

theorem evalL_inj {G : NGrammar} {kinds : Array RKind} (hk : TreeKinds kinds G.prods.size) :
    (ks1 ks2 : List PT) → PT.wfL G ks1 → PT.wfL G ks2 →
      ∀ (l1 l2 : List Nat) (xs : List Attr) (l1' l2' : List Nat),
      evalL kinds ks1 l1 = some (xs, l1') → evalL kinds ks2 l2 = some (xs, l2') → ks1 = ks2 :=
  fun ks1 ks2 hw1 hw2 l1 l2 xs l1' l2' h1 h2 =>
    (unL_evalL hk ks1 hw1 l1 xs l1' h1).symm.trans (unL_evalL hk ks2 hw2 l2 xs l2' h2)

/-- the kinds `<< vh.Mk(C, p, X) >>` for every production number below `n` -/
def treeKindsArr (n : Nat) : Array RKind := (Array.range n).map fun p => RKind.user 1 p

theorem treeKindsArr_get {n p : Nat} (hp : p < n) : (treeKindsArr n)[p]? = some (RKind.user 1 p) := by
  simp [treeKindsArr, hp]

/-- same tables, every production (of the grammar and of the tables) builds a full node -/
def treeCfg (T : PTables) (n : Nat) : PCfg :=
  { T := { T with prodKind := treeKindsArr (max n T.prodLen.size) }, errTerm := 0, failAt := 0 }

theorem treeKinds_treeCfg (T : PTables) (n : Nat) : TreeKinds (treeCfg T n).T.prodKind n :=
  fun _ hp => treeKindsArr_get (Nat.lt_of_lt_of_le hp (Nat.le_max_left _ _))

theorem actsOk_treeCfg (T : PTables) (n : Nat) : ActsOk (treeCfg T n) := by
  refine ⟨rfl, fun p len hlen X _ => ?_⟩
  have hp : p < T.prodLen.size := (Array.getElem?_eq_some_iff.mp hlen).1
  have : (treeCfg T n).T.prodKind[p]? = some (RKind.user 1 p) :=
    treeKindsArr_get (Nat.lt_of_lt_of_le hp (Nat.le_max_right _ _))
  rw [this]
  exact ⟨_, rfl⟩

theorem complete_prodKind (G : NGrammar) (T : PTables) (fc : FirstCert) (c : CertLA)
    (k : Array RKind) : complete G { T with prodKind := k } fc c = complete G T fc c := rfl

/-- `G` is unambiguous: an input has at most one parse tree (root: the start symbol; leaves: the
    tokens of the input with their positions, the form of `C03_result_is_tree_eval`) -/
def Unambiguous (G : NGrammar) : Prop :=
  ∀ (w : List Nat) (t1 t2 : PT), t1.wf G → t2.wf G → G.body 0 = [t1.sym G] → G.body 0 = [t2.sym G] →
    t1.yield = (List.range w.length).zip w → t2.yield = (List.range w.length).zip w → t1 = t2

end Gocc.Unambig
