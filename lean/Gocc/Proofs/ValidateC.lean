import Gocc.Proofs.Validate
import Gocc.Model.ValidateC
/-
The completeness validator `complete` is correct: a parser whose tables pass it accepts every
sentence (when the semantic actions never fail), and its result is the evaluation of any given
parse tree of the input.  A closed nullable/FIRST certificate contains the true relations; the
key lemma `run_kids` follows the trees that spell a stretch of a body, one state and one value
per tree.

No hypothesis on error recovery is needed: along the run of a sentence the action entry is never
missing, so `Error` is never called.  None on tokens of type 1 inside the input either.
-/
namespace Gocc

/-- `b` may begin a string derived from `β`, according to `fc` -/
def InFirst (fc : FirstCert) (b : Nat) : List Sym → Prop
  | [] => False
  | .t c :: _ => c = b
  | .nt B :: rest => fc.hasFirst B b = true ∨ (fc.isNullable B = true ∧ InFirst fc b rest)

theorem firstOkProd_nullable {fc : FirstCert} {A : Nat} : ∀ {β : List Sym},
    firstOkProd fc A β = true → β.all fc.symNullable = true → fc.isNullable A = true
  | [], h, _ => h
  | .t a :: _, _, h2 => by simp [FirstCert.symNullable] at h2
  | .nt B :: rest, h, h2 => by
    simp only [List.all_cons, FirstCert.symNullable, Bool.and_eq_true] at h2
    simp only [firstOkProd, Bool.and_eq_true, Bool.or_eq_true, Bool.not_eq_true'] at h
    rcases h.2 with h3 | h3
    · rw [h2.1] at h3; cases h3
    · exact firstOkProd_nullable h3 h2.2

theorem firstOkProd_first {fc : FirstCert} {A b : Nat} : ∀ {β : List Sym},
    firstOkProd fc A β = true → InFirst fc b β → fc.hasFirst A b = true
  | [], _, h2 => h2.elim
  | .t a :: _, h, h2 => by
    simp only [InFirst] at h2
    subst h2
    exact h
  | .nt B :: rest, h, h2 => by
    simp only [firstOkProd, Bool.and_eq_true, Bool.or_eq_true, Bool.not_eq_true',
      List.all_eq_true] at h
    rcases h2 with h2 | ⟨h2, h3⟩
    · have := h.1 (B, b) (by simpa [FirstCert.hasFirst] using h2)
      simpa using this
    · rcases h.2 with h4 | h4
      · rw [h2] at h4; cases h4
      · exact firstOkProd_first h4 h3

theorem firstOk_prod {G : NGrammar} {fc : FirstCert} (h : firstOk G fc = true) {p : Nat}
    (hp : p < G.prods.size) : firstOkProd fc (G.head p) (G.body p) = true := by
  simp only [firstOk, List.all_eq_true, List.mem_range] at h
  exact h p hp

theorem nullable_of_derives {G : NGrammar} {fc : FirstCert} (h : firstOk G fc = true)
    {β : List Sym} {u : List Nat} (hd : NDerives G β u) :
    u = [] → β.all fc.symNullable = true := by
  induction hd with
  | nil => intro _; rfl
  | term _ _ => intro h; cases h
  | @nt p α u v hp _ _ ih1 ih2 =>
    intro huv
    have hu : u = [] := List.append_eq_nil_iff.mp huv |>.1
    have hv : v = [] := List.append_eq_nil_iff.mp huv |>.2
    simp only [List.all_cons, FirstCert.symNullable, Bool.and_eq_true]
    exact ⟨firstOkProd_nullable (firstOk_prod h hp) (ih1 hu), ih2 hv⟩

theorem inFirst_of_derives {G : NGrammar} {fc : FirstCert} (h : firstOk G fc = true)
    {β : List Sym} {u : List Nat} (hd : NDerives G β u) :
    ∀ b u', u = b :: u' → InFirst fc b β := by
  induction hd with
  | nil => intro b u' h; cases h
  | term _ _ => intro b u' h; cases h; simp [InFirst]
  | @nt p α u v hp hb _ ih1 ih2 =>
    intro b u' huv
    simp only [InFirst]
    rcases u with _ | ⟨b', u0⟩
    · right
      exact ⟨firstOkProd_nullable (firstOk_prod h hp) (nullable_of_derives h hb rfl),
        ih2 b u' (by simpa using huv)⟩
    · left
      simp only [List.cons_append, List.cons.injEq] at huv
      obtain ⟨rfl, -⟩ := huv
      exact firstOkProd_first (firstOk_prod h hp) (ih1 _ _ rfl)

theorem mem_firstOfSeq_iff {fc : FirstCert} {b a : Nat} : ∀ {β : List Sym},
    b ∈ firstOfSeq fc β a ↔ InFirst fc b β ∨ (β.all fc.symNullable = true ∧ b = a)
  | [] => by simp [firstOfSeq, InFirst]
  | .t c :: _ => by simp [firstOfSeq, InFirst, FirstCert.symNullable, eq_comm]
  | .nt B :: rest => by
    have hF : (∃ x, (x ∈ fc.first ∧ (x.1 == B) = true) ∧ x.2 = b) ↔ fc.hasFirst B b = true := by
      simp [FirstCert.hasFirst]
    simp only [firstOfSeq, List.mem_append, List.mem_map, List.mem_filter, hF, InFirst,
      List.all_cons, FirstCert.symNullable, Bool.and_eq_true]
    cases fc.isNullable B
    · simp
    · simp only [if_true, true_and, mem_firstOfSeq_iff (β := rest), or_assoc]

theorem mem_firstOfSeq_of_derives {G : NGrammar} {fc : FirstCert} (h : firstOk G fc = true)
    {β : List Sym} {v : List Nat} (hd : NDerives G β v) (post : List Nat) :
    (v ++ post).head?.getD 1 ∈ firstOfSeq fc β (post.head?.getD 1) := by
  rcases v with _ | ⟨b, v'⟩
  · simpa using mem_firstOfSeq_iff.2 (.inr ⟨nullable_of_derives h hd rfl, rfl⟩)
  · simpa using mem_firstOfSeq_iff.2 (.inl (inFirst_of_derives h hd b v' rfl))

structure CompleteFacts (G : NGrammar) (T : PTables) (fc : FirstCert) (c : CertLA) : Prop where
  actLt : ∀ (s t : Nat) (a : Act), T.act s t = some a → t < T.numSymbols
  prodNT : ∀ p : Nat, p < G.prods.size → T.prodNT[p]? = some (G.head p)
  prodLen : ∀ p : Nat, p < G.prods.size → T.prodLen[p]? = some (G.body p).length
  start : ∃ A, G.body 0 = [Sym.nt A]
  noStart : ∀ p : Nat, p < G.prods.size → Sym.nt (G.head 0) ∉ G.body p
  k0 : (0, 0, 1) ∈ c[0]?.getD []
  kT : ∀ s p d a t : Nat, (p, d, a) ∈ c[s]?.getD [] → (G.body p)[d]? = some (Sym.t t) →
    ∃ s', T.act s t = some (.shift s') ∧ (p, d + 1, a) ∈ c[s']?.getD []
  kN : ∀ s p d a B : Nat, (p, d, a) ∈ c[s]?.getD [] → (G.body p)[d]? = some (Sym.nt B) →
    ∃ g : Int, T.gotoOf s B = some g ∧ 0 ≤ g ∧ (p, d + 1, a) ∈ c[g.toNat]?.getD []
  kC : ∀ s p d a B : Nat, (p, d, a) ∈ c[s]?.getD [] → (G.body p)[d]? = some (Sym.nt B) →
    ∀ q : Nat, q < G.prods.size → G.head q = B →
      ∀ b : Nat, b ∈ firstOfSeq fc ((G.body p).drop (d + 1)) a → (q, 0, b) ∈ c[s]?.getD []
  kR : ∀ s p a : Nat, (p, (G.body p).length, a) ∈ c[s]?.getD [] →
    if p = 0 then a = 1 ∧ T.act s 1 = some .accept else T.act s a = some (.reduce p)

@[simp] theorem CertLA.has_iff {c : CertLA} {s p d a : Nat} :
    c.has s p d a = true ↔ (p, d, a) ∈ c[s]?.getD [] := by
  simp [CertLA.has]

theorem completeFacts_of {G : NGrammar} {T : PTables} {fc : FirstCert} {c : CertLA}
    (h : complete G T fc c = true) : CompleteFacts G T fc c := by
  simp only [complete, Bool.and_eq_true, List.all_eq_true, List.mem_range, beq_iff_eq,
    decide_eq_true_eq, CertLA.has_iff] at h
  obtain ⟨⟨⟨⟨⟨⟨-, hW⟩, hP⟩, hS⟩, hB⟩, h0⟩, hI⟩ := h
  have item : ∀ s p d a, (p, d, a) ∈ c[s]?.getD [] → _ := fun s p d a hm =>
    hI s (mem_getD_lt hm) (p, d, a) hm
  refine
    { actLt := ?_, prodNT := fun p hp => (hP p hp).1, prodLen := fun p hp => (hP p hp).2,
      start := ?_, noStart := ?_, k0 := h0, kT := ?_, kN := ?_, kC := ?_, kR := ?_ }
  · intro s t a ha
    obtain ⟨row, hrow, ht, -⟩ := act_eq_some ha
    have := hW row (Array.mem_toList_iff.mpr (Array.mem_of_getElem? hrow))
    omega
  · split at hS
    · exact ⟨_, by assumption⟩
    · cases hS
  · intro p hp hmem
    simpa using hB p hp _ hmem
  · intro s p d a t hm hX
    have := item s p d a hm
    simp only [hX] at this
    split at this
    · exact ⟨_, by assumption, CertLA.has_iff.1 this⟩
    · cases this
  · intro s p d a B hm hX
    have := (item s p d a hm)
    simp only [hX, Bool.and_eq_true] at this
    have h1 := this.1
    split at h1
    · simp only [Bool.and_eq_true, decide_eq_true_eq, CertLA.has_iff] at h1
      exact ⟨_, by assumption, h1⟩
    · cases h1
  · intro s p d a B hm hX q hq hh b hb
    have := item s p d a hm
    simp only [hX, Bool.and_eq_true, List.all_eq_true, List.mem_range, Bool.or_eq_true,
      bne_iff_ne, ne_eq, CertLA.has_iff] at this
    exact (this.2 q hq).resolve_left (not_not_intro hh) b hb
  · intro s p a hm
    have := item s p _ a hm
    simp only [List.getElem?_eq_none (Nat.le_refl _), bne_self_eq_false, Bool.false_or] at this
    split <;> rename_i hp <;> simpa [hp] using this

theorem CompleteFacts.step {G : NGrammar} {cfg : PCfg} {fc : FirstCert} {c : CertLA}
    (F : CompleteFacts G cfg.T fc c) (w : List Nat) {ps : PState} {s : Nat} {rest : List Nat}
    {t : Nat} {a : Act} (hst : ps.states = s :: rest) (hla : ps.next.2 = t)
    (hact : cfg.T.act s t = some a) : step cfg w ps = doAct cfg w a ps := by
  subst hla
  exact step_act hst hact (F.actLt _ _ _ hact)

/-- an edge of the tables: a shift entry or a (non-negative) goto entry -/
def Edge (T : PTables) (s : Nat) : Sym → Nat → Prop
  | .t t, s' => T.act s t = some (.shift s')
  | .nt A, s' => ∃ g : Int, T.gotoOf s A = some g ∧ 0 ≤ g ∧ s' = g.toNat

theorem Edge.unique {T : PTables} {s s1 s2 : Nat} : ∀ {X : Sym}, Edge T s X s1 → Edge T s X s2 →
    s1 = s2
  | .t _, h1, h2 => by cases h1.symm.trans h2; rfl
  | .nt _, ⟨_, h1, _, e1⟩, ⟨_, h2, _, e2⟩ => by cases h1.symm.trans h2; exact e1.trans e2.symm

theorem drop_eq_cons {α : Type} {l : List α} {d : Nat} {x : α} {xs : List α}
    (h : l.drop d = x :: xs) : l[d]? = some x ∧ l.drop (d + 1) = xs :=
  ⟨by rw [← List.head?_drop, h]; rfl, by rw [← List.drop_drop, h]; rfl⟩

theorem reduceRes_actsOk {cfg : PCfg} (hA : ActsOk cfg) {p n : Nat}
    (hn : cfg.T.prodLen[p]? = some n) {X : List Attr} (hX : X.length = n) (ps : PState) :
    ∃ a ps2, reduceRes cfg p X ps = .ok (a, ps2) ∧ ps2.next = ps.next ∧ ps2.ntok = ps.ntok := by
  have hk := hA.2 p n hn X hX
  rcases hkd : cfg.T.prodKind[p]?.getD .dflt with _ | _ | ⟨shape, id⟩ <;> rw [hkd] at hk
  · obtain ⟨x, X', rfl⟩ := List.exists_cons_of_ne_nil hk
    exact ⟨_, _, reduceRes_eq_ok.2 (.inl ⟨hkd, rfl, rfl⟩), rfl, rfl⟩
  · exact ⟨_, _, reduceRes_eq_ok.2 (.inr (.inl ⟨hkd, rfl, rfl⟩)), rfl, rfl⟩
  · obtain ⟨a, ha⟩ := hk
    exact ⟨_, _, reduceRes_eq_ok.2 (.inr (.inr ⟨shape, id, hkd, fun h => h.1 hA.1, ha, rfl⟩)),
      rfl, rfl⟩

theorem doAct_reduce_eval {cfg : PCfg} (hA : ActsOk cfg) (w : List Nat) {p n A : Nat}
    (hn : cfg.T.prodLen[p]? = some n) (hnt : cfg.T.prodNT[p]? = some A) {ps : PState}
    {ss : List Nat} {s : Nat} {rest : List Nat} (hst : ps.states = ss ++ s :: rest)
    (hss : ss.length = n) {X as : List Attr} (hat : ps.attrs = X.reverse ++ as)
    (hX : X.length = n) {g : Int} (hg : cfg.T.gotoOf s A = some g) (hg0 : 0 ≤ g) :
    ∃ (ps' : PState) (a : Attr), doAct cfg w (.reduce p) ps = .cont ps' ∧
      ps'.states = g.toNat :: s :: rest ∧ ps'.attrs = a :: as ∧ ps'.next = ps.next ∧
      ps'.ntok = ps.ntok ∧
      ∀ (kids : List PT) (l1 : List Nat), evalL cfg.T.prodKind kids l1 = some (X, ps.log) →
        evalT cfg.T.prodKind (.node p kids) l1 = some (a, ps'.log) := by
  have e1 : cfg.T.prodLen[p]?.getD 0 = n := by rw [hn]; rfl
  have e2 : cfg.T.prodNT[p]?.getD 0 = A := by rw [hnt]; rfl
  have htake : (ps.attrs.take n).reverse = X := by
    rw [hat, ← hX, ← List.length_reverse, List.take_left, List.reverse_reverse]
  have hdropA : ps.attrs.drop n = as := by
    rw [hat, ← hX, ← List.length_reverse, List.drop_left]
  have hdrop : ps.states.drop n = s :: rest := by rw [hst, ← hss, List.drop_left]
  obtain ⟨a, ps2, hres, h1, h2⟩ := reduceRes_actsOk hA hn hX ps
  refine ⟨_, a, doAct_reduce_eq_cont.2 ⟨a, ps2, s, rest, g, ?_, ?_, ?_, ?_, hg0, rfl⟩, rfl, ?_,
    h1, h2, fun kids l1 he => reduceRes_ok hres he⟩
  · rw [e1, hst, List.length_append, hss]; omega
  · rw [e1, htake]; exact hres
  · rw [e1]; exact hdrop
  · rw [e2]; exact hg
  · rw [e1, hdropA]

theorem doAct_reduce {cfg : PCfg} (hA : ActsOk cfg) (w : List Nat) {p n A : Nat}
    (hn : cfg.T.prodLen[p]? = some n) (hnt : cfg.T.prodNT[p]? = some A) {ps : PState}
    {ss : List Nat} {s : Nat} {rest : List Nat} (hst : ps.states = ss ++ s :: rest)
    (hss : ss.length = n) (hat : ps.attrs.length = ps.states.length) {g : Int}
    (hg : cfg.T.gotoOf s A = some g) (hg0 : 0 ≤ g) :
    ∃ ps', doAct cfg w (.reduce p) ps = .cont ps' ∧ ps'.states = g.toNat :: s :: rest ∧
      ps'.attrs.length = ps'.states.length ∧ ps'.next = ps.next ∧ ps'.ntok = ps.ntok := by
  have hlen : ps.states.length = n + (rest.length + 1) := by
    rw [hst, List.length_append, hss]; rfl
  obtain ⟨ps', a, h1, h2, h3, h4, h5, -⟩ :=
    doAct_reduce_eval hA w hn hnt hst hss (X := (ps.attrs.take n).reverse) (as := ps.attrs.drop n)
      (by rw [List.reverse_reverse, List.take_append_drop])
      (by rw [List.length_reverse, List.length_take, hat, hlen]; omega) hg hg0
  refine ⟨ps', h1, h2, ?_, h4, h5⟩
  rw [h2, h3, List.length_cons, List.length_cons, List.length_cons, List.length_drop, hat, hlen]
  omega

namespace Unambig

/-- the tokens with their positions in the scanner's output (the yield of a parse tree of `w`) -/
def toks (w : List Nat) : List (Nat × Nat) := (List.range w.length).zip w

theorem drop_toks_cons {w : List Nat} {m i t : Nat} {l : List (Nat × Nat)}
    (h : (toks w).drop m = (i, t) :: l) :
    i = m ∧ scanTok w m = (m, t) ∧ (toks w).drop (m + 1) = l := by
  obtain ⟨h1, h2⟩ := drop_eq_cons h
  obtain ⟨h3, h4⟩ := List.getElem?_zip_eq_some.1 h1
  rw [List.getElem?_range (List.getElem?_eq_some_iff.1 h4).1] at h3
  exact ⟨(Option.some.inj h3).symm, by rw [scanTok_eq, h4]; rfl, h2⟩

theorem drop_map_snd_toks (w : List Nat) (m : Nat) : ((toks w).drop m).map (·.2) = w.drop m := by
  rw [List.map_drop, toks, List.map_snd_zip (by simp)]

theorem drop_toks_append {w : List Nat} {m : Nat} {u post : List Nat} (h : w.drop m = u ++ post) :
    (toks w).drop m =
      (List.range' m u.length).zip u ++ (List.range' (m + u.length) post.length).zip post := by
  have hl : w.length - m = u.length + post.length := by
    have := congrArg List.length h
    simpa using this
  rw [toks, List.zip, List.drop_zipWith, h, List.range_eq_range', List.drop_range', hl,
    ← List.range'_append_1, List.zipWith_append (by simp)]
  simp

/-- (key lemma) the top state holds item `(p, d, a)`, the body from the dot on is spelled by the
    roots of `ks` followed by `β'`, the tokens from the look-ahead on are the leaves of `ks`
    followed by `postP`, which begins with a string derived from `β'` and then a token of type `a`
    (1 if there is none).  Then, after finitely many iterations, the parser has pushed `|ks|`
    states and the values `evalL ks` on the unchanged stack, consumed exactly the leaves of `ks`,
    and its top state holds the item with the dot behind `ks`. -/
theorem run_kids {G : NGrammar} {cfg : PCfg} {fc : FirstCert} {c : CertLA}
    (F : CompleteFacts G cfg.T fc c) (hf : firstOk G fc = true) (hA : ActsOk cfg) (w : List Nat) :
    ∀ (n : Nat) (ks : List PT), sizeOf ks < n → PT.wfL G ks →
    ∀ (p d a : Nat) (β' : List Sym) (u' post : List Nat), p < G.prods.size →
      (G.body p).drop d = ks.map (PT.sym G) ++ β' → NDerives G β' u' → post.head?.getD 1 = a →
    ∀ (ps : PState) (s : Nat) (rest : List Nat) (m : Nat) (postP : List (Nat × Nat)),
      ps.states = s :: rest →
      (p, d, a) ∈ c[s]?.getD [] → ps.ntok = m + 1 → ps.next = scanTok w m →
      (toks w).drop m = PT.yieldL ks ++ postP → postP.map (·.2) = u' ++ post →
      ∃ (ps' : PState) (ss : List Nat) (s' : Nat) (rest' : List Nat) (xs : List Attr),
        Steps cfg w ps ps' ∧
        ss.length = ks.length ∧ ps'.states = ss ++ s :: rest ∧ ps'.states = s' :: rest' ∧
        (∀ t ks', ks = t :: ks' → ∃ s1, ss.getLast? = some s1 ∧ Edge cfg.T s (t.sym G) s1) ∧
        (p, d + ks.length, a) ∈ c[s']?.getD [] ∧
        ps'.attrs = xs.reverse ++ ps.attrs ∧ xs.length = ks.length ∧
        evalL cfg.T.prodKind ks ps.log = some (xs, ps'.log) ∧
        ps'.ntok = m + (PT.yieldL ks).length + 1 ∧
        ps'.next = scanTok w (m + (PT.yieldL ks).length) := by
  -- induction on a bound of the size: the recursion descends into the kids of a node
  intro n
  induction n with
  | zero => exact fun _ h => absurd h (Nat.not_lt_zero _)
  | succ n ih =>
  intro ks hsz
  match ks with
  | [] =>
    intro _ p d a _ _ _ _ _ _ _ ps s rest m postP hst hm hnt hnx _ _
    exact ⟨ps, [], s, rest, [], .refl ps, rfl, hst, hst, nofun, hm, rfl, rfl, rfl,
      by simpa [PT.yieldL] using hnt, by simpa [PT.yieldL] using hnx⟩
  | t :: ks =>
    intro hwf p d a β' u' post hp hβ hu' ha ps s rest m postP hst hm hnt hnx hw hpost
    simp only [List.cons.sizeOf_spec] at hsz
    obtain ⟨hX, hβ'⟩ := drop_eq_cons hβ
    simp only [PT.yieldL, List.append_assoc] at hw
    -- the run over the first tree: one state and one value are pushed
    obtain ⟨ps1, s1, v, r1, r2, r3, r4, r5, r6, r7, r8⟩ : ∃ ps1 s1 v, Steps cfg w ps ps1 ∧
        ps1.states = s1 :: s :: rest ∧ Edge cfg.T s (t.sym G) s1 ∧
        (p, d + 1, a) ∈ c[s1]?.getD [] ∧ ps1.attrs = v :: ps.attrs ∧
        evalT cfg.T.prodKind t ps.log = some (v, ps1.log) ∧
        ps1.ntok = m + t.yield.length + 1 ∧ ps1.next = scanTok w (m + t.yield.length) := by
      match t with
      | .leaf i t =>
        -- a leaf: shift
        simp only [PT.yield, List.cons_append, List.nil_append] at hw
        obtain ⟨rfl, hsc, -⟩ := drop_toks_cons hw
        obtain ⟨s1, hact, hm1⟩ := F.kT s p d a t hm hX
        have hstep := F.step w hst (by rw [hnx, hsc]) hact
        exact ⟨_, s1, _, .single hstep, by simp only [hst], hact, hm1, by rw [hnx, hsc], rfl,
          by simp only [hnt, PT.yield]; rfl, by simp only [hnt, PT.yield]; rfl⟩
      | .node q kids =>
        -- a node: run its kids, reduce, goto
        simp only [PT.node.sizeOf_spec] at hsz
        obtain ⟨⟨hq, hkb, hkw⟩, hwf'⟩ := hwf
        simp only [PT.yield] at hw ⊢
        -- the look-ahead of the inner item
        have hb' : (((PT.yieldL ks ++ postP).map (·.2))).head?.getD 1 ∈
            firstOfSeq fc ((G.body p).drop (d + 1)) a := by
          rw [hβ', ← ha, List.map_append, hpost, ← List.append_assoc]
          exact mem_firstOfSeq_of_derives hf ((PT.derivesL G ks hwf').append hu') post
        have hmq := F.kC s p d a _ hm hX q hq rfl _ hb'
        obtain ⟨ps1, ss1, s1, rest1, xs1, a1, a2, a3, a4, -, a5, a6, a6', a6'', a7, a8⟩ :=
          ih kids (by omega) hkw q 0 _ [] [] _ hq (by simpa using hkb.symm) .nil rfl
            ps s rest m (PT.yieldL ks ++ postP) hst hmq hnt hnx hw rfl
        have hlen : kids.length = (G.body q).length := by
          rw [← hkb]; simp
        rw [Nat.zero_add, hlen] at a5
        -- reduce by `q`
        have hq0 : q ≠ 0 := by
          rintro rfl
          exact F.noStart p hp (List.mem_of_getElem? hX)
        have hact := F.kR s1 q _ a5
        rw [if_neg hq0] at hact
        have hla : ps1.next.2 = ((PT.yieldL ks ++ postP).map (·.2)).head?.getD 1 := by
          rw [a8, scanTok_snd, ← drop_map_snd_toks, ← List.drop_drop, hw, List.drop_left]
        have hstep := F.step w a4 hla hact
        obtain ⟨g, hg, hg0, hmg⟩ := F.kN s p d a _ hm hX
        obtain ⟨ps2, aq, b1, b2, b3, b4, b5, b6⟩ :=
          doAct_reduce_eval hA w (F.prodLen q hq) (F.prodNT q hq) a3 (by rw [a2, hlen]) a6
            (by rw [a6', hlen]) hg hg0
        rw [b1] at hstep
        exact ⟨ps2, g.toNat, aq, a1.trans (.single hstep), b2, ⟨g, hg, hg0, rfl⟩, hmg, b3,
          b6 kids ps.log a6'', by rw [b5, a7], by rw [b4, a8]⟩
    -- the rest of the trees
    obtain ⟨ps3, ss3, s3, rest3, xs3, c1, c2, c3, c4, -, c5, c6, c6', c6'', c7, c8⟩ :=
      ih ks (by omega) hwf.2 p (d + 1) a β' u' post hp hβ' hu' ha ps1 s1 (s :: rest)
        (m + t.yield.length) postP r2 r4 r7 r8 (by rw [← List.drop_drop, hw, List.drop_left]) hpost
    refine ⟨ps3, ss3 ++ [s1], s3, rest3, v :: xs3, r1.trans c1, by simp [c2], by simp [c3], c4,
      fun _ _ e => by cases e; exact ⟨s1, List.getLast?_concat .., r3⟩,
      ?_, ?_, by simp [c6'], ?_, ?_, ?_⟩
    · rwa [List.length_cons, ← Nat.add_assoc, Nat.add_right_comm]
    · rw [c6, r5]; simp
    · simp only [evalL, r6, c6'']
    · rw [c7]; simp [PT.yieldL]; omega
    · rw [c8]; congr 1; simp [PT.yieldL]; omega

end Unambig

/-- `run_kids` for a derivation of `β` instead of trees (`NDerives.exists_trees`) -/
theorem run_item {G : NGrammar} {cfg : PCfg} {fc : FirstCert} {c : CertLA}
    (F : CompleteFacts G cfg.T fc c) (hf : firstOk G fc = true) (hA : ActsOk cfg)
    (w : List Nat) {β β' : List Sym} {u u' : List Nat} (hd : NDerives G β u)
    (hd' : NDerives G β' u') {p d a : Nat} (hp : p < G.prods.size)
    (hβ : (G.body p).drop d = β ++ β') {ps : PState} {s : Nat} {rest : List Nat} {m : Nat}
    {post : List Nat} (hst : ps.states = s :: rest) (hat : ps.attrs.length = ps.states.length)
    (hm : (p, d, a) ∈ c[s]?.getD []) (hnt : ps.ntok = m + 1) (hnx : ps.next = scanTok w m)
    (hw : w.drop m = u ++ (u' ++ post)) (ha : post.head?.getD 1 = a) :
    ∃ (ps' : PState) (ss : List Nat) (s' : Nat) (rest' : List Nat), Steps cfg w ps ps' ∧
      ss.length = β.length ∧ ps'.states = ss ++ s :: rest ∧ ps'.states = s' :: rest' ∧
      (∀ X β₁, β = X :: β₁ → ∃ s1, ss.getLast? = some s1 ∧ Edge cfg.T s X s1) ∧
      (p, d + β.length, a) ∈ c[s']?.getD [] ∧ ps'.attrs.length = ps'.states.length ∧
      ps'.ntok = m + u.length + 1 ∧ ps'.next = scanTok w (m + u.length) := by
  obtain ⟨ks, k1, k2, k3⟩ := hd.exists_trees m
  obtain ⟨ps', ss, s', rest', xs, h1, h2, h3, h4, he, h5, h6, h6', -, h7, h8⟩ :=
    Unambig.run_kids F hf hA w _ ks (Nat.lt_succ_self _) k1 p d a β' u' post hp
      (by rw [k2]; exact hβ) hd' ha ps s rest m _ hst hm hnt hnx
      (by rw [k3]; exact Unambig.drop_toks_append hw) (by rw [List.map_snd_zip]; simp)
  have hl : (PT.yieldL ks).length = u.length := by rw [k3]; simp
  have hkl : ks.length = β.length := by rw [← k2, List.length_map]
  rw [hl] at h7 h8
  rw [hkl] at h5 h2
  refine ⟨ps', ss, s', rest', h1, h2, h3, h4, ?_, h5, ?_, h7, h8⟩
  · rintro X β₁ rfl
    obtain ⟨t, ks', rfl⟩ : ∃ t ks', ks = t :: ks' := List.exists_cons_of_ne_nil (by
      rintro rfl; cases k2)
    obtain ⟨s1, e1, e2⟩ := he t ks' rfl
    exact ⟨s1, e1, (List.cons.inj k2).1 ▸ e2⟩
  rw [h6, h3, List.length_append, List.length_reverse, h6', hkl, ← h2, hat, hst,
    List.length_append]

theorem Unambig.parse_follows_tree {G : NGrammar} {cfg : PCfg} {fc : FirstCert} {c : CertLA}
    (hf : firstOk G fc = true) (hc : complete G cfg.T fc c = true) (hA : ActsOk cfg)
    {w : List Nat} {t : PT} (hwf : t.wf G) (hroot : G.body 0 = [t.sym G])
    (hy : t.yield = (List.range w.length).zip w) (old : PState) :
    ∃ n res ps, (∀ fuel, n ≤ fuel → parse cfg w fuel old = (Outcome.accept res, ps)) ∧
      evalT cfg.T.prodKind t [] = some (res, ps.log) := by
  have F := completeFacts_of hc
  obtain ⟨ps', ss, s', rest', xs, h1, h2, h3, h4, -, h5, h6, h6', h6'', -, h8⟩ :=
    run_kids F hf hA w _ [t] (Nat.lt_succ_self _) ⟨hwf, trivial⟩ 0 0 1 [] [] []
      (NGrammar.lt_size_of_body hroot) (by simpa using hroot) .nil rfl (initPS w) 0 [] 0 [] rfl
      F.k0 rfl rfl (by simp [PT.yieldL, hy, toks]) rfl
  have hlen1 : (G.body 0).length = 1 := by rw [hroot]; rfl
  have hact := (F.kR s' 0 1 (by rw [hlen1]; exact h5)).2
  have hyl : (PT.yieldL [t]).length = w.length := by simp [PT.yieldL, hy]
  have hla : ps'.next.2 = 1 := by rw [h8, scanTok_snd, hyl]; simp
  have hstep := F.step w h4 hla hact
  obtain ⟨r, m, as, hev, hnil, rfl⟩ := evalL_cons h6''
  simp only [evalL, Option.some.injEq, Prod.mk.injEq] at hnil
  obtain ⟨rfl, rfl⟩ := hnil
  simp only [List.reverse_cons, List.reverse_nil, List.nil_append, List.cons_append] at h6
  obtain ⟨n, hn⟩ := steps_done h1 (o := .accept r)
    (ps' := { ps' with states := ps'.states.drop 1, attrs := [.nil] })
    (by rw [hstep]; simp only [doAct, h6]; rfl)
  exact ⟨n, r, _, hn, hev⟩

theorem Unambig.result_is_eval_of_every_tree {G : NGrammar} {cfg : PCfg} {fc : FirstCert}
    {c : CertLA} (hf : firstOk G fc = true) (hc : complete G cfg.T fc c = true) (hA : ActsOk cfg)
    {w : List Nat} {fuel : Nat} {old : PState} {res : Attr} {ps : PState}
    (hacc : parse cfg w fuel old = (Outcome.accept res, ps))
    {t : PT} (hwf : t.wf G) (hroot : G.body 0 = [t.sym G])
    (hy : t.yield = (List.range w.length).zip w) :
    evalT cfg.T.prodKind t [] = some (res, ps.log) := by
  obtain ⟨n, res', ps', hp, he⟩ := parse_follows_tree hf hc hA hwf hroot hy old
  have hn := hp n (Nat.le_refl _)
  have := parseLoop_det (cfg := cfg) (w := w) (f1 := fuel) (f2 := n) (ps := initPS w)
    (by rw [← parse_eq cfg w fuel old, hacc]; exact Outcome.noConfusion)
    (by rw [← parse_eq cfg w n old, hn]; exact Outcome.noConfusion)
  rw [← parse_eq cfg w fuel old, ← parse_eq cfg w n old, hacc, hn] at this
  cases this
  exact he

theorem parse_accepts {G : NGrammar} {cfg : PCfg} {fc : FirstCert} {c : CertLA}
    (hf : firstOk G fc = true) (hc : complete G cfg.T fc c = true) (hA : ActsOk cfg)
    {w : List Nat} (hs : NSentence G w) (old : PState) :
    ∃ fuel r, (parse cfg w fuel old).1 = Outcome.accept r := by
  obtain ⟨S, hS⟩ := (completeFacts_of hc).start
  obtain ⟨ks, k1, k2, k3⟩ := NDerives.exists_trees hs 0
  rw [hS] at k2
  obtain ⟨t, rfl⟩ : ∃ t, ks = [t] := by
    rcases ks with _ | ⟨t, _ | _⟩
    · cases k2
    · exact ⟨t, rfl⟩
    · cases (List.cons.inj k2).2
  obtain ⟨n, r, ps, h, -⟩ := Unambig.parse_follows_tree hf hc hA k1.1
    (by rw [hS]; exact k2.symm) (by simpa [PT.yieldL, List.range_eq_range'] using k3) old
  exact ⟨n, r, by rw [h n (Nat.le_refl _)]⟩

end Gocc
