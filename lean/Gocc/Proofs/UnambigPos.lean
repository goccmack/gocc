import Gocc.Proofs.UnambigInj
/-
The positions stored in the leaves do not matter for unambiguity.

`Unambiguous G` (Proofs/UnambigInj.lean) speaks about trees whose leaves carry the positions
`0, 1, 2, …` (the trees of `C03_result_is_tree_eval`).  `relab` renumbers the leaves of any tree
that way; it preserves well-formedness, root and token types, and a tree is determined by its
renumbering together with its yield.  Hence in an unambiguous grammar two well-formed trees with
the same yield — whatever the positions — are equal (`Unambiguous.any_positions`).
-/
namespace Gocc.Unambig

mutual
/-- renumber the leaves `m, m+1, …` from left to right -/
def relab : PT → Nat → PT
  | .leaf _ t, m => .leaf m t
  | .node p kids, m => .node p (relabL kids m)
def relabL : List PT → Nat → List PT
  | [], _ => []
  | k :: ks, m => relab k m :: relabL ks (m + k.yield.length)
end

theorem relab_sym (G : NGrammar) (t : PT) (m : Nat) : (relab t m).sym G = t.sym G := by
  cases t <;> simp [relab, PT.sym]

theorem relabL_sym (G : NGrammar) : ∀ (ks : List PT) (m : Nat),
    (relabL ks m).map (PT.sym G) = ks.map (PT.sym G)
  | [], _ => by simp [relabL]
  | k :: ks, m => by simp [relabL, relab_sym, relabL_sym G ks]

mutual
theorem relab_wf (G : NGrammar) : (t : PT) → (m : Nat) → t.wf G → (relab t m).wf G
  | .leaf _ _, _, _ => by simp [relab, PT.wf]
  | .node p kids, m, h => by
    simp only [relab, PT.wf]
    exact ⟨h.1, by rw [relabL_sym]; exact h.2.1, relabL_wf G kids m h.2.2⟩
theorem relabL_wf (G : NGrammar) : (ks : List PT) → (m : Nat) → PT.wfL G ks →
    PT.wfL G (relabL ks m)
  | [], _, _ => by simp [relabL, PT.wfL]
  | k :: ks, m, h => by
    simp only [relabL, PT.wfL]
    exact ⟨relab_wf G k m h.1, relabL_wf G ks _ h.2⟩
end

mutual
theorem relab_yield : (t : PT) → (m : Nat) →
    (relab t m).yield = (List.range' m t.yield.length).zip (t.yield.map (·.2))
  | .leaf _ _, _ => by simp [relab, PT.yield]
  | .node p kids, m => by
    simp only [relab, PT.yield]
    exact relabL_yield kids m
theorem relabL_yield : (ks : List PT) → (m : Nat) →
    PT.yieldL (relabL ks m) = (List.range' m (PT.yieldL ks).length).zip ((PT.yieldL ks).map (·.2))
  | [], _ => by simp [relabL, PT.yieldL]
  | k :: ks, m => by
    simp only [relabL, PT.yieldL, relab_yield k m, relabL_yield ks, List.length_append,
      List.map_append]
    rw [← List.range'_append_1, List.zip_append (by simp)]
end

theorem relab_yield_length (t : PT) (m : Nat) : (relab t m).yield.length = t.yield.length := by
  rw [relab_yield]; simp

mutual
theorem relab_inj : (t1 t2 : PT) → (m : Nat) → relab t1 m = relab t2 m → t1.yield = t2.yield →
    t1 = t2
  | .leaf i t, .leaf j u, _, _, hy => by
    simp only [PT.yield, List.cons.injEq, Prod.mk.injEq, and_true] at hy
    rw [hy.1, hy.2]
  | .leaf _ _, .node _ _, _, h, _ => by simp [relab] at h
  | .node _ _, .leaf _ _, _, h, _ => by simp [relab] at h
  | .node p ks1, .node q ks2, m, h, hy => by
    simp only [relab, PT.node.injEq] at h
    simp only [PT.yield] at hy
    rw [h.1, relabL_inj ks1 ks2 m h.2 hy]
theorem relabL_inj : (ks1 ks2 : List PT) → (m : Nat) → relabL ks1 m = relabL ks2 m →
    PT.yieldL ks1 = PT.yieldL ks2 → ks1 = ks2
  | [], [], _, _, _ => rfl
  | [], _ :: _, _, h, _ => by simp [relabL] at h
  | _ :: _, [], _, h, _ => by simp [relabL] at h
  | k1 :: ks1, k2 :: ks2, m, h, hy => by
    simp only [relabL, List.cons.injEq] at h
    have hlen : k1.yield.length = k2.yield.length := by
      rw [← relab_yield_length k1 m, ← relab_yield_length k2 m, h.1]
    simp only [PT.yieldL] at hy
    obtain ⟨hy1, hy2⟩ := List.append_inj hy hlen
    rw [relab_inj k1 k2 m h.1 hy1, relabL_inj ks1 ks2 (m + k1.yield.length) (by rw [h.2, hlen]) hy2]
end

theorem relab_zero_yield (t : PT) :
    (relab t 0).yield = (List.range (t.yield.map (·.2)).length).zip (t.yield.map (·.2)) := by
  rw [relab_yield, List.range_eq_range']
  simp

theorem Unambiguous.any_positions {G : NGrammar} (hu : Unambiguous G) {t1 t2 : PT}
    (hw1 : t1.wf G) (hw2 : t2.wf G) (hr1 : G.body 0 = [t1.sym G]) (hr2 : G.body 0 = [t2.sym G])
    (hy : t1.yield = t2.yield) : t1 = t2 := by
  apply relab_inj t1 t2 0 _ hy
  apply hu (t1.yield.map (·.2)) _ _ (relab_wf G t1 0 hw1) (relab_wf G t2 0 hw2)
    (by rw [relab_sym]; exact hr1) (by rw [relab_sym]; exact hr2) (relab_zero_yield t1)
  rw [hy]
  exact relab_zero_yield t2

end Gocc.Unambig
