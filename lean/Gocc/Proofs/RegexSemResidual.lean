import Gocc.Proofs.RegexSemStep
/-
`Cont C i`: the *continuation language* of the item `i`, defined from the declarative semantics only:
what remains to be read in the node on top of the stack (`rem`), then in its parent after that child
(`after`), … up to the root.  `Cont` of the start item of a production is the language of its pattern.

SOUNDNESS: `Cont` is an invariant of runs read backwards (`cont_eps`, `cont_rune`):
    Run C i w f,  v ∈ Cont C f   ⟹   w ++ v ∈ Cont C i        (`run_cont`)

COMPLETENESS: `CPass p`: one pass through a node with pattern `p` (the root, `( p )`, `[ p ]`, `{ p }`),
from its start position (any position for `{ }`) to its end position, reads any string of `p`.  Proved
by induction on the size of `p`: choose the alternative, go through its terms (`cTerm`, `cAlt`), `Star`
induction for `{ }`.  From any dotted position `y`, every string of `Cont C y` is then read by a run to
the completed item (`run_of_cont`: finish the node on top, go on in its parent).

Together: `Cont C y` IS the residual language of `y` (`residual_iff`).
-/
namespace Gocc
namespace RegexS

open EmovesU LexGenC

def rem : LNode → Nat → Lang
  | .alt a, pos => denTerms (a.terms.drop pos)
  | .pat p, pos => if pos = 0 then denPat p else eps
  | .grp p, pos => if pos = 0 then denPat p else eps
  | .opt p, pos => if pos = 0 then denTerm (.opt p) else eps
  | .rep p, _ => denTerm (.rep p)

def after : LNode → Nat → Lang
  | .alt a, j => denTerms (a.terms.drop (j + 1))
  | .rep p, _ => denTerm (.rep p)
  | _, _ => eps

/-- what remains to be read after the node at `q` (below `n`) is finished, `K` after `n` itself -/
def up : LNode → List Nat → Lang → Lang
  | _, [], K => K
  | n, j :: q, K =>
    match n.child j with
    | some c => up c q (cat (after n j) K)
    | none => fun _ => False

theorem up_snoc : ∀ (q : List Nat) (r m c : LNode) (j : Nat) (K : Lang), node r q = some m →
    m.child j = some c → up r (q ++ [j]) K = cat (after m j) (up r q K)
  | [], r, m, c, j, K, hm, hc => by cases hm; simp only [List.nil_append, up, hc]
  | a :: q, r, m, c, j, K, hm, hc => by
    simp only [node] at hm
    obtain ⟨c', hc', hm'⟩ := Option.bind_eq_some_iff.1 hm
    simp only [List.cons_append, up, hc']
    exact up_snoc q c' m c j _ hm' hc

def contL (r : LNode) (path : List Nat) : Lang :=
  match path.getLast?, node r path.dropLast with
  | some pos, some n => cat (rem n pos) (up r path.dropLast eps)
  | _, _ => fun _ => False

def Cont (C : LexCtx) (i : LItem) : Lang :=
  match C.prods[i.prod]? with
  | some P => contL (.pat P.pat) i.path
  | none => fun _ => False

theorem cont_at {C : LexCtx} {k : Nat} {P : LProd} (hP : C.prods[k]? = some P) {q : List Nat}
    {n : LNode} (hn : node (.pat P.pat) q = some n) (pos : Nat) (w : List Int) :
    Cont C ⟨k, q ++ [pos]⟩ w ↔ cat (rem n pos) (up (.pat P.pat) q eps) w := by
  simp [Cont, hP, contL, hn]

theorem cont_root {C : LexCtx} {k : Nat} {P : LProd} (hP : C.prods[k]? = some P) (pos : Nat) (w : List Int) :
    Cont C ⟨k, [pos]⟩ w ↔ rem (.pat P.pat) pos w := by
  rw [← List.nil_append [pos], cont_at hP (q := []) rfl]
  exact cat_eps_right

theorem rem_enterOk {n : LNode} {pos : Nat} (h : enterOk n pos = true) : rem n pos = rem n 0 := by
  cases n with
  | rep p => rfl
  | alt a => cases h
  | pat p | grp p | opt p => rw [show pos = 0 by simpa [enterOk] using h]

theorem rem_leaveOk {n : LNode} {pos : Nat} (h : leaveOk n pos = true) : rem n pos [] := by
  cases n with
  | grp p => simp [rem, show pos ≠ 0 by simpa [leaveOk] using h, eps]
  | opt p => by_cases h0 : pos = 0 <;> simp [rem, h0, eps, denTerm_opt]
  | rep p => rw [rem, denTerm_rep]; exact .nil
  | _ => cases h

theorem rem_enter {n : LNode} {m : Nat} {a : LAlt} (hc : n.child m = some (.alt a)) :
    ∀ w, cat (denTerms a.terms) (after n m) w → rem n 0 w := by
  have hden : ∀ {p : LPat}, (p.alts[m]?).map LNode.alt = some (.alt a) →
      ∀ u, denTerms a.terms u → denPat p u := by
    intro p h u hu
    obtain ⟨a', ha, e⟩ := Option.map_eq_some_iff.1 h
    cases e
    exact (denPat_iff p u).2 ⟨m, a, ha, hu⟩
  intro w hw
  cases n with
  | alt _ => cases patLike_of_child_alt hc
  | pat p | grp p => exact hden hc w (cat_eps_right.1 hw)
  | opt p => exact (denTerm_opt p w).2 (Or.inr (hden hc w (cat_eps_right.1 hw)))
  | rep p =>
    obtain ⟨u, v, rfl, hu, hv⟩ := hw
    rw [rem, denTerm_rep]
    rw [after, denTerm_rep] at hv
    exact .cons (hden hc u hu) hv

theorem rem_end_iff_after {pn : LNode} {m : Nat} (hpl : isPatLike pn = true) (hm : m < pn.len)
    (w : List Int) : rem pn pn.len w ↔ after pn m w := by
  have hne : pn.len ≠ 0 := by omega
  cases pn with
  | alt _ => cases hpl
  | pat p | grp p | opt p => simp [rem, after, hne]
  | rep p => rfl

theorem rem_subNode {t : LTerm} {c : LNode} (h : subNode t = some c) : rem c 0 = denTerm t := by
  cases t <;> cases h <;> first | rfl | exact (denTerm_grp _).symm

theorem denTerm_of_termHas {t : LTerm} {c : Int} (h : termHas t c = true) : denTerm t [c] := by
  cases t with
  | lit v =>
    simp only [termHas, beq_iff_eq] at h
    rw [denTerm_lit, h]
  | rng lo hi =>
    simp only [termHas, Bool.and_eq_true, decide_eq_true_eq] at h
    rw [denTerm_rng]
    exact ⟨c, rfl, h.1, h.2⟩
  | _ => simp [termHas] at h

section
variable {C : LexCtx} {k : Nat} {P : LProd} (hP : C.prods[k]? = some P)
include hP

theorem cont_eps {l l' : List Nat} (h : Eps P.pat l l') (w : List Int) :
    Cont C ⟨k, l'⟩ w → Cont C ⟨k, l⟩ w := by
  cases h with
  | @enter q n pos m hn ho hm =>
    have hpl := enterOk_patLike ho
    obtain ⟨a, ha⟩ := child_of_lt_patlike hpl hm
    have hna := node_child hn ha
    rw [cont_at hP hna, cont_at hP hn, up_snoc q _ n _ m eps hn ha, rem_enterOk ho]
    intro h
    refine cat_mono (rem_enter ha) (fun _ h => h) w (cat_assoc.2 ?_)
    simpa [rem] using h
  | @leave q n pos hn ho =>
    obtain ⟨hpl, hq⟩ := leaveOk_sub hn ho
    obtain ⟨q', j, a, rfl, hpar, hc⟩ := sub_parent hn hpl hq
    rw [incLast_snoc, cont_at hP hpar, cont_at hP hn, up_snoc q' _ _ _ j eps hpar hc]
    exact fun h => ⟨[], w, rfl, rem_leaveOk ho, h⟩
  | @rootEnd pos h0 hlt =>
    have hne : P.pat.alts.length ≠ 0 := by omega
    rw [cont_root hP, cont_root hP]
    simp [rem, h0, hne]
  | @altEnd q pn m a pos hpn hc hpos =>
    have hn := node_child hpn hc
    rw [cont_at hP hpn, cont_at hP hn, up_snoc q _ pn _ m eps hpn hc]
    intro h
    exact ⟨[], w, rfl, (denTerms_drop_ge hpos []).2 rfl,
      cat_mono (fun u => (rem_end_iff_after (patLike_of_child_alt hc) (child_lt hc) u).1) (fun _ h => h) w h⟩
  | @push q a pos c hn hc =>
    have hnc := node_child hn hc
    obtain ⟨t, ht, hs⟩ := Option.bind_eq_some_iff.1 ((child_alt a pos).symm.trans hc)
    rw [cont_at hP hnc, cont_at hP hn, up_snoc q _ _ _ pos eps hn hc, rem_subNode hs]
    intro h
    exact cat_mono (fun u hu => (denTerms_drop ht u).2 hu) (fun _ h => h) w (cat_assoc.2 h)

theorem cont_rune {q : List Nat} {a : LAlt} (hn : node (.pat P.pat) q = some (.alt a)) {pos : Nat}
    {t : LTerm} (ht : a.terms[pos]? = some t) {c : Int} (hh : termHas t c = true) (w : List Int) :
    Cont C ⟨k, q ++ [pos + 1]⟩ w → Cont C ⟨k, q ++ [pos]⟩ (c :: w) := by
  rw [cont_at hP hn, cont_at hP hn]
  rintro ⟨u, v, rfl, hu, hv⟩
  exact ⟨c :: u, v, rfl, (denTerms_drop ht _).2 ⟨[c], u, rfl, denTerm_of_termHas hh, hu⟩, hv⟩

end

theorem run_cont {C : LexCtx} {i f : LItem} {w v : List Int} (h : Run C i w f) (hf : Cont C f v) :
    Cont C i (w ++ v) := by
  induction h with
  | refl => exact hf
  | @eps i j f w hnb hj _ ih =>
    obtain ⟨P, l', hP, rfl, he⟩ := eps_of_step hnb hj
    exact cont_eps hP he _ (ih hf)
  | @rune i f t c w he hh _ ih =>
    obtain ⟨P, q, pos, n, hP, hpath, hn, ht⟩ := expected_elim he
    obtain ⟨a, rfl, ht, -⟩ := termAt_eq_some.1 ht
    obtain ⟨k, l⟩ := i
    subst hpath
    have := ih hf
    rw [adv_at] at this
    exact cont_rune hP hn ht hh _ this

theorem cont_start {C : LexCtx} {k : Nat} {P : LProd} (hP : C.prods[k]? = some P) (w : List Int) :
    Cont C ⟨k, [0]⟩ w ↔ denPat P.pat w :=
  cont_root hP 0 w

theorem cont_final {C : LexCtx} {k : Nat} {P : LProd} (hP : C.prods[k]? = some P)
    (hne : P.pat.alts ≠ []) : Cont C ⟨k, [P.pat.alts.length]⟩ [] := by
  rw [cont_root hP, rem, if_neg fun h => hne (List.eq_nil_of_length_eq_zero h)]
  rfl

def IsNodeOf (n : LNode) (p : LPat) : Prop := n = .pat p ∨ n = .grp p ∨ n = .opt p ∨ n = .rep p

theorem IsNodeOf.len {n : LNode} {p : LPat} (h : IsNodeOf n p) : n.len = p.alts.length := by
  rcases h with rfl | rfl | rfl | rfl <;> rfl

theorem IsNodeOf.child {n : LNode} {p : LPat} (h : IsNodeOf n p) {m : Nat} {a : LAlt}
    (ha : p.alts[m]? = some a) : n.child m = some (.alt a) := by
  rcases h with rfl | rfl | rfl | rfl <;> simp [LNode.child, ha]

theorem isNodeOf_sub {t : LTerm} {c : LNode} {p : LPat} (hs : subNode t = some c)
    (hp : subPat t = some p) : IsNodeOf c p := by
  cases t <;> cases hs <;> cases hp <;> simp [IsNodeOf]

def CPass (C : LexCtx) (k : Nat) (P : LProd) (p : LPat) : Prop :=
  ∀ (q : List Nat) (n : LNode) (pos : Nat) (w : List Int), node (.pat P.pat) q = some n →
    IsNodeOf n p → enterOk n pos = true → denPat p w →
    Run C ⟨k, q ++ [pos]⟩ w ⟨k, q ++ [n.len]⟩

theorem alts_ne_of_den {p : LPat} {w : List Int} (h : denPat p w) : p.alts ≠ [] := by
  obtain ⟨m, a, hm, _⟩ := (denPat_iff p w).1 h
  exact List.ne_nil_of_mem (List.mem_of_getElem? hm)

section
variable {C : LexCtx} {k : Nat} {P : LProd} (hP : C.prods[k]? = some P)
include hP

theorem leave_step {q : List Nat} {j : Nat} {c : LNode} (hc : node (.pat P.pat) (q ++ [j]) = some c)
    {pos : Nat} (ho : leaveOk c pos = true) : Run C ⟨k, q ++ [j] ++ [pos]⟩ [] ⟨k, q ++ [j + 1]⟩ :=
  incLast_snoc q j ▸ Run.ofEps hP (.leave hc ho)

theorem cRep {q : List Nat} {j : Nat} {p : LPat}
    (hc : node (.pat P.pat) (q ++ [j]) = some (.rep p)) (ih : CPass C k P p) {u : List Int}
    (hu : Star (denPat p) u) :
    ∀ pos, Run C ⟨k, q ++ [j] ++ [pos]⟩ u ⟨k, q ++ [j + 1]⟩ := by
  induction hu with
  | nil => exact fun pos => leave_step hP hc rfl
  | cons h1 _ ih2 =>
    exact fun pos => (ih _ _ pos _ hc (isNodeOf_sub (t := .rep p) rfl rfl) rfl h1).trans (ih2 _)

theorem cSub {q : List Nat} {j : Nat} {t : LTerm} {c : LNode} {p : LPat}
    (hc : node (.pat P.pat) (q ++ [j]) = some c) (hs : subNode t = some c) (hp : subPat t = some p)
    (ih : CPass C k P p) {pos : Nat} {u : List Int} (hu : rem c pos u) :
    Run C ⟨k, q ++ [j] ++ [pos]⟩ u ⟨k, q ++ [j + 1]⟩ := by
  have hrest : rem c pos = eps → leaveOk c pos = true →
      Run C ⟨k, q ++ [j] ++ [pos]⟩ u ⟨k, q ++ [j + 1]⟩ := fun he ho => by
    rw [he] at hu
    rw [show u = [] from hu]
    exact leave_step hP hc ho
  have hnp := isNodeOf_sub hs hp
  cases t <;> cases hs <;> cases hp
  · by_cases h0 : pos = 0
    · subst h0
      rcases (denTerm_opt p u).1 hu with rfl | hu
      · exact leave_step hP hc rfl
      · exact (ih _ _ 0 u hc hnp rfl hu).trans_nil (leave_step hP hc rfl)
    · exact hrest (by simp only [rem, h0, if_false]) rfl
  · rw [rem, denTerm_rep] at hu
    exact cRep hP hc ih hu pos
  · by_cases h0 : pos = 0
    · subst h0
      exact (ih _ _ 0 u hc hnp rfl hu).trans_nil
        (leave_step hP hc (by simpa [leaveOk, LNode.len] using alts_ne_of_den hu))
    · exact hrest (by simp only [rem, h0, if_false]) (by simpa [leaveOk] using h0)

theorem cTerm {q : List Nat} {a : LAlt} (hn : node (.pat P.pat) q = some (.alt a)) {j : Nat}
    {t : LTerm} (ht : a.terms[j]? = some t) (ih : ∀ p, subPat t = some p → CPass C k P p)
    {u : List Int} (hu : denTerm t u) : Run C ⟨k, q ++ [j]⟩ u ⟨k, q ++ [j + 1]⟩ := by
  cases hs : subNode t with
  | some c =>
    -- in front of a `( )`, `[ ]`, `{ }` term: push its node, go through it
    have hc : (LNode.alt a).child j = some c := by rw [child_alt, ht]; exact hs
    have hnc := node_child hn hc
    obtain ⟨p, hp⟩ := subPat_of_subNode hs
    exact (Run.ofEps hP (.push hn hc)).trans
      (cSub hP hnc hs hp (ih p hp) ((rem_subNode hs).symm ▸ hu))
  | none =>
    have hrune : ∀ c, termHas t c = true → Run C ⟨k, q ++ [j]⟩ [c] ⟨k, q ++ [j + 1]⟩ := by
      intro c hh
      refine .rune (t := t) ?_ hh (adv_at k q j ▸ .refl _)
      rw [expected_at hP hn]; exact termAt_eq_some.2 ⟨a, rfl, ht, hs⟩
    cases t with
    | dot => exact ((denTerm_dot u).1 hu).elim
    | ref r => exact ((denTerm_ref r u).1 hu).elim
    | lit c =>
      rw [denTerm_lit] at hu; subst hu
      exact hrune c (by simp [termHas])
    | rng lo hi =>
      rw [denTerm_rng] at hu
      obtain ⟨c, rfl, h1, h2⟩ := hu
      exact hrune c (by simp [termHas, h1, h2])
    | grp p | opt p | rep p => cases hs

theorem cAlt {q : List Nat} {a : LAlt} (hn : node (.pat P.pat) q = some (.alt a))
    (ih : ∀ (j : Nat) (t : LTerm) (p : LPat), a.terms[j]? = some t → subPat t = some p → CPass C k P p) :
    ∀ (d j : Nat) (w : List Int), j + d = a.terms.length → denTerms (a.terms.drop j) w →
      Run C ⟨k, q ++ [j]⟩ w ⟨k, q ++ [a.terms.length]⟩ := by
  intro d
  induction d with
  | zero =>
    intro j w hj hw
    obtain rfl : j = a.terms.length := hj
    rw [(denTerms_drop_ge (Nat.le_refl _) w).1 hw]
    exact .refl _
  | succ d ihd =>
    intro j w hj hw
    have ht := List.getElem?_eq_getElem (hj ▸ Nat.lt_add_of_pos_right (Nat.succ_pos d) : j < a.terms.length)
    obtain ⟨u, v, rfl, hu, hv⟩ := (denTerms_drop ht w).1 hw
    exact (cTerm hP hn ht (fun p hs => ih j _ p ht hs) hu).trans
      (ihd (j + 1) v ((Nat.add_right_comm j 1 d).trans hj) hv)

theorem cPass_step {p : LPat}
    (ih : ∀ (m : Nat) (a : LAlt) (j : Nat) (t : LTerm) (p' : LPat), p.alts[m]? = some a →
      a.terms[j]? = some t → subPat t = some p' → CPass C k P p') : CPass C k P p := by
  intro q n pos w hn hnp hok hw
  obtain ⟨m, a, hm, ha⟩ := (denPat_iff p w).1 hw
  have hmlt : m < n.len := hnp.len ▸ (List.getElem?_eq_some_iff.1 hm).1
  have hc := hnp.child hm
  have hna := node_child hn hc
  exact ((Run.ofEps hP (.enter hn hok hmlt)).trans
    (cAlt hP hna (fun j t p' ht hs => ih m a j t p' hm ht hs) a.terms.length 0 w (Nat.zero_add _) ha)).trans_nil
    (Run.ofEps hP (.altEnd hn hc (Nat.le_refl _)))

end

theorem sub_size {p p' : LPat} {m j : Nat} {a : LAlt} {t : LTerm} (hm : p.alts[m]? = some a)
    (ht : a.terms[j]? = some t) (hs : subPat t = some p') : p'.size < p.size := by
  have h : termSize t ≤ p.size := (size_hered p.size).terms _
    ((size_hered p.size).alts p (Nat.le_refl _) a (List.mem_of_getElem? hm)) t (List.mem_of_getElem? ht)
  cases t <;> cases hs <;> exact Nat.lt_of_lt_of_le (Nat.lt_add_of_pos_left Nat.one_pos) h

theorem cPass {C : LexCtx} {k : Nat} {P : LProd} (hP : C.prods[k]? = some P) (p : LPat) :
    CPass C k P p := by
  induction h : p.size using Nat.strongRecOn generalizing p with
  | _ n ih =>
    subst h
    exact cPass_step hP fun _ _ _ _ p' hm ht hs => ih _ (sub_size hm ht hs) p' rfl

theorem run_of_den {C : LexCtx} {k : Nat} {P : LProd} (hP : C.prods[k]? = some P) {w : List Int}
    (h : denPat P.pat w) : Run C ⟨k, [0]⟩ w ⟨k, [P.pat.alts.length]⟩ :=
  cPass hP P.pat [] (.pat P.pat) 0 w rfl (Or.inl rfl) rfl h

/-- Induction on the depth of the position: finish the node on top, go on in its parent. -/
theorem run_of_cont_aux {C : LexCtx} {k : Nat} {P : LProd} (hP : C.prods[k]? = some P) :
    ∀ (N : Nat) (q : List Nat) (n : LNode) (pos : Nat) (v : List Int),
    q.length = N → node (.pat P.pat) q = some n → pos ≤ n.len →
    cat (rem n pos) (up (.pat P.pat) q eps) v →
    Run C ⟨k, q ++ [pos]⟩ v ⟨k, [P.pat.alts.length]⟩ := by
  intro N
  induction N with
  | zero =>
    intro q n pos v hq hn hpos hv
    obtain rfl := List.eq_nil_of_length_eq_zero hq
    obtain rfl : LNode.pat P.pat = n := by simpa [node] using hn
    have h1 : rem (.pat P.pat) pos v := cat_eps_right.1 hv
    by_cases h0 : pos = 0
    · subst h0; exact run_of_den hP h1
    · simp only [rem, h0, if_false] at h1
      rw [show v = [] from h1]
      by_cases hlt : pos < P.pat.alts.length
      · exact Run.ofEps hP (.rootEnd h0 hlt)
      · obtain rfl : pos = P.pat.alts.length := Nat.le_antisymm hpos (Nat.not_lt.1 hlt)
        exact .refl _
  | succ N ih =>
    intro q n pos v hq hn hpos hv
    obtain ⟨q', j, pn, rfl, hpn, hc⟩ := node_parent hn (by rintro rfl; cases hq)
    have hq' : q'.length = N := by simpa using hq
    rw [up_snoc q' _ pn n j eps hpn hc] at hv
    obtain ⟨v1, _, rfl, h1, v2a, v2b, rfl, h2a, h2b⟩ := hv
    rcases child_kind hc with ⟨hpl, a, rfl⟩ | ⟨⟨a, rfl⟩, -⟩
    · -- `n` is an alternative of the pattern-like node `pn`
      exact ((cAlt hP hn (fun _ _ p _ _ => cPass hP p) (a.terms.length - pos) pos v1
        (Nat.add_sub_cancel' hpos) h1).trans_nil (Run.ofEps hP (.altEnd hpn hc (Nat.le_refl _)))).trans
        (ih q' _ _ _ hq' hpn (Nat.le_refl _)
          ⟨v2a, v2b, rfl, (rem_end_iff_after hpl (child_lt hc) _).2 h2a, h2b⟩)
    · -- `n` is a `( )`, `[ ]`, `{ }` term of the alternative `pn`
      obtain ⟨t, -, hs⟩ := Option.bind_eq_some_iff.1 ((child_alt a j).symm.trans hc)
      obtain ⟨p, hp⟩ := subPat_of_subNode hs
      exact (cSub hP hn hs hp (cPass hP p) h1).trans
        (ih q' (.alt a) (j + 1) _ hq' hpn (child_lt hc) ⟨v2a, v2b, rfl, h2a, h2b⟩)

theorem run_of_cont {C : LexCtx} {y : LItem} {P : LProd} (hP : C.prods[y.prod]? = some P)
    (hy : Pos C y) {v : List Int} (hv : Cont C y v) :
    Run C y v ⟨y.prod, [P.pat.alts.length]⟩ := by
  obtain ⟨P', hP', q, pos, n, hpath, hn, hpos⟩ := hy
  obtain rfl : P = P' := Option.some.inj (hP.symm.trans hP')
  obtain ⟨k, l⟩ := y
  subst hpath
  exact run_of_cont_aux hP q.length q n pos v rfl hn hpos ((cont_at hP hn pos v).1 hv)

theorem residual_iff {C : LexCtx} {y : LItem} {P : LProd} (hP : C.prods[y.prod]? = some P)
    (hne : P.pat.alts ≠ []) (hy : Pos C y) (v : List Int) :
    Run C y v ⟨y.prod, [P.pat.alts.length]⟩ ↔ Cont C y v :=
  ⟨fun h => List.append_nil v ▸ run_cont h (cont_final hP hne), run_of_cont hP hy⟩

end RegexS
end Gocc
