import Gocc.Proofs.FScan
/-
The position rule of the front-end scanner: predicates preserved by `next` and `error` are preserved by
`Scan` (`Closed`), and the invariant `PosInv` relates offset, line and column of every token to the text.
-/
namespace Gocc
namespace FScan

structure Closed (P : FSt → Prop) : Prop where
  next : ∀ s, P s → P (next s)
  error : ∀ s, P s → P (error s)

/-- What one pass of `Scan` entered at `s` returns: a state satisfying `P` and, when it returns a token,
    `NewToken(tok, src[pos.Offset:S.pos.Offset]), pos` for the position `pos` at which it was entered. -/
def PassOK (P : FSt → Prop) (s : FSt) (r : Option FTok × FSt) : Prop :=
  P r.2 ∧ ∀ tok, r.1 = some tok → ∃ ty, tok = mkTok ty (position s) r.2

theorem ite_ind {α : Type} {P : α → Prop} {c : Prop} [Decidable c] {a b : α} (ha : c → P a)
    (hb : ¬c → P b) : P (if c then a else b) := by
  split
  · exact ha ‹_›
  · exact hb ‹_›

theorem PassOK.ite {P : FSt → Prop} {s : FSt} {c : Prop} [Decidable c] {a b : Option FTok × FSt}
    (ha : c → PassOK P s a) (hb : ¬c → PassOK P s b) : PassOK P s (if c then a else b) :=
  ite_ind ha hb

theorem PassOK.ret {P : FSt → Prop} {s s2 : FSt} {ty : Int} (h : P s2) :
    PassOK P s (some (mkTok ty (position s) s2), s2) :=
  ⟨h, fun _ e => ⟨ty, (Option.some.inj e).symm⟩⟩

theorem mem_fscanN_succ {u : UnicodeOracle} {n : Nat} {s : FSt} {tok : FTok}
    (h : tok ∈ (fscanN u (n + 1) s).1) :
    tok = (fscan u s).1 ∨ tok ∈ (fscanN u n (fscan u s).2).1 := by
  simp only [fscanN] at h
  split at h
  · exact .inl (List.mem_singleton.1 h)
  · exact List.mem_cons.1 h

section closed
variable {P : FSt → Prop} (hc : Closed P)
include hc

theorem expect_closed (c : Int) {s : FSt} (h : P s) : P (expect c s) := by
  unfold expect; split
  · exact hc.next _ (hc.error _ h)
  · exact hc.next _ h

theorem lineCommentLoop_closed (p : FPos) (hl : ∀ s', P s' → P (lineDirective p s')) (f : Nat)
    (s : FSt) (h : P s) : P (lineCommentLoop p f s) := by
  fun_induction lineCommentLoop p f s with
  | case1 => exact h
  | case2 => exact hl _ (hc.next _ h)
  | case3 _ _ _ _ _ ih => exact ih (hc.next _ h)
  | case4 => exact h

theorem blockCommentLoop_closed (f : Nat) (s : FSt) (h : P s) : P (blockCommentLoop f s).2 := by
  fun_induction blockCommentLoop f s with
  | case1 => exact h
  | case2 => exact hc.next _ (hc.next _ h)
  | case3 _ _ _ _ _ _ ih => exact ih (hc.next _ h)
  | case4 => exact h

theorem scanComment_closed (p : FPos) {s : FSt}
    (hl : s.ch = 47 → ∀ s', P s' → P (lineDirective p s')) (h : P s) : P (scanComment p s) := by
  unfold scanComment
  split
  next h47 => exact lineCommentLoop_closed hc p (hl h47) _ _ h
  next =>
    have := blockCommentLoop_closed hc (fuel (expect 42 s)) _ (expect_closed hc 42 h)
    simp only []
    split
    next heq => rw [heq] at this; exact this
    next heq => rw [heq] at this; exact hc.error _ this

theorem escDigits_closed (base i x : Nat) (s : FSt) (h : P s) : P (escDigits base i x s).2 := by
  fun_induction escDigits base i x s with
  | case1 => exact h
  | case2 => exact hc.error _ h
  | case3 _ _ _ _ _ ih => exact ih (hc.next _ h)

theorem escTail_closed (i base max : Nat) {s : FSt} (h : P s) : P (escTail i base max s) := by
  have := escDigits_closed hc base i 0 s h
  unfold escTail
  split
  next heq => rw [heq] at this; exact this
  next heq =>
    rw [heq] at this
    split
    · exact hc.error _ this
    · exact this

theorem scanEscape_closed {s : FSt} (h : P s) : P (scanEscape s) := by
  have hn := hc.next _ h
  have ht := fun i base max => escTail_closed hc i base max hn
  exact ite_ind (fun _ => hn) fun _ => ite_ind (fun _ => escTail_closed hc _ _ _ h) fun _ =>
    ite_ind (fun _ => ht ..) fun _ => ite_ind (fun _ => ht ..) fun _ => ite_ind (fun _ => ht ..)
      fun _ => hc.error _ hn

theorem charLoop_closed (f n : Nat) (s : FSt) (h : P s) : P (charLoop f n s).2 := by
  fun_induction charLoop f n s with
  | case1 => exact h
  | case2 => exact hc.error _ (hc.next _ h)
  | case3 _ _ _ _ _ _ _ _ ih => exact ih (scanEscape_closed hc (hc.next _ h))
  | case4 _ _ _ _ _ _ _ _ ih => exact ih (hc.next _ h)
  | case5 => exact h

theorem scanChar_closed {s : FSt} (h : P s) : P (scanChar s) := by
  unfold scanChar
  simp only []
  split
  · exact hc.error _ (hc.next _ (charLoop_closed hc _ _ _ h))
  · exact hc.next _ (charLoop_closed hc _ _ _ h)

theorem identLoop_closed (u : UnicodeOracle) (f : Nat) (s : FSt) (h : P s) : P (identLoop u f s) := by
  fun_induction identLoop u f s with
  | case1 => exact h
  | case2 _ _ _ ih => exact ih (hc.next _ h)
  | case3 => exact h

theorem sdtLoop_closed (f : Nat) (s : FSt) (h : P s) : P (sdtLoop f s) := by
  fun_induction sdtLoop f s with
  | case1 => exact h
  | case2 => exact hc.error _ h
  | case3 => exact hc.next _ h
  | case4 _ _ _ _ _ _ ih => exact ih (hc.next _ (hc.next _ h))
  | case5 _ _ _ _ ih => exact ih (hc.next _ h)

theorem stringLoop_closed (f : Nat) (s : FSt) (h : P s) : P (stringLoop f s) := by
  fun_induction stringLoop f s with
  | case1 => exact h
  | case2 => exact hc.error _ (hc.next _ h)
  | case3 _ _ _ _ _ _ _ ih => exact ih (scanEscape_closed hc (hc.next _ h))
  | case4 _ _ _ _ _ _ _ ih => exact ih (hc.next _ h)
  | case5 => exact h

theorem rawLoop_closed (f : Nat) (s : FSt) (h : P s) : P (rawLoop f s) := by
  fun_induction rawLoop f s with
  | case1 => exact h
  | case2 => exact hc.error _ (hc.next _ h)
  | case3 _ _ _ _ _ _ ih => exact ih (hc.next _ h)
  | case4 => exact h

theorem skipWhitespace_closed {s : FSt} (h : P s) : P (skipWhitespace s) := by
  unfold skipWhitespace
  generalize fuel s = f
  fun_induction wsLoop f s with
  | case1 => exact h
  | case2 _ _ _ ih => exact ih (hc.next _ h)
  | case3 => exact h

/-- one walk along the `switch` of `Scan`: every branch ends in a state reached by `next`, `error` and
    the loops above, and every token is made at the entry position -/
theorem scanOnce_ok (u : UnicodeOracle) {s : FSt}
    (hl : s.ch = 47 → (next s).ch = 47 → ∀ s', P s' → P (lineDirective (position s) s'))
    (h : P s) : PassOK P s (scanOnce u s) := by
  have hn := hc.next _ h
  unfold scanOnce
  simp only []
  refine .ite (fun _ => .ret (identLoop_closed hc u _ _ h)) fun _ => ?_
  refine .ite (fun _ => .ret hn) fun _ => ?_
  refine .ite (fun _ => .ret (hc.next _ (stringLoop_closed hc _ _ hn))) fun _ => ?_
  refine .ite (fun _ => .ret (scanChar_closed hc hn)) fun _ => ?_
  refine .ite (fun _ => .ret (hc.next _ (rawLoop_closed hc _ _ hn))) fun _ => ?_
  iterate 11 refine .ite (fun _ => .ret hn) fun _ => ?_
  refine .ite (fun h47 => .ite (fun _ => ⟨scanComment_closed hc _ (hl h47) hn, nofun⟩)
    fun _ => .ret hn) fun _ => ?_
  refine .ite (fun _ => .ite (fun _ => .ret (hc.next _ (sdtLoop_closed hc _ _ (hc.next _ hn)))) fun _ =>
    .ite (fun _ => .ret (hc.next _ hn)) fun _ => .ret hn) fun _ => ?_
  exact .ite (fun _ => .ret hn) fun _ => .ret (hc.error _ hn)

theorem scanLoop_inv (u : UnicodeOracle)
    (hl : ∀ s0, P s0 → s0.ch = 47 → (next s0).ch = 47 →
      ∀ s', P s' → P (lineDirective (position s0) s')) :
    ∀ (f : Nat) (s : FSt), P s → P (scanLoop u f s).2 ∧
      ∃ s1 ty, P s1 ∧ (scanLoop u f s).1 = mkTok ty (position s1) (scanLoop u f s).2 := by
  intro f; induction f with
  | zero => intro s h; exact ⟨h, s, _, h, rfl⟩
  | succ f ih =>
    intro s h
    have h1 := skipWhitespace_closed hc h
    obtain ⟨h2, h3⟩ := scanOnce_ok hc u (hl _ h1) h1
    simp only [scanLoop]
    generalize scanOnce u (skipWhitespace s) = r at h2 h3
    obtain ⟨o, s2⟩ := r
    cases o with
    | none => exact ih s2 h2
    | some t =>
      obtain ⟨ty, hty⟩ := h3 t rfl
      exact ⟨h2, _, ty, h1, hty⟩

theorem fscanN_inv (u : UnicodeOracle)
    (hl : ∀ s0, P s0 → s0.ch = 47 → (next s0).ch = 47 →
      ∀ s', P s' → P (lineDirective (position s0) s')) :
    ∀ (n : Nat) (s : FSt), P s → ∀ tok ∈ (fscanN u n s).1,
      ∃ s1 ty s2, P s1 ∧ tok = mkTok ty (position s1) s2 := by
  intro n; induction n with
  | zero => intro s _ tok h; cases h
  | succ n ih =>
    intro s h tok htok
    obtain ⟨h1, s1, ty, h2, h3⟩ := scanLoop_inv hc u hl (fuel s) s h
    rcases mem_fscanN_succ htok with rfl | htok
    · exact ⟨s1, ty, _, h2, h3⟩
    · exact ih _ h1 tok htok

end closed

/-- line of the character that follows the runes `rs`: 1 + number of newlines -/
def lineOf (rs : List Int) : Nat := 1 + rs.count 10

/-- column of the character that follows the runes `rs`: 1 + number of runes since the last
    newline (every rune, tabs included, counts 1) -/
def colOf (rs : List Int) : Nat := 1 + (rs.reverse.takeWhile (· != 10)).length

/-- `Runes src o rs`: offset `o` is a rune boundary of `src` (decoding from the start with the
    rule of `next`) and `rs` are the runes of `src[0:o]` -/
inductive Runes (src : List Nat) : Nat → List Int → Prop
  | zero : Runes src 0 []
  | step {o : Nat} {rs : List Int} : Runes src o rs → src.drop o ≠ [] →
      Runes src (o + (look (src.drop o)).2) (rs ++ [(look (src.drop o)).1])

theorem lineOf_snoc (rs : List Int) (r : Int) :
    lineOf (rs ++ [r]) = if r = 10 then lineOf rs + 1 else lineOf rs := by
  simp only [lineOf, List.count_append, List.count_singleton]
  split <;> simp_all <;> omega

theorem colOf_snoc (rs : List Int) (r : Int) :
    colOf (rs ++ [r]) = if r = 10 then 1 else colOf rs + 1 := by
  simp only [colOf, List.reverse_append, List.reverse_cons, List.reverse_nil, List.nil_append,
    List.cons_append, List.takeWhile_cons]
  split <;> simp_all <;> omega

/-- The position invariant of scanner states over `src`.  The proposition `wl` is a switch, so that
    one invariant serves both uses: with `wl := True` the line is tracked too (this needs the
    absence of `//line` directives), with `wl := False` only the column, which is tracked always. -/
structure PosInv (wl : Prop) (src : List Nat) (s : FSt) : Prop where
  cur : s.cur = src.drop s.pos
  at_ : At s.cur s
  rule : s.cur ≠ [] → ∃ rs, Runes src s.pos rs ∧ (wl → s.line = lineOf rs) ∧ s.col = colOf rs

theorem next_line_col {s : FSt} (h : (next s).cur ≠ []) :
    (next s).line = (if s.ch = 10 then s.line + 1 else s.line) ∧
    (next s).col = (if s.ch = 10 then 1 else s.col + 1) := by
  unfold next at h ⊢
  split
  · rename_i heq; rw [heq] at h; exact absurd rfl h
  · exact ⟨rfl, rfl⟩

theorem posInv_closed (wl : Prop) (src : List Nat) : Closed (PosInv wl src) := by
  refine ⟨?_, ?_⟩
  · intro s h
    obtain ⟨ha, hp⟩ := next_at h.at_
    have hcur : (next s).cur = src.drop (next s).pos := by
      rw [ha.cur, hp, h.cur, List.drop_drop]
    refine ⟨hcur, by rw [ha.cur]; exact ha, ?_⟩
    intro hne
    have hne0 : s.cur ≠ [] := by
      intro h0; rw [ha.cur, h0] at hne; simp at hne
    obtain ⟨rs, hr, hl, hcol⟩ := h.rule hne0
    have hstep := Runes.step hr (by rw [← h.cur]; exact hne0)
    rw [← h.cur] at hstep
    have hlc := next_line_col hne
    refine ⟨_, by rw [hp]; exact hstep, ?_, ?_⟩
    · intro w
      rw [hlc.1, lineOf_snoc, ← h.at_.ch, hl w]
    · rw [hlc.2, colOf_snoc, ← h.at_.ch, hcol]
  · intro s h
    exact ⟨h.cur, ⟨h.at_.cur, h.at_.ch, h.at_.off⟩, h.rule⟩

theorem posInv_init (wl : Prop) (src : List Nat) : PosInv wl src (init src) := by
  cases src with
  | nil => exact ⟨rfl, init_at [], fun h => absurd rfl h⟩
  | cons b r => exact ⟨rfl, init_at _, fun _ => ⟨[], .zero, fun _ => rfl, rfl⟩⟩

/-- `//line ` -/
def lineMarker : List Nat := [47, 47, 108, 105, 110, 101, 32]

theorem posInv_lineDirective {wl : Prop} (hw : ¬ wl) (src : List Nat) (p : FPos) {s : FSt}
    (h : PosInv wl src s) : PosInv wl src (lineDirective p s) := by
  obtain ⟨l, e⟩ := lineDirective_eq p s
  rw [e]
  exact ⟨h.cur, ⟨h.at_.cur, h.at_.ch, h.at_.off⟩, fun hne =>
    let ⟨rs, hr, _, hcol⟩ := h.rule hne
    ⟨rs, hr, fun f => (hw f).elim, hcol⟩⟩

theorem lineDirective_noop {wl : Prop} {src : List Nat} (hm : ¬ lineMarker <:+: src) {s0 : FSt}
    (h0 : PosInv wl src s0) (c0 : s0.ch = 47) (c1 : (next s0).ch = 47) (s' : FSt) :
    lineDirective (position s0) s' = s' := by
  -- the text at `s0` begins with `//`
  have a0 := h0.at_
  obtain ⟨r0, hr0⟩ := a0.of_ch (c := 47) (by omega) c0
  rw [hr0] at a0
  obtain ⟨r, rfl⟩ := (next_at_ascii a0 (by omega)).2.1.of_ch (c := 47) (by omega) c1
  simp only [lineDirective]
  split
  · split
    · rename_i hp
      exfalso
      apply hm
      simp only [hasLinePrefix, slice, position, hr0, beq_iff_eq] at hp
      have e : (47 :: 47 :: r).drop (s0.pos + 2 - s0.pos) = r := by
        have : s0.pos + 2 - s0.pos = 2 := by omega
        rw [this]; rfl
      rw [e, List.take_take] at hp
      obtain ⟨t, ht⟩ := List.take_prefix (min 5 (s'.pos - (s0.pos + 2))) r
      rw [hp] at ht
      refine ⟨src.take s0.pos, t, ?_⟩
      have hsrc : src = src.take s0.pos ++ src.drop s0.pos := (List.take_append_drop _ _).symm
      rw [← h0.cur, hr0, ← ht] at hsrc
      generalize src.take s0.pos = pre at hsrc ⊢
      rw [hsrc]
      simp [lineMarker]
    · rfl
  · rfl

/-- Every token is cut out of the text where it says it is, and one that starts inside the text reports the
    column of the position rule; with `wl`, which needs a text without `//line `, also the line. -/
theorem fscanAll_pos (wl : Prop) [Decidable wl] (u : UnicodeOracle) (src : List Nat)
    (hm : wl → ¬ lineMarker <:+: src) :
    ∀ tok ∈ (fscanAll u src).1,
      tok.lit = (src.drop tok.start).take (tok.stop - tok.start) ∧
      (tok.start < src.length →
        ∃ rs, Runes src tok.start rs ∧ (wl → tok.line = lineOf rs) ∧ tok.col = colOf rs) := by
  intro tok htok
  obtain ⟨s1, ty, s2, h, rfl⟩ := fscanN_inv (posInv_closed wl src) u (fun s0 h0 c0 c1 s' hs' => by
    by_cases w : wl
    · rw [lineDirective_noop (hm w) h0 c0 c1 s']; exact hs'
    · exact posInv_lineDirective w src _ hs') _ _ (posInv_init wl src) tok htok
  refine ⟨?_, fun hlt => h.rule ?_⟩
  · show slice (position s1) (position s1).offset s2.pos = (src.drop s1.pos).take (s2.pos - s1.pos)
    rw [slice_self, ← h.cur]
    rfl
  · rw [h.cur]
    exact mt List.drop_eq_nil_iff.1 (Nat.not_le.2 hlt)

/-- the rune at the head contributes a newline byte exactly when it is the newline rune: the bytes
    behind the first are not ASCII -/
theorem look_count10 (b : Nat) (r : List Nat) :
    ((b :: r).take (look (b :: r)).2).count 10 = if (look (b :: r)).1 = 10 then 1 else 0 := by
  rw [look_cons]
  have d := decodeRune_cons b r
  obtain ⟨k, hk⟩ : ∃ k, (decodeRune (b :: r)).2 = k + 1 := ⟨_, (Nat.sub_add_cancel d.pos).symm⟩
  have hcont := d.tail
  rw [hk, Nat.add_sub_cancel] at hcont
  rw [hk, List.take_succ_cons, List.count_cons,
    List.count_eq_zero.2 (fun h => absurd (hcont 10 h) (by omega)), Nat.zero_add]
  by_cases hb : b < 0x80
  · rw [d.ascii hb]
    by_cases h10 : b = 10
    · subst h10; rfl
    · rw [if_neg (by simpa using h10), if_neg (by show ¬ (b : Int) = 10; omega)]
  · have := d.nonAscii (by omega)
    rw [if_neg (by simp; omega), if_neg (by omega)]

theorem Runes.count10 {src : List Nat} {o : Nat} {rs : List Int} (h : Runes src o rs) :
    rs.count 10 = (src.take o).count 10 := by
  induction h with
  | zero => simp
  | @step o rs _ hne ih =>
    rw [List.count_append, List.take_add, List.count_append, ih]
    congr 1
    cases hd : src.drop o with
    | nil => exact absurd hd hne
    | cons b r =>
      rw [look_count10, List.count_singleton]
      simp

end FScan
end Gocc
