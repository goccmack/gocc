import Gocc.Spec.Eval
/-
Derivations of a numbered grammar: concatenation and splitting (`NDerives.append`,
`NDerives.append_inv`), inversion on the first symbol, terminals that occur in no body
(`NDerives.no_tok`), and the passage between derivations and parse trees (`PT.derives`,
`NDerives.exists_trees`).
-/
namespace Gocc

theorem NGrammar.ext_prods {G H : NGrammar} (h : G.prods = H.prods) : G = H :=
  congrArg NGrammar.mk h

theorem NGrammar.body_eq_nil {G : NGrammar} {p : Nat} (h : G.prods.size ≤ p) : G.body p = [] := by
  simp only [NGrammar.body, Array.getElem?_eq_none h]; rfl

theorem NGrammar.lt_size_of_mem {G : NGrammar} {p : Nat} {X : Sym} (h : X ∈ G.body p) :
    p < G.prods.size :=
  Nat.lt_of_not_le fun hle => by rw [NGrammar.body_eq_nil hle] at h; cases h

theorem NGrammar.lt_size_of_body {G : NGrammar} {p : Nat} {X : Sym} {α : List Sym}
    (h : G.body p = X :: α) : p < G.prods.size :=
  lt_size_of_mem (h ▸ List.mem_cons_self)

theorem NDerives.append {G : NGrammar} {α β : List Sym} {u v : List Nat}
    (h1 : NDerives G α u) (h2 : NDerives G β v) : NDerives G (α ++ β) (u ++ v) := by
  induction h1 with
  | nil => simpa using h2
  | term _ ih => exact .term ih
  | nt hp hb _ _ ih => rw [List.cons_append, List.append_assoc]; exact .nt hp hb ih

theorem NDerives.of_body {G : NGrammar} {p : Nat} {u : List Nat} (hp : p < G.prods.size)
    (h : NDerives G (G.body p) u) : NDerives G [Sym.nt (G.head p)] u := by
  simpa using NDerives.nt hp h .nil

theorem NDerives.nil_inv {G : NGrammar} {w : List Nat} (h : NDerives G [] w) : w = [] := by
  generalize hα : ([] : List Sym) = α at h
  cases h with
  | nil => rfl
  | term => cases hα
  | nt => cases hα

theorem NDerives.t_inv {G : NGrammar} {a : Nat} {α : List Sym} {w : List Nat}
    (h : NDerives G (Sym.t a :: α) w) : ∃ w', w = a :: w' ∧ NDerives G α w' := by
  generalize hα : Sym.t a :: α = β at h
  cases h with
  | nil => cases hα
  | term h' => cases hα; exact ⟨_, rfl, h'⟩
  | nt => cases hα

theorem NDerives.nt_inv {G : NGrammar} {A : Nat} {α : List Sym} {w : List Nat}
    (h : NDerives G (Sym.nt A :: α) w) : ∃ p u v, p < G.prods.size ∧ G.head p = A ∧ w = u ++ v ∧
      NDerives G (G.body p) u ∧ NDerives G α v := by
  generalize hα : Sym.nt A :: α = β at h
  cases h with
  | nil => cases hα
  | term => cases hα
  | nt hp hb hr =>
    simp only [List.cons.injEq, Sym.nt.injEq] at hα
    obtain ⟨rfl, rfl⟩ := hα
    exact ⟨_, _, _, hp, rfl, rfl, hb, hr⟩

theorem NSentence.inv {G : NGrammar} {A : Nat} (h0 : G.body 0 = [Sym.nt A]) {w : List Nat}
    (h : NSentence G w) : ∃ p, p < G.prods.size ∧ G.head p = A ∧ NDerives G (G.body p) w := by
  unfold NSentence at h
  rw [h0] at h
  obtain ⟨p, u, v, hp, hh, rfl, hb, hr⟩ := h.nt_inv
  cases hr.nil_inv
  exact ⟨p, hp, hh, by rwa [List.append_nil]⟩

theorem NDerives.append_inv {G : NGrammar} : ∀ {α β : List Sym} {w : List Nat},
    NDerives G (α ++ β) w → ∃ u v, w = u ++ v ∧ NDerives G α u ∧ NDerives G β v
  | [], β, w, h => ⟨[], w, rfl, .nil, h⟩
  | .t a :: α, β, w, h => by
    obtain ⟨w', rfl, h'⟩ := NDerives.t_inv (α := α ++ β) h
    obtain ⟨u, v, rfl, h1, h2⟩ := NDerives.append_inv h'
    exact ⟨a :: u, v, rfl, .term h1, h2⟩
  | .nt A :: α, β, w, h => by
    obtain ⟨p, u1, v1, hp, rfl, rfl, hb, hr⟩ := NDerives.nt_inv (α := α ++ β) h
    obtain ⟨u, v, rfl, h1, h2⟩ := NDerives.append_inv hr
    exact ⟨u1 ++ u, v, by simp, .nt hp hb h1, h2⟩

theorem NDerives.no_tok {G : NGrammar} {c : Nat}
    (hb : ∀ p, p < G.prods.size → Sym.t c ∉ G.body p) {α : List Sym} {w : List Nat}
    (h : NDerives G α w) : Sym.t c ∉ α → c ∉ w := by
  induction h with
  | nil => intro _; simp
  | @term a α w _ ih =>
    intro hn
    simp only [List.mem_cons, not_or] at hn ⊢
    exact ⟨fun e => hn.1 (by rw [e]), ih hn.2⟩
  | @nt p α u v hp _ _ ih1 ih2 =>
    intro hn
    simp only [List.mem_cons, not_or] at hn
    simp only [List.mem_append, not_or]
    exact ⟨ih1 (hb p hp), ih2 hn.2⟩

mutual
theorem PT.derives (G : NGrammar) : (t : PT) → t.wf G →
    NDerives G [t.sym G] (t.yield.map (·.2))
  | .leaf i ty, _ => by
    simp only [PT.sym, PT.yield, List.map_cons, List.map_nil]
    exact .term .nil
  | .node p kids, h => by
    simp only [PT.wf] at h
    have hk := PT.derivesL G kids h.2.2
    rw [h.2.1] at hk
    simpa [PT.sym, PT.yield] using NDerives.of_body h.1 hk
theorem PT.derivesL (G : NGrammar) : (ts : List PT) → PT.wfL G ts →
    NDerives G (ts.map (PT.sym G)) ((PT.yieldL ts).map (·.2))
  | [], _ => by simpa [PT.yieldL] using NDerives.nil
  | t :: ts, h => by
    simp only [PT.wfL] at h
    have h1 := PT.derives G t h.1
    have h2 := PT.derivesL G ts h.2
    simpa [PT.yieldL] using h1.append h2
end

theorem PT.yieldL_append (a b : List PT) : PT.yieldL (a ++ b) = PT.yieldL a ++ PT.yieldL b := by
  induction a with
  | nil => simp [PT.yieldL]
  | cons x xs ih => simp [PT.yieldL, ih]

theorem PT.wfL_append (G : NGrammar) (a b : List PT) :
    PT.wfL G (a ++ b) ↔ PT.wfL G a ∧ PT.wfL G b := by
  induction a with
  | nil => simp [PT.wfL]
  | cons x xs ih => simp [PT.wfL, ih, and_assoc]

theorem NDerives.exists_trees {G : NGrammar} {α : List Sym} {u : List Nat} (h : NDerives G α u) :
    ∀ m : Nat, ∃ ks : List PT, PT.wfL G ks ∧ ks.map (PT.sym G) = α ∧
      PT.yieldL ks = (List.range' m u.length).zip u := by
  induction h with
  | nil => exact fun _ => ⟨[], trivial, rfl, rfl⟩
  | @term a α w _ ih =>
    intro m
    obtain ⟨ks, h1, h2, h3⟩ := ih (m + 1)
    refine ⟨.leaf m a :: ks, ⟨trivial, h1⟩, by rw [List.map_cons, h2]; rfl, ?_⟩
    rw [PT.yieldL, h3, List.length_cons, List.range'_succ]; rfl
  | @nt p α u v hp _ _ ih1 ih2 =>
    intro m
    obtain ⟨kids, k1, k2, k3⟩ := ih1 m
    obtain ⟨ks, h1, h2, h3⟩ := ih2 (m + u.length)
    refine ⟨.node p kids :: ks, ⟨⟨hp, k2, k1⟩, h1⟩, by rw [List.map_cons, h2]; rfl, ?_⟩
    rw [PT.yieldL, PT.yield, k3, h3, List.length_append, ← List.range'_append_1,
      List.zip_append (by simp)]

end Gocc
