import Gocc.Spec.RegexSem
import Gocc.Proofs.LexTree
/-
  The language of a pattern as a structurally recursive function (`Star` for `{ }`); `matchPat_iff_den`: it
  is the inductive `MatchPat` of Spec/RegexSem.lean.  The proofs about the reference automaton use this form
  (recursion on the pattern, `induction` on `Star`).  Without `.` in the patterns no item expects `.`:
  `noDots` is inherited down the pattern tree (`Hered`, Proofs/LexTree.lean).
-/
namespace Gocc
namespace RegexS

open EmovesU

abbrev Lang := List Int → Prop

inductive Star (L : Lang) : Lang
  | nil : Star L []
  | cons {u v : List Int} : L u → Star L v → Star L (u ++ v)

mutual
  def denPat : LPat → Lang
    | .mk alts => denAlts alts
  def denAlts : List LAlt → Lang
    | [] => fun _ => False
    | a :: rest => fun w => denAlt a w ∨ denAlts rest w
  def denAlt : LAlt → Lang
    | .mk ts => denTerms ts
  def denTerms : List LTerm → Lang
    | [] => fun w => w = []
    | t :: rest => fun w => ∃ u v, w = u ++ v ∧ denTerm t u ∧ denTerms rest v
  def denTerm : LTerm → Lang
    | .dot => fun _ => False
    | .lit c => fun w => w = [c]
    | .rng lo hi => fun w => ∃ c, w = [c] ∧ lo ≤ c ∧ c ≤ hi
    | .ref _ => fun _ => False
    | .opt p => fun w => w = [] ∨ denPat p w
    | .rep p => Star (denPat p)
    | .grp p => denPat p
end

theorem denPat_mk (alts : List LAlt) : denPat (.mk alts) = denAlts alts := rfl
theorem denAlt_mk (ts : List LTerm) : denAlt (.mk ts) = denTerms ts := rfl
theorem denAlts_nil (w : List Int) : denAlts [] w ↔ False := .rfl
theorem denAlts_cons (a : LAlt) (rest : List LAlt) (w : List Int) :
    denAlts (a :: rest) w ↔ (denAlt a w ∨ denAlts rest w) := .rfl
theorem denTerms_nil (w : List Int) : denTerms [] w ↔ w = [] := .rfl
theorem denTerms_cons (t : LTerm) (rest : List LTerm) (w : List Int) :
    denTerms (t :: rest) w ↔ ∃ u v, w = u ++ v ∧ denTerm t u ∧ denTerms rest v := .rfl
theorem denTerm_lit (c : Int) (w : List Int) : denTerm (.lit c) w ↔ w = [c] := .rfl
theorem denTerm_rng (lo hi : Int) (w : List Int) :
    denTerm (.rng lo hi) w ↔ ∃ c, w = [c] ∧ lo ≤ c ∧ c ≤ hi := .rfl
theorem denTerm_opt (p : LPat) (w : List Int) : denTerm (.opt p) w ↔ (w = [] ∨ denPat p w) := .rfl
theorem denTerm_rep (p : LPat) : denTerm (.rep p) = Star (denPat p) := rfl
theorem denTerm_grp (p : LPat) : denTerm (.grp p) = denPat p := rfl
theorem denTerm_dot (w : List Int) : denTerm .dot w ↔ False := .rfl
theorem denTerm_ref (r : String) (w : List Int) : denTerm (.ref r) w ↔ False := .rfl

theorem denAlts_iff : ∀ (alts : List LAlt) (w : List Int),
    denAlts alts w ↔ ∃ (m : Nat) (a : LAlt), alts[m]? = some a ∧ denAlt a w
  | [], w => by simp [denAlts_nil]
  | a :: rest, w => by
    rw [denAlts_cons, denAlts_iff rest w]
    constructor
    · rintro (h | ⟨m, b, hm, hb⟩)
      · exact ⟨0, a, rfl, h⟩
      · exact ⟨m + 1, b, hm, hb⟩
    · rintro ⟨_ | m, b, hm, hb⟩
      · cases hm; exact .inl hb
      · exact .inr ⟨m, b, hm, hb⟩

theorem denPat_iff (p : LPat) (w : List Int) :
    denPat p w ↔ ∃ (m : Nat) (a : LAlt), p.alts[m]? = some a ∧ denTerms a.terms w := by
  have hterms : ∀ a : LAlt, denAlt a = denTerms a.terms := fun a => by cases a; exact denAlt_mk _
  cases p
  simp only [denPat_mk, denAlts_iff, hterms, LPat.alts]

mutual
  theorem den_of_matchPat : ∀ {p : LPat} {w : List Int}, MatchPat p w → denPat p w
    | _, _, .alt hm h => by
      obtain ⟨m, hm⟩ := List.getElem?_of_mem hm
      rw [denPat_mk]; exact (denAlts_iff _ _).2 ⟨m, _, hm, den_of_matchAlt h⟩
  theorem den_of_matchAlt : ∀ {a : LAlt} {w : List Int}, MatchAlt a w → denAlt a w
    | _, _, .mk h => by rw [denAlt_mk]; exact den_of_matchTerms h
  theorem den_of_matchTerms : ∀ {ts : List LTerm} {w : List Int}, MatchTerms ts w → denTerms ts w
    | _, _, .nil => by rw [denTerms_nil]
    | _, _, .cons h1 h2 => by
      rw [denTerms_cons]; exact ⟨_, _, rfl, den_of_matchTerm h1, den_of_matchTerms h2⟩
  theorem den_of_matchTerm : ∀ {t : LTerm} {w : List Int}, MatchTerm t w → denTerm t w
    | _, _, .lit c => by rw [denTerm_lit]
    | _, _, .rng lo hi c h1 h2 => by rw [denTerm_rng]; exact ⟨c, rfl, h1, h2⟩
    | _, _, .optNone p => by rw [denTerm_opt]; exact Or.inl rfl
    | _, _, .optSome h => by rw [denTerm_opt]; exact Or.inr (den_of_matchPat h)
    | _, _, .repNil p => by rw [denTerm_rep]; exact .nil
    | _, _, .repCons h1 h2 => by
      have i1 := den_of_matchPat h1
      have i2 := den_of_matchTerm h2
      rw [denTerm_rep] at i2 ⊢
      exact .cons i1 i2
    | _, _, .grp h => by rw [denTerm_grp]; exact den_of_matchPat h
end

mutual
  theorem matchPat_of_den : (p : LPat) → ∀ w, denPat p w → MatchPat p w
    | .mk alts, w, h => by
      rw [denPat_mk] at h
      obtain ⟨a, ha, hm⟩ := matchAlts_of_den alts w h
      exact .alt ha hm
  theorem matchAlts_of_den : (alts : List LAlt) → ∀ w, denAlts alts w → ∃ a ∈ alts, MatchAlt a w
    | [], w, h => by rw [denAlts_nil] at h; exact h.elim
    | a :: rest, w, h => by
      rw [denAlts_cons] at h
      rcases h with h | h
      · exact ⟨a, List.mem_cons_self, matchAlt_of_den a w h⟩
      · obtain ⟨b, hb, hm⟩ := matchAlts_of_den rest w h
        exact ⟨b, List.mem_cons_of_mem _ hb, hm⟩
  theorem matchAlt_of_den : (a : LAlt) → ∀ w, denAlt a w → MatchAlt a w
    | .mk ts, w, h => by rw [denAlt_mk] at h; exact .mk (matchTerms_of_den ts w h)
  theorem matchTerms_of_den : (ts : List LTerm) → ∀ w, denTerms ts w → MatchTerms ts w
    | [], w, h => by rw [denTerms_nil] at h; subst h; exact .nil
    | t :: rest, w, h => by
      rw [denTerms_cons] at h
      obtain ⟨u, v, rfl, h1, h2⟩ := h
      exact .cons (matchTerm_of_den t u h1) (matchTerms_of_den rest v h2)
  theorem matchTerm_of_den : (t : LTerm) → ∀ w, denTerm t w → MatchTerm t w
    | .dot, w, h => by rw [denTerm_dot] at h; exact h.elim
    | .ref r, w, h => by rw [denTerm_ref] at h; exact h.elim
    | .lit c, w, h => by rw [denTerm_lit] at h; subst h; exact .lit c
    | .rng lo hi, w, h => by
      rw [denTerm_rng] at h
      obtain ⟨c, rfl, h1, h2⟩ := h
      exact .rng lo hi c h1 h2
    | .opt p, w, h => by
      rw [denTerm_opt] at h
      rcases h with rfl | h
      · exact .optNone p
      · exact .optSome (matchPat_of_den p w h)
    | .rep p, w, h => by
      rw [denTerm_rep] at h
      have key : ∀ u, denPat p u → MatchPat p u := matchPat_of_den p
      induction h with
      | nil => exact .repNil p
      | cons h1 _ ih => exact .repCons (key _ h1) ih
    | .grp p, w, h => by rw [denTerm_grp] at h; exact .grp (matchPat_of_den p w h)
end

theorem matchPat_iff_den (p : LPat) (w : List Int) : MatchPat p w ↔ denPat p w :=
  ⟨den_of_matchPat, matchPat_of_den p w⟩

def cat (L K : Lang) : Lang := fun w => ∃ u v, w = u ++ v ∧ L u ∧ K v
def eps : Lang := fun w => w = []

theorem cat_mono {L L' K K' : Lang} (h1 : ∀ w, L w → L' w) (h2 : ∀ w, K w → K' w) :
    ∀ w, cat L K w → cat L' K' w := by
  rintro w ⟨u, v, rfl, hu, hv⟩
  exact ⟨u, v, rfl, h1 u hu, h2 v hv⟩

theorem cat_eps_left {K : Lang} {w : List Int} : cat eps K w ↔ K w := by
  constructor
  · rintro ⟨u, v, rfl, hu, hv⟩
    rw [show u = [] from hu]; exact hv
  · intro h; exact ⟨[], w, rfl, rfl, h⟩

theorem cat_eps_right {L : Lang} {w : List Int} : cat L eps w ↔ L w := by
  constructor
  · rintro ⟨u, v, rfl, hu, hv⟩
    rw [show v = [] from hv, List.append_nil]; exact hu
  · intro h; exact ⟨w, [], by simp, h, rfl⟩

theorem cat_assoc {L K M : Lang} {w : List Int} : cat (cat L K) M w ↔ cat L (cat K M) w := by
  constructor
  · rintro ⟨_, z, rfl, ⟨x, y, rfl, hx, hy⟩, hz⟩
    exact ⟨x, y ++ z, by simp, hx, y, z, rfl, hy, hz⟩
  · rintro ⟨x, _, rfl, hx, y, z, rfl, hy, hz⟩
    exact ⟨x ++ y, z, by simp, ⟨x, y, rfl, hx, hy⟩, hz⟩

theorem denTerms_drop {ts : List LTerm} {j : Nat} {t : LTerm} (h : ts[j]? = some t) (w : List Int) :
    denTerms (ts.drop j) w ↔ cat (denTerm t) (denTerms (ts.drop (j + 1))) w := by
  obtain ⟨hj, ht⟩ := List.getElem?_eq_some_iff.1 h
  rw [List.drop_eq_getElem_cons hj, ht]
  exact denTerms_cons _ _ _

theorem denTerms_drop_ge {ts : List LTerm} {j : Nat} (h : ts.length ≤ j) (w : List Int) :
    denTerms (ts.drop j) w ↔ w = [] := by
  rw [List.drop_eq_nil_of_le h, denTerms_nil]

def termND : LTerm → Bool
  | .dot => false
  | .opt p | .rep p | .grp p => p.noDots
  | _ => true

theorem ndTerms_eq : ∀ ts : List LTerm, LPat.noDots.ndTerms ts = ts.all termND
  | [] => rfl
  | t :: rest => by
    rw [List.all_cons, ← ndTerms_eq rest]
    cases t <;> rfl

theorem ndAlts_eq : ∀ alts : List LAlt,
    LPat.noDots.ndAlts alts = alts.all fun a => LPat.noDots.ndTerms a.terms
  | [] => rfl
  | .mk ts :: rest => by rw [List.all_cons, ← ndAlts_eq rest]; rfl

theorem hered_noDots : Hered (fun p => p.noDots = true) (fun ts => LPat.noDots.ndTerms ts = true)
    (fun t => termND t = true) where
  alts := fun p hp => by
    cases p
    rw [LPat.noDots, ndAlts_eq] at hp
    exact List.all_eq_true.1 hp
  terms := fun ts hts => by
    rw [ndTerms_eq] at hts
    exact List.all_eq_true.1 hts
  sub := fun _ => ⟨id, id, id⟩

def NoDotC (C : LexCtx) : Prop := ∀ (k : Nat) (P : LProd), C.prods[k]? = some P → P.pat.noDots = true

theorem noDotC_of_noDots {prods : List LProd} (h : noDots prods = true) :
    NoDotC { prods := prods.toArray } := fun _ _ hP => all_toArray h hP

theorem expected_ne_dot {C : LexCtx} (hC : NoDotC C) (i : LItem) : C.expected i ≠ some .dot := fun h =>
  let ⟨_, _, _, _, hP, _⟩ := expected_elim h
  Bool.false_ne_true (hered_noDots.expected hP h (hC _ _ hP))

end RegexS
end Gocc
