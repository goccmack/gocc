import Gocc.Proofs.Validate
/-
Terminals are never erased: a derivation / a parse tree of a string without the terminal `e` uses
no production whose body mentions `e` (`NDerivesAvoid`, `PT.avoids`), and the derivations that avoid
these productions are the derivations of the grammar without them (`NGrammar.without`).
Used by Props/C07Gen.lean with `e` the error terminal.
-/
namespace Gocc.GenInert

/-- derivations that use no production whose body mentions the terminal `e` -/
inductive NDerivesAvoid (G : NGrammar) (e : Nat) : List Sym → List Nat → Prop
  | nil : NDerivesAvoid G e [] []
  | term {a α w} : NDerivesAvoid G e α w → NDerivesAvoid G e (Sym.t a :: α) (a :: w)
  | nt {p α u v} : p < G.prods.size → Sym.t e ∉ G.body p → NDerivesAvoid G e (G.body p) u →
      NDerivesAvoid G e α v → NDerivesAvoid G e (Sym.nt (G.head p) :: α) (u ++ v)

/-- `w` is a sentence of the grammar in which the alternatives mentioning `e` are absent -/
def NSentenceAvoid (G : NGrammar) (e : Nat) (w : List Nat) : Prop := NDerivesAvoid G e (G.body 0) w

theorem NDerivesAvoid.derives {G : NGrammar} {e : Nat} {α : List Sym} {w : List Nat}
    (h : NDerivesAvoid G e α w) : NDerives G α w := by
  induction h with
  | nil => exact .nil
  | term _ ih => exact .term ih
  | nt hp _ _ _ ih1 ih2 => exact .nt hp ih1 ih2

theorem NDerivesAvoid.append {G : NGrammar} {e : Nat} {α β : List Sym} {u v : List Nat}
    (h1 : NDerivesAvoid G e α u) (h2 : NDerivesAvoid G e β v) :
    NDerivesAvoid G e (α ++ β) (u ++ v) := by
  induction h1 with
  | nil => exact h2
  | term _ ih => exact .term ih
  | @nt p α u' v' hp hm hb _ _ ih2 =>
    rw [List.append_assoc]
    exact .nt hp hm hb ih2

theorem mem_of_derives {G : NGrammar} {e : Nat} {α : List Sym} {w : List Nat}
    (h : NDerives G α w) (hm : Sym.t e ∈ α) : e ∈ w := by
  induction h with
  | nil => cases hm
  | @term a α w _ ih =>
    rcases List.mem_cons.mp hm with hh | hh
    · cases hh; exact List.mem_cons_self
    · exact List.mem_cons_of_mem _ (ih hh)
  | nt _ _ _ _ ih2 =>
    rcases List.mem_cons.mp hm with hh | hh
    · cases hh
    · exact List.mem_append_right _ (ih2 hh)

theorem avoid_of_derives {G : NGrammar} {e : Nat} {α : List Sym} {w : List Nat}
    (h : NDerives G α w) (he : e ∉ w) : NDerivesAvoid G e α w := by
  induction h with
  | nil => exact .nil
  | term _ ih => exact .term (ih (fun hh => he (List.mem_cons_of_mem _ hh)))
  | nt hp h1 _ ih1 ih2 =>
    have he1 := fun hh => he (List.mem_append_left _ hh)
    have he2 := fun hh => he (List.mem_append_right _ hh)
    exact .nt hp (fun hm => he1 (mem_of_derives h1 hm)) (ih1 he1) (ih2 he2)

theorem derivesAvoid_iff {G : NGrammar} {e : Nat} {α : List Sym} {w : List Nat} (he : e ∉ w) :
    NDerivesAvoid G e α w ↔ NDerives G α w :=
  ⟨NDerivesAvoid.derives, fun h => avoid_of_derives h he⟩

/-- the grammar without the alternatives that mention the terminal `e` (the remaining productions
    are renumbered; production 0 stays production 0 when its body does not mention `e`) -/
def _root_.Gocc.NGrammar.without (G : NGrammar) (e : Nat) : NGrammar :=
  { prods := (G.prods.toList.filter fun pb => !(pb.2.contains (Sym.t e))).toArray }

theorem prod_mem_iff (G : NGrammar) (A : Nat) (β : List Sym) :
    (A, β) ∈ G.prods.toList ↔ ∃ p, p < G.prods.size ∧ G.head p = A ∧ G.body p = β := by
  constructor
  · intro h
    obtain ⟨p, hp, hg⟩ := Array.getElem_of_mem (Array.mem_toList_iff.1 h)
    have hg' : G.prods[p]? = some (A, β) := hg ▸ Array.getElem?_eq_getElem hp
    exact ⟨p, hp, by simp only [NGrammar.head, hg', Option.map_some, Option.getD_some],
      by simp only [NGrammar.body, hg', Option.map_some, Option.getD_some]⟩
  · rintro ⟨p, hp, rfl, rfl⟩
    simp only [NGrammar.head, NGrammar.body, Array.getElem?_eq_getElem hp, Option.map_some,
      Option.getD_some]
    exact Array.mem_toList_iff.mpr (Array.getElem_mem hp)

theorem without_mem_iff (G : NGrammar) (e A : Nat) (β : List Sym) :
    (A, β) ∈ (G.without e).prods.toList ↔ (A, β) ∈ G.prods.toList ∧ Sym.t e ∉ β := by
  simp [NGrammar.without]

theorem without_of_avoid {G : NGrammar} {e : Nat} {α : List Sym} {w : List Nat}
    (h : NDerivesAvoid G e α w) : NDerives (G.without e) α w := by
  induction h with
  | nil => exact .nil
  | term _ ih => exact .term ih
  | @nt p α u v hp hm _ _ ih1 ih2 =>
    have : (G.head p, G.body p) ∈ (G.without e).prods.toList :=
      (without_mem_iff G e _ _).mpr ⟨(prod_mem_iff G _ _).mpr ⟨p, hp, rfl, rfl⟩, hm⟩
    obtain ⟨q, hq, hh, hb⟩ := (prod_mem_iff _ _ _).mp this
    rw [← hh]
    rw [← hb] at ih1
    exact .nt hq ih1 ih2

theorem avoid_of_without {G : NGrammar} {e : Nat} {α : List Sym} {w : List Nat}
    (h : NDerives (G.without e) α w) : NDerivesAvoid G e α w := by
  induction h with
  | nil => exact .nil
  | term _ ih => exact .term ih
  | @nt q α u v hq _ _ ih1 ih2 =>
    have : ((G.without e).head q, (G.without e).body q) ∈ (G.without e).prods.toList :=
      (prod_mem_iff _ _ _).mpr ⟨q, hq, rfl, rfl⟩
    obtain ⟨hm, hne⟩ := (without_mem_iff G e _ _).mp this
    obtain ⟨p, hp, hh, hb⟩ := (prod_mem_iff _ _ _).mp hm
    rw [← hh]
    rw [← hb] at ih1 hne
    exact .nt hp hne ih1 ih2

theorem derives_without_iff {G : NGrammar} {e : Nat} {α : List Sym} {w : List Nat} :
    NDerives (G.without e) α w ↔ NDerivesAvoid G e α w :=
  ⟨avoid_of_without, without_of_avoid⟩

theorem without_body0 {G : NGrammar} {e : Nat} (h0 : Sym.t e ∉ G.body 0) :
    (G.without e).body 0 = G.body 0 := by
  unfold NGrammar.body NGrammar.without at *
  rw [← Array.getElem?_toList (xs := G.prods)] at h0 ⊢
  rw [List.getElem?_toArray]
  revert h0
  rcases G.prods.toList with _ | ⟨pb, rest⟩
  · exact fun _ => rfl
  · intro h0
    have : (!(pb.2.contains (Sym.t e))) = true := by simpa using h0
    rw [List.filter_cons, if_pos this]
    rfl

theorem sentence_without_iff {G : NGrammar} {e : Nat} (h0 : Sym.t e ∉ G.body 0) {w : List Nat} :
    NSentence (G.without e) w ↔ NSentenceAvoid G e w := by
  unfold NSentence NSentenceAvoid
  rw [without_body0 h0]
  exact derives_without_iff

mutual
/-- no node of the tree is an instance of a production whose body mentions the terminal `e` -/
def _root_.Gocc.PT.avoids (G : NGrammar) (e : Nat) : PT → Prop
  | .leaf _ _ => True
  | .node p kids => Sym.t e ∉ G.body p ∧ PT.avoidsL G e kids
def _root_.Gocc.PT.avoidsL (G : NGrammar) (e : Nat) : List PT → Prop
  | [] => True
  | k :: ks => k.avoids G e ∧ PT.avoidsL G e ks
end

mutual
theorem avoids_of_yield (G : NGrammar) (e : Nat) : (t : PT) → t.wf G →
    e ∉ t.yield.map (·.2) → t.avoids G e
  | .leaf _ _, _, _ => trivial
  | .node p kids, hwf, he => by
    unfold PT.wf at hwf
    unfold PT.yield at he
    unfold PT.avoids
    exact ⟨fun hm => he (mem_of_derives (PT.derivesL G kids hwf.2.2) (hwf.2.1 ▸ hm)),
      avoidsL_of_yield G e kids hwf.2.2 he⟩
theorem avoidsL_of_yield (G : NGrammar) (e : Nat) : (ts : List PT) → PT.wfL G ts →
    e ∉ (PT.yieldL ts).map (·.2) → PT.avoidsL G e ts
  | [], _, _ => trivial
  | k :: ks, hwf, he => by
    unfold PT.wfL at hwf
    unfold PT.yieldL at he
    unfold PT.avoidsL
    simp only [List.map_append, List.mem_append, not_or] at he
    exact ⟨avoids_of_yield G e k hwf.1 he.1, avoidsL_of_yield G e ks hwf.2 he.2⟩
end

mutual
theorem derivesAvoid_of_tree (G : NGrammar) (e : Nat) : (t : PT) → t.wf G → t.avoids G e →
    NDerivesAvoid G e [t.sym G] (t.yield.map (·.2))
  | .leaf _ a, _, _ => .term .nil
  | .node p kids, hwf, ha => by
    unfold PT.wf at hwf
    unfold PT.avoids at ha
    have h := derivesAvoidL_of_tree G e kids hwf.2.2 ha.2
    rw [hwf.2.1] at h
    have := NDerivesAvoid.nt (α := []) hwf.1 ha.1 h .nil
    simpa [PT.sym, PT.yield] using this
theorem derivesAvoidL_of_tree (G : NGrammar) (e : Nat) : (ts : List PT) → PT.wfL G ts →
    PT.avoidsL G e ts → NDerivesAvoid G e (ts.map (PT.sym G)) ((PT.yieldL ts).map (·.2))
  | [], _, _ => .nil
  | k :: ks, hwf, ha => by
    unfold PT.wfL at hwf
    unfold PT.avoidsL at ha
    have h1 := derivesAvoid_of_tree G e k hwf.1 ha.1
    have h2 := derivesAvoidL_of_tree G e ks hwf.2 ha.2
    simp only [List.map_cons, PT.yieldL, List.map_append]
    exact NDerivesAvoid.append h1 h2
end

end Gocc.GenInert
