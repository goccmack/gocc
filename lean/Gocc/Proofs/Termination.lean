import Gocc.Proofs.Numbering
import Gocc.Proofs.FirstSets
import Gocc.Proofs.LRLoop
import Gocc.Proofs.GenTables
/-
`ItemSet.Closure` (`closureStep` / `closureLoop` / `closure`) and `Goto`.  The Go loop of `Closure`
has no iteration bound, the model gives it fuel; the duplicate-free work list stays inside a finite
universe of items (`CInv`), so the fuel is never exhausted (`closureLoop_spec`): no closure of a
`genParser` run is truncated, every LR(1) state is closed under `closureStep`
(`genParser_states_closed`).  What holds of every closure whatever the fuel goes through the
induction principle `closure_induct`.
(`GetFirstSets`, the other unbounded loop of the parser generator: Proofs/FirstSets.lean.)
-/
namespace Gocc

theorem mem_closureStep_iff {C : LRCtx} {i j : Item} :
    j ∈ closureStep C i ↔
      (j.p < C.prods.size ∧ j.d = 0 ∧ j.la ∈ first1 C i ∧ i.d < C.len i ∧
        C.prods[j.p]!.head = C.expected i) ∧ C.expected i ∈ C.S.ntList := by
  have hcond : (decide (i.d ≥ C.len i) || C.S.isTerminal (C.expected i)) = false ↔
      i.d < C.len i ∧ C.expected i ∈ C.S.ntList := by
    simp only [PSymbols.isTerminal, Bool.or_eq_false_iff, decide_eq_false_iff_not,
      Bool.not_eq_false', List.contains_iff_mem, ge_iff_le, Nat.not_le]
  unfold closureStep
  by_cases hc : i.d < C.len i ∧ C.expected i ∈ C.S.ntList
  · rw [hcond.2 hc]
    simp only [Bool.false_eq_true, if_false, List.mem_flatMap, List.mem_range,
      List.mem_ite_nil_right, beq_iff_eq, List.mem_map]
    constructor
    · rintro ⟨pi, hpi, hh, t, ht, rfl⟩
      exact ⟨⟨hpi, rfl, ht, hc.1, hh⟩, hc.2⟩
    · rintro ⟨⟨h1, h2, h3, -, h5⟩, -⟩
      exact ⟨j.p, h1, h5, j.la, h3, by rw [← h2]⟩
  · rw [if_pos (by rw [← Bool.not_eq_false, hcond]; exact hc)]
    exact ⟨fun h => (nomatch h), fun h => absurd ⟨h.1.2.2.2.1, h.2⟩ hc⟩
theorem mem_closureStep {C : LRCtx} {i j : Item} (h : j ∈ closureStep C i) :
    j.p < C.prods.size ∧ j.d = 0 ∧ j.la ∈ first1 C i ∧ i.d < C.len i ∧
      C.prods[j.p]!.head = C.expected i :=
  (mem_closureStep_iff.1 h).1

theorem prodLen_nil {p : SProd} (h : p.body = []) : prodLen p = 0 := by
  unfold prodLen; rw [h]

theorem prodLen_cons {p : SProd} {s0 : SSym} {rest : List SSym} (h : p.body = s0 :: rest) :
    prodLen p = if s0.name = "empty" then 0 else p.body.length := by
  unfold prodLen; rw [h]; simp

theorem prodLen_cases (q : SProd) : prodLen q = 0 ∨ prodLen q = q.body.length := by
  unfold prodLen
  split
  · split
    · exact .inl rfl
    · exact .inr rfl
  · exact .inl rfl

/-- the body of `p` as the generator reads it (`prodLen`): an alternative that starts with `empty`
    is the empty alternative -/
def genBody (p : SProd) : List String := if prodLen p = 0 then [] else p.body.map (·.name)

theorem genBody_length (p : SProd) : (genBody p).length = prodLen p := by
  unfold genBody
  split
  · rename_i h; exact h.symm
  · rename_i h; exact (List.length_map ..).trans ((prodLen_cases p).resolve_left h).symm

theorem mem_genBody {p : SProd} {y : String} (h : y ∈ genBody p) :
    prodLen p ≠ 0 ∧ ∃ s ∈ p.body, y = s.name := by
  unfold genBody at h
  split at h
  · cases h
  · rename_i hne
    obtain ⟨s, hs, rfl⟩ := List.mem_map.1 h
    exact ⟨hne, s, hs, rfl⟩

theorem LRCtx.body_eq (C : LRCtx) (i : Item) : C.body i = genBody C.prods[i.p]! := by
  unfold LRCtx.body genBody
  simp only [beq_iff_eq]

theorem body_mem {C : LRCtx} {i : Item} {y : String} (h : y ∈ C.body i) :
    ∃ hp : i.p < C.prods.size, prodLen C.prods[i.p] ≠ 0 ∧ ∃ s ∈ (C.prods[i.p]).body, y = s.name := by
  rw [LRCtx.body_eq] at h
  by_cases hp : i.p < C.prods.size
  · rw [getElem!_pos C.prods i.p hp] at h
    exact ⟨hp, mem_genBody h⟩
  · rw [getElem!_neg C.prods i.p hp] at h
    cases h

theorem mem_first1 {C : LRCtx} {i : Item} {t : String} (h : t ∈ first1 C i) :
    t = i.la ∨ (∃ p ∈ C.prods.toList, ∃ s ∈ p.body, t = s.name) ∨ ∃ e ∈ C.fs, t ∈ e.2 := by
  rcases mem_firstS' (mem_first1_iff.1 h) with h' | h'
  · rcases List.mem_append.1 h' with h'' | h''
    · obtain ⟨hp, -, s, hs, rfl⟩ := body_mem (List.mem_of_mem_drop h'')
      exact .inr (.inl ⟨C.prods[i.p], Array.getElem_mem_toList hp, s, hs, rfl⟩)
    · exact .inl (List.mem_singleton.1 h'')
  · exact .inr (.inr h')

structure WFc (C : LRCtx) (items : List Item) : Prop where
  body : ∀ p ∈ C.prods.toList, ∀ s ∈ p.body, s.name ∈ firstU C.S
  fs : ∀ e ∈ C.fs, ∀ t ∈ e.2, t ∈ firstU C.S
  la : ∀ i ∈ items, i.la ∈ firstU C.S

instance (C : LRCtx) (items : List Item) : Decidable (WFc C items) :=
  decidable_of_iff
    ((∀ p ∈ C.prods.toList, ∀ s ∈ p.body, s.name ∈ firstU C.S) ∧
     (∀ e ∈ C.fs, ∀ t ∈ e.2, t ∈ firstU C.S) ∧ (∀ i ∈ items, i.la ∈ firstU C.S))
    ⟨fun ⟨a, b, c⟩ => ⟨a, b, c⟩, fun h => ⟨h.body, h.fs, h.la⟩⟩

/-- universe of the items that `Closure` can add -/
def itemU (C : LRCtx) : List Item :=
  (List.range C.prods.size).flatMap fun pi => (firstU C.S).map fun t => ⟨pi, 0, t⟩

theorem length_flatMap_const {α β : Type} (l : List α) (f : α → List β) (m : Nat)
    (h : ∀ x, (f x).length = m) : (l.flatMap f).length = l.length * m := by
  induction l with
  | nil => simp
  | cons x xs ih =>
    rw [List.flatMap_cons, List.length_append, ih, h, List.length_cons, Nat.succ_mul]
    omega

theorem itemU_length (C : LRCtx) : (itemU C).length = C.prods.size * (C.S.typeMap.length + 1) := by
  unfold itemU
  rw [length_flatMap_const _ _ (C.S.typeMap.length + 1)]
  · simp
  · intro x; simp [firstU]

theorem mem_itemU {C : LRCtx} {j : Item} :
    j ∈ itemU C ↔ j.p < C.prods.size ∧ j.d = 0 ∧ j.la ∈ firstU C.S := by
  unfold itemU
  simp only [List.mem_flatMap, List.mem_range, List.mem_map]
  constructor
  · rintro ⟨pi, hpi, t, ht, rfl⟩
    exact ⟨hpi, rfl, ht⟩
  · rintro ⟨h1, h2, h3⟩
    refine ⟨j.p, h1, j.la, h3, ?_⟩
    cases j; simp_all

/-- the bound on the length of the work list that we prove -/
def closureBound (C : LRCtx) (items : List Item) : Nat :=
  items.length + C.prods.size * (C.S.typeMap.length + 1)

theorem length_le_sum_map (l : List SProd) : l.length ≤ (l.map fun p => p.body.length + 1).sum := by
  induction l with
  | nil => simp
  | cons x xs ih => simp only [List.length_cons, List.map_cons, List.sum_cons]; omega

/-- the model's fuel dominates the proved bound -/
theorem closureBound_le_maxItems (C : LRCtx) (items : List Item) :
    closureBound C items ≤ C.maxItems + items.length := by
  unfold closureBound LRCtx.maxItems
  have h1 := length_le_sum_map C.prods.toList
  rw [Array.length_toList] at h1
  have h2 := Nat.mul_le_mul_right (C.S.typeMap.length + 1) h1
  omega

/-- loop invariant of `closureLoop`: `k` items processed, work list `c` -/
structure CInv (C : LRCtx) (items : List Item) (k : Nat) (c : List Item) : Prop where
  nodup : c.Nodup
  univ : ∀ i ∈ c, i ∈ items ∨ i ∈ itemU C
  kle : k ≤ c.length
  done : ∀ idx i, idx < k → c[idx]? = some i → ∀ j ∈ closureStep C i, j ∈ c

theorem CInv.la {C : LRCtx} {items : List Item} {k : Nat} {c : List Item} (hW : WFc C items)
    (h : CInv C items k c) : ∀ i ∈ c, i.la ∈ firstU C.S := by
  intro i hi
  rcases h.univ i hi with h' | h'
  · exact hW.la i h'
  · exact (mem_itemU.1 h').2.2

theorem CInv.length_le {C : LRCtx} {items : List Item} {k : Nat} {c : List Item}
    (h : CInv C items k c) : c.length ≤ closureBound C items := by
  have := List.Nodup.length_le_of_subset h.nodup (l₂ := items ++ itemU C) (by
    intro i hi
    exact List.mem_append.2 (h.univ i hi))
  rw [List.length_append, itemU_length] at this
  exact this

theorem CInv.step {C : LRCtx} {items : List Item} {k : Nat} {c : List Item} {i : Item}
    (hW : WFc C items) (h : CInv C items k c) (hk : c[k]? = some i) :
    CInv C items (k + 1) ((closureStep C i).foldl addItem c) := by
  obtain ⟨s1, s2, s3⟩ := foldl_addItem_spec (closureStep C i) c
  have hkl : k < c.length := (List.getElem?_eq_some_iff.1 hk).1
  have hic : i ∈ c := List.mem_of_getElem? hk
  refine ⟨s1 h.nodup, ?_, ?_, ?_⟩
  · intro j hj
    rcases (s3 j).1 hj with hj | hj
    · exact h.univ j hj
    · right
      obtain ⟨j1, j2, j3, -⟩ := mem_closureStep hj
      refine mem_itemU.2 ⟨j1, j2, ?_⟩
      rcases mem_first1 j3 with h' | ⟨p, hp, s, hs, h'⟩ | ⟨e, he, h'⟩
      · rw [h']; exact h.la hW i hic
      · rw [h']; exact hW.body p hp s hs
      · exact hW.fs e he _ h'
  · have := s2.length_le
    omega
  · intro idx i' hidx hi' j hj
    obtain ⟨t, ht⟩ := s2
    have hlt : idx < c.length := by omega
    have hget : c[idx]? = some i' := by
      rw [← ht, List.getElem?_append_left hlt] at hi'
      exact hi'
    by_cases hik : idx < k
    · exact (s3 j).2 (Or.inl (h.done idx i' hik hget j hj))
    · have : idx = k := by omega
      subst this
      rw [hk] at hget
      cases hget
      exact (s3 j).2 (Or.inr hj)

/-- with `fuel + k` at least the bound, the loop ends because the work list is exhausted (all items
    processed), never because the fuel ran out; every other such fuel gives the same list -/
theorem closureLoop_spec {C : LRCtx} {items : List Item} (hW : WFc C items) :
    ∀ (fuel k : Nat) (c : List Item), CInv C items k c → closureBound C items ≤ fuel + k →
      CInv C items (closureLoop C fuel k c).length (closureLoop C fuel k c) ∧
      ∀ f2, closureBound C items ≤ f2 + k → closureLoop C f2 k c = closureLoop C fuel k c := by
  have hend : ∀ (k : Nat) (c : List Item), CInv C items k c → c[k]? = none →
      CInv C items c.length c ∧ ∀ f, closureLoop C f k c = c := by
    intro k c h hk
    have h1 : c.length ≤ k := List.getElem?_eq_none_iff.1 hk
    have : k = c.length := Nat.le_antisymm h.kle h1
    refine ⟨this ▸ h, fun f => ?_⟩
    cases f with
    | zero => rfl
    | succ f => rw [closureLoop, hk]
  intro fuel
  induction fuel with
  | zero =>
    intro k c h hb
    have := h.length_le
    obtain ⟨e1, e2⟩ := hend k c h (List.getElem?_eq_none_iff.2 (by omega))
    exact ⟨e1, fun f2 _ => e2 f2⟩
  | succ fuel ih =>
    intro k c h hb
    cases hk : c[k]? with
    | none =>
      obtain ⟨e1, e2⟩ := hend k c h hk
      rw [e2]
      exact ⟨e1, fun f2 _ => e2 f2⟩
    | some i =>
      obtain ⟨r1, r2⟩ := ih (k + 1) _ (h.step hW hk) (by omega)
      rw [closureLoop, hk]
      refine ⟨r1, fun f2 hf2 => ?_⟩
      cases f2 with
      | zero =>
        have := h.length_le
        have := (List.getElem?_eq_some_iff.1 hk).1
        omega
      | succ f2 =>
        rw [closureLoop, hk]
        exact r2 f2 (by omega)

theorem closure_init (C : LRCtx) (items : List Item) :
    CInv C items 0 (items.foldl addItem []) := by
  obtain ⟨s1, _, s3⟩ := foldl_addItem_spec items []
  refine ⟨s1 (by simp), ?_, Nat.zero_le _, ?_⟩
  · intro i hi
    rcases (s3 i).1 hi with h | h
    · cases h
    · exact Or.inl h
  · intro idx i hidx; omega

theorem closure_inv {C : LRCtx} {items : List Item} (hW : WFc C items) :
    CInv C items (closure C items).length (closure C items) := by
  unfold closure
  refine (closureLoop_spec hW _ _ _ (closure_init C items) ?_).1
  have := closureBound_le_maxItems C items
  omega

theorem closureLoop_induct {C : LRCtx} {P : List Item → Prop}
    (hstep : ∀ c, ∀ i ∈ c, P c → P ((closureStep C i).foldl addItem c)) :
    ∀ (fuel k : Nat) (c : List Item), P c → P (closureLoop C fuel k c) := by
  intro fuel
  induction fuel with
  | zero => intro k c h; exact h
  | succ fuel ih =>
    intro k c h
    rw [closureLoop]
    split
    · exact h
    · rename_i i hk
      exact ih _ _ (hstep c i (List.mem_of_getElem? hk) h)

theorem closure_induct {C : LRCtx} {K : List Item} {P : List Item → Prop}
    (h0 : P (K.foldl addItem []))
    (hstep : ∀ c, ∀ i ∈ c, P c → P ((closureStep C i).foldl addItem c)) : P (closure C K) :=
  closureLoop_induct hstep _ _ _ h0

theorem closure_nodup (C : LRCtx) (K : List Item) : (closure C K).Nodup :=
  closure_induct ((foldl_addItem_spec K []).1 List.nodup_nil)
    fun c i _ h => (foldl_addItem_spec (closureStep C i) c).1 h

theorem closure_subset (C : LRCtx) (K : List Item) : ∀ i ∈ K, i ∈ closure C K :=
  closure_induct (P := fun c => ∀ i ∈ K, i ∈ c)
    (fun i hi => ((foldl_addItem_spec K []).2.2 i).2 (.inr hi))
    fun c i _ h j hj => ((foldl_addItem_spec (closureStep C i) c).2.2 j).2 (.inl (h j hj))

theorem closure_all {C : LRCtx} {Q : Item → Prop}
    (hstep : ∀ i, Q i → ∀ j ∈ closureStep C i, Q j) {K : List Item} (hK : ∀ i ∈ K, Q i) :
    ∀ i ∈ closure C K, Q i :=
  closure_induct (P := fun c => ∀ i ∈ c, Q i)
    (fun i hi => (((foldl_addItem_spec K []).2.2 i).1 hi).elim (nomatch ·) (hK i))
    fun c i hi h j hj => (((foldl_addItem_spec (closureStep C i) c).2.2 j).1 hj).elim (h j)
      (hstep i (h i hi) j)

theorem mem_closure {C : LRCtx} {K : List Item} {x : Item} (h : x ∈ closure C K) :
    x ∈ K ∨ ∃ i0, x ∈ closureStep C i0 :=
  closure_all (Q := fun x => x ∈ K ∨ ∃ i0, x ∈ closureStep C i0)
    (fun i _ _ hj => .inr ⟨i, hj⟩) (fun _ => .inl) x h

theorem goto_cases (C : LRCtx) (I : List Item) (X : String) :
    (goto C I X = [] ∧ ∀ i ∈ I, i.d < C.len i → C.expected i ≠ X) ∨
    ∃ J, goto C I X = closure C J ∧ ∀ j, j ∈ J ↔
      ∃ i ∈ I, i.d < C.len i ∧ C.expected i = X ∧ j = { i with d := i.d + 1 } := by
  have hJ : ∀ j, j ∈ (I.filter fun i => i.d < C.len i && C.expected i == X).map
      (fun i => { i with d := i.d + 1 }) ↔
      ∃ i ∈ I, i.d < C.len i ∧ C.expected i = X ∧ j = { i with d := i.d + 1 } := fun j => by
    simp only [List.mem_map, List.mem_filter, Bool.and_eq_true, decide_eq_true_eq, beq_iff_eq,
      and_assoc, eq_comm (a := j)]
  unfold goto
  dsimp only
  split
  · rename_i he
    refine .inl ⟨rfl, fun i hi hd hX => ?_⟩
    have := (hJ _).2 ⟨i, hi, hd, hX, rfl⟩
    rw [List.isEmpty_iff.1 he] at this
    cases this
  · exact .inr ⟨_, rfl, hJ⟩

theorem goto_nodup (C : LRCtx) (I : List Item) (X : String) : (goto C I X).Nodup := by
  rcases goto_cases C I X with ⟨h, -⟩ | ⟨J, h, -⟩ <;> rw [h]
  · exact List.nodup_nil
  · exact closure_nodup C J

theorem goto_all {C : LRCtx} {Q : Item → Prop}
    (hstep : ∀ i, Q i → ∀ j ∈ closureStep C i, Q j)
    (hadv : ∀ i : Item, Q i → Q { i with d := i.d + 1 }) {I : List Item} (hI : ∀ i ∈ I, Q i)
    (X : String) : ∀ j ∈ goto C I X, Q j := by
  rcases goto_cases C I X with ⟨h, -⟩ | ⟨J, h, hJ⟩ <;> rw [h]
  · exact fun _ h => nomatch h
  · refine closure_all hstep fun j hj => ?_
    obtain ⟨i, hi, -, -, rfl⟩ := (hJ j).1 hj
    exact hadv i (hI i hi)

theorem LRCtx.body_length (C : LRCtx) (i : Item) : (C.body i).length = C.len i := by
  rw [LRCtx.body_eq, genBody_length]
  rfl

theorem LRCtx.expected_eq {C : LRCtx} {i : Item} (h : i.d < C.len i) :
    (C.body i)[i.d]? = some (C.expected i) := by
  have hd : i.d < (C.body i).length := C.body_length i ▸ h
  rw [LRCtx.expected, if_pos h, getElem!_pos (C.body i) i.d hd, List.getElem?_eq_getElem hd]

theorem expected_spec {C : LRCtx} {i : Item} (h : i.d < C.len i) :
    ∃ (hp : i.p < C.prods.size) (s : SSym), (C.prods[i.p]).body[i.d]? = some s ∧
      C.expected i = s.name := by
  have he := LRCtx.expected_eq h
  obtain ⟨hp, hne, -⟩ := body_mem (List.mem_of_getElem? he)
  unfold LRCtx.body at he
  rw [getElem!_pos C.prods i.p hp, if_neg (by simpa using hne), List.getElem?_map] at he
  obtain ⟨s, hs, hsn⟩ := Option.map_eq_some_iff.1 he
  exact ⟨hp, s, hs, hsn.symm⟩

theorem mem_goto {C : LRCtx} {I : List Item} {X : String} {x : Item} (h : x ∈ goto C I X) :
    (∃ i ∈ I, i.d < C.len i ∧ C.expected i = X ∧ x = { i with d := i.d + 1 }) ∨
    (x.d = 0 ∧ x.p < C.prods.size ∧
      ∃ i0 : Item, i0.d < C.len i0 ∧ C.prods[x.p]!.head = C.expected i0) := by
  rcases goto_cases C I X with ⟨e, -⟩ | ⟨J, e, hJ⟩ <;> rw [e] at h
  · cases h
  · rcases mem_closure h with h' | ⟨i0, h'⟩
    · exact .inl ((hJ x).1 h')
    · obtain ⟨h1, h2, -, h3, h4⟩ := mem_closureStep h'
      exact .inr ⟨h2, h1, i0, h3, h4⟩

theorem goto_mem_of {C : LRCtx} {I : List Item} {X : String} {i : Item} (hi : i ∈ I)
    (hd : i.d < C.len i) (hX : C.expected i = X) : ({ i with d := i.d + 1 } : Item) ∈ goto C I X := by
  rcases goto_cases C I X with ⟨-, hno⟩ | ⟨J, e, hJ⟩
  · exact absurd hX (hno i hi hd)
  · rw [e]
    exact closure_subset C J _ ((hJ _).2 ⟨i, hi, hd, hX, rfl⟩)

def ItemOk (C : LRCtx) (x : Item) : Prop := x.p < C.prods.size ∧ x.d ≤ C.len x

theorem goto_itemOk {C : LRCtx} {I : List Item} {X : String} {x : Item} (h : x ∈ goto C I X) :
    ItemOk C x := by
  rcases mem_goto h with ⟨i, _, hd, _, rfl⟩ | ⟨h1, h2, _⟩
  · obtain ⟨hp, _⟩ := expected_spec hd
    exact ⟨hp, hd⟩
  · exact ⟨h2, by omega⟩

theorem closure0_mem {C : LRCtx} {la : String} {x : Item} (h0 : 0 < C.prods.size)
    (h : x ∈ closure C [⟨0, 0, la⟩]) : x.d = 0 ∧ x.p < C.prods.size := by
  rcases mem_closure h with h' | ⟨i0, h'⟩
  · have : x = ⟨0, 0, la⟩ := by simpa using h'
    subst this
    exact ⟨rfl, h0⟩
  · obtain ⟨h1, h2, -⟩ := mem_closureStep h'
    exact ⟨h2, h1⟩

theorem WFc_of_WFp {S : PSymbols} {prods : List SProd} (hW : WFp S prods) (items : List Item)
    (hla : ∀ i ∈ items, i.la ∈ firstU S) :
    WFc { prods := prods.toArray, S := S, fs := firstSets S prods } items := by
  refine ⟨?_, ?_, hla⟩
  · intro p hp s hs
    have hp' : p ∈ prods := by simpa using hp
    exact List.mem_cons_of_mem _ ((hW p hp').2 s hs)
  · intro e he t ht
    exact ((firstSets_inv hW).vals e he).2 t ht

theorem WFc.of_la {C : LRCtx} {K J : List Item} (h : WFc C K)
    (hla : ∀ i ∈ J, i.la ∈ firstU C.S) : WFc C J := ⟨h.body, h.fs, hla⟩

/-- the kernel computed by `goto` inherits its look-aheads from `I` -/
theorem goto_kernel_la {C : LRCtx} {I : List Item} (X : String)
    (hI : ∀ i ∈ I, i.la ∈ firstU C.S) :
    ∀ j ∈ (I.filter fun i => i.d < C.len i && C.expected i == X).map
      (fun i => { i with d := i.d + 1 }), j.la ∈ firstU C.S := by
  intro j hj
  rcases List.mem_map.1 hj with ⟨i, hi, rfl⟩
  exact hI i (List.mem_filter.1 hi).1

def ClosedLA (C : LRCtx) (I : List Item) : Prop :=
  (∀ i ∈ I, ∀ j ∈ closureStep C i, j ∈ I) ∧ (∀ i ∈ I, i.la ∈ firstU C.S)

theorem closure_closedLA {C : LRCtx} {items : List Item} (hW : WFc C items) :
    ClosedLA C (closure C items) := by
  have h := closure_inv hW
  refine ⟨fun i hi j hj => ?_, h.la hW⟩
  obtain ⟨idx, hidx, hget⟩ := List.mem_iff_getElem.1 hi
  exact h.done idx i hidx (by rw [List.getElem?_eq_getElem hidx, hget]) j hj

theorem goto_closedLA {C : LRCtx} {K I : List Item} (hW : WFc C K)
    (hI : ∀ i ∈ I, i.la ∈ firstU C.S) (X : String) : ClosedLA C (goto C I X) := by
  rcases goto_cases C I X with ⟨h, -⟩ | ⟨J, h, hJ⟩ <;> rw [h]
  · exact ⟨fun _ h => (nomatch h), fun _ h => (nomatch h)⟩
  · refine closure_closedLA (hW.of_la fun j hj => ?_)
    obtain ⟨i, hi, -, -, rfl⟩ := (hJ j).1 hj
    exact hI i hi

theorem genParser_init_WFc {syn : List SProd} {S0 : PSymbols} (ids : List String)
    (h : newSymbols (augment syn) = .ok S0) :
    WFc { prods := (augment syn).toArray, S := S0.addTokens ids,
          fs := firstSets (S0.addTokens ids) (augment syn) } [⟨0, 0, "␚"⟩] := by
  refine WFc_of_WFp (WFp_addTokens (newSymbols_WFp h) ids) _ fun i hi => ?_
  rw [List.mem_singleton.1 hi]
  exact List.mem_cons_of_mem _ (foldl_addNoDup_mem_iff.2
    (Or.inl ((mem_newSymbols_typeMap h).2 (.inr (.inl rfl)))))

theorem genParser_states_closed {syn : List SProd} {ids : List String} {r : LRResult}
    (h : genParser syn ids = .ok r) : AllS (ClosedLA r.ctx) r.states := by
  obtain ⟨S0, hS0, hctx, hst⟩ := genParser_shape h
  have hW : WFc r.ctx [⟨0, 0, "␚"⟩] := by
    rw [hctx]; exact genParser_init_WFc ids hS0
  rw [hst]
  exact lrLoop_allS (fun I X hI _ => goto_closedLA hW hI.2 X) _ _ _
    (AllS.singleton (closure_closedLA hW))

end Gocc
