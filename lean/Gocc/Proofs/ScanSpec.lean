import Gocc.Spec.ScanSpec
import Gocc.Proofs.Scan
/-
Proofs for C01 (second half) and C08: `ScanSpec` determines its result; one invariant of the loop of
`Scan` shows that every call meets `ScanSpec`, reports position-rule triples and tiles the input.
-/
namespace Gocc

theorem stepAt_ge (T : LexTables) {src : List Nat} (s : Nat) {p : Nat} (h : src.length ≤ p) :
    stepAt T src s p = none := by
  have hge : p ≥ src.length := h
  unfold stepAt; rw [if_pos hge]

theorem stepAt_lt (T : LexTables) {src : List Nat} (s : Nat) {p : Nat} (h : p < src.length) :
    stepAt T src s p =
      if T.trans s (decodeRune (src.drop p)).1 = -1 then none
      else some ((T.trans s (decodeRune (src.drop p)).1).toNat, p + (decodeRune (src.drop p)).2) := by
  have hge : ¬ p ≥ src.length := by omega
  unfold stepAt; rw [if_neg hge]

theorem stepAt_some {T : LexTables} {src : List Nat} {s p s2 p2 : Nat}
    (h : stepAt T src s p = some (s2, p2)) : p < src.length ∧ p < p2 ∧ p2 ≤ src.length := by
  by_cases hlt : p < src.length
  · have hw := decodeRune_drop hlt
    rw [stepAt_lt T s hlt] at h
    by_cases hn : T.trans s (decodeRune (src.drop p)).1 = -1
    · rw [if_pos hn] at h; cases h
    · rw [if_neg hn, Option.some.injEq, Prod.mk.injEq] at h
      omega
  · rw [stepAt_ge T s (by omega)] at h; cases h

/-! ### `Run` is a chain -/

theorem Run.le {T : LexTables} {src : List Nat} {s p s' p' : Nat} (h : Run T src s p s' p') :
    p ≤ p' := by
  induction h with
  | refl => exact Nat.le_refl _
  | step _ hs _ ih => have := (stepAt_some hs).2.1; omega

theorem Run.le_len {T : LexTables} {src : List Nat} {s p s' p' : Nat} (h : Run T src s p s' p')
    (hp : p ≤ src.length) : p' ≤ src.length := by
  induction h with
  | refl => exact hp
  | step _ hs _ _ => exact (stepAt_some hs).2.2

theorem Run.trans {T : LexTables} {src : List Nat} {s p s1 p1 s2 p2 : Nat}
    (h1 : Run T src s p s1 p1) (h2 : Run T src s1 p1 s2 p2) : Run T src s p s2 p2 := by
  induction h2 with
  | refl => exact h1
  | step _ hs hi ih => exact Run.step ih hs hi

theorem Run.head {T : LexTables} {src : List Nat} {s p s' p' : Nat} (h : Run T src s p s' p') :
    (s = s' ∧ p = p') ∨
    ∃ sa pa, stepAt T src s p = some (sa, pa) ∧ ¬ IsIgn T sa ∧ Run T src sa pa s' p' := by
  induction h with
  | refl => exact Or.inl ⟨rfl, rfl⟩
  | step _ hs hi ih =>
    rcases ih with ⟨rfl, rfl⟩ | ⟨sa, pa, h1, h2, h3⟩
    · exact Or.inr ⟨_, _, hs, hi, Run.refl _ _⟩
    · exact Or.inr ⟨sa, pa, h1, h2, Run.step h3 hs hi⟩

theorem Run.comparable {T : LexTables} {src : List Nat} {s p s1 p1 s2 p2 : Nat}
    (h1 : Run T src s p s1 p1) (h2 : Run T src s p s2 p2) :
    Run T src s1 p1 s2 p2 ∨ Run T src s2 p2 s1 p1 := by
  induction h2 with
  | refl => exact Or.inr h1
  | step _ hs hi ih =>
    rcases ih with h | h
    · exact Or.inl (Run.step h hs hi)
    · rcases h.head with ⟨rfl, rfl⟩ | ⟨sa, pa, e1, _, e3⟩
      · exact Or.inl (Run.step (Run.refl _ _) hs hi)
      · cases hs.symm.trans e1
        exact Or.inr e3

/-- a run can go no further from `(s, p)`: no step at all, or only a step into an ignore state -/
def NoLive (T : LexTables) (src : List Nat) (s p : Nat) : Prop :=
  ∀ s2 p2, stepAt T src s p = some (s2, p2) → IsIgn T s2

theorem NoLive.of_none {T : LexTables} {src : List Nat} {s p : Nat} (h : stepAt T src s p = none) :
    NoLive T src s p := by
  intro s2 p2 e; rw [h] at e; cases e

theorem NoLive.of_ign {T : LexTables} {src : List Nat} {s p s2 p2 : Nat}
    (h : stepAt T src s p = some (s2, p2)) (hi : IsIgn T s2) : NoLive T src s p := by
  intro s3 p3 e
  cases h.symm.trans e
  exact hi

theorem Run.eq_of_noLive {T : LexTables} {src : List Nat} {s1 p1 s2 p2 : Nat}
    (h : Run T src s1 p1 s2 p2) (hn : NoLive T src s1 p1) : s1 = s2 ∧ p1 = p2 := by
  rcases h.head with e | ⟨sa, pa, e1, e2, _⟩
  · exact e
  · exact absurd (hn _ _ e1) e2

theorem Run.stop_unique {T : LexTables} {src : List Nat} {s p s1 p1 s2 p2 : Nat}
    (h1 : Run T src s p s1 p1) (n1 : NoLive T src s1 p1)
    (h2 : Run T src s p s2 p2) (n2 : NoLive T src s2 p2) : s1 = s2 ∧ p1 = p2 := by
  rcases h1.comparable h2 with h | h
  · exact h.eq_of_noLive n1
  · obtain ⟨a, b⟩ := h.eq_of_noLive n2; exact ⟨a.symm, b.symm⟩

theorem IgnLexeme.lt {T : LexTables} {src : List Nat} {a b : Nat} (h : IgnLexeme T src a b) :
    a < b ∧ a < src.length ∧ b ≤ src.length := by
  obtain ⟨s, p, s2, hr, hs, _⟩ := h
  have := hr.le
  have := stepAt_some hs
  omega

theorem IgnLexeme.unique {T : LexTables} {src : List Nat} {a b b' : Nat}
    (h : IgnLexeme T src a b) (h' : IgnLexeme T src a b') : b = b' := by
  obtain ⟨s, p, s2, hr, hs, hi⟩ := h
  obtain ⟨s', p', s2', hr', hs', hi'⟩ := h'
  obtain ⟨rfl, rfl⟩ := hr.stop_unique (NoLive.of_ign hs hi) hr' (NoLive.of_ign hs' hi')
  cases hs.symm.trans hs'
  rfl

theorem IgnLexeme.not_maximal {T : LexTables} {src : List Nat} {a b s q : Nat}
    (h : IgnLexeme T src a b) (hr : Run T src 0 a s q) (hn : stepAt T src s q = none) : False := by
  obtain ⟨s', p', s2, hr', hs', hi'⟩ := h
  obtain ⟨rfl, rfl⟩ := hr.stop_unique (NoLive.of_none hn) hr' (NoLive.of_ign hs' hi')
  rw [hn] at hs'; cases hs'

theorem Skipped.le {T : LexTables} {src : List Nat} {a b : Nat} (h : Skipped T src a b) : a ≤ b := by
  induction h with
  | nil => exact Nat.le_refl _
  | cons h1 _ ih => have := h1.lt; omega

theorem Skipped.snoc {T : LexTables} {src : List Nat} {a b c : Nat} (h : Skipped T src a b)
    (h2 : IgnLexeme T src b c) : Skipped T src a c := by
  induction h with
  | nil => exact Skipped.cons h2 (Skipped.nil _)
  | cons h1 _ ih => exact Skipped.cons h1 (ih h2)

/-- `Scan` stops skipping at `off`: end of input, or a maximal run starts there -/
def Term (T : LexTables) (src : List Nat) (off : Nat) : Prop :=
  off ≥ src.length ∨ ∃ s q, Run T src 0 off s q ∧ stepAt T src s q = none

theorem IgnLexeme.not_term {T : LexTables} {src : List Nat} {a b : Nat}
    (h : IgnLexeme T src a b) (ht : Term T src a) : False := by
  rcases ht with hge | ⟨s, q, hr, hn⟩
  · have := h.lt; omega
  · exact h.not_maximal hr hn

theorem Skipped.unique {T : LexTables} {src : List Nat} {p off off' : Nat}
    (h : Skipped T src p off) (ht : Term T src off)
    (h' : Skipped T src p off') (ht' : Term T src off') : off = off' := by
  induction h with
  | nil =>
    cases h' with
    | nil => rfl
    | cons hi _ => exact (hi.not_term ht).elim
  | cons hi _ ih =>
    cases h' with
    | nil => exact (hi.not_term ht').elim
    | cons hi' hs' =>
      cases hi.unique hi'
      exact ih ht hs'

theorem ScanSpec.term {T : LexTables} {src : List Nat} {p off e : Nat} {typ : Int}
    (h : ScanSpec T src p typ off e) : Term T src off := by
  rcases h.2 with ⟨hge, _⟩ | ⟨_, s, q, hr, hn, _⟩
  · exact Or.inl hge
  · exact Or.inr ⟨s, q, hr, hn⟩

theorem ScanSpec.unique {T : LexTables} {src : List Nat} {p off off' e e' : Nat} {typ typ' : Int}
    (h : ScanSpec T src p typ off e) (h' : ScanSpec T src p typ' off' e') :
    typ = typ' ∧ off = off' ∧ e = e' := by
  have ho := h.1.unique h.term h'.1 h'.term
  subst ho
  rcases h.2 with ⟨hge, ht, he⟩ | ⟨hlt, s, q, hr, hn, hc⟩
  · rcases h'.2 with ⟨hge', ht', he'⟩ | ⟨hlt', _⟩
    · subst ht ht' he he'; exact ⟨rfl, rfl, rfl⟩
    · omega
  · rcases h'.2 with ⟨hge', _⟩ | ⟨hlt', s', q', hr', hn', hc'⟩
    · omega
    · obtain ⟨rfl, rfl⟩ := hr.stop_unique (.of_none hn) hr' (.of_none hn')
      rcases hc with ⟨h1, h2, h3, h4⟩ | ⟨h1, h3, h4⟩ <;>
      rcases hc' with ⟨h1', h2', h3', h4'⟩ | ⟨h1', h3', h4'⟩
      · subst h3 h3' h4 h4'; exact ⟨rfl, rfl, rfl⟩
      · rcases h1' with h | h
        · omega
        · exact absurd h h2
      · rcases h1 with h | h
        · omega
        · exact absurd h h2'
      · subst h3 h3' h4 h4'; exact ⟨rfl, rfl, rfl⟩

/-- Invariant of `for state != -1` while the automaton is live (`p0` = cursor offset at entry of
    `Scan`): `[p0, start)` is skipped text, the automaton has run from state 0 at `start` to
    `state` at `pos`, `(typ, end_)` is the action of the last state entered (or nothing has
    been read since the (re)start), and cursor and token start satisfy `Q`. -/
structure SLive (T : LexTables) (src : List Nat) (Q : LexSt → Prop) (p0 : Nat) (L : Loop) : Prop where
  sk : Skipped T src p0 L.start
  run : Run T src 0 L.start L.state.toNat L.pos
  le : L.pos ≤ src.length
  alt : (L.end_ = L.pos ∧ L.start < L.pos ∧ L.typ = T.accept L.state.toNat) ∨
        (L.pos = L.start ∧ L.end_ ≤ L.start ∧ (L.pos < src.length → L.typ = tokINVALID) ∧
          (src.length ≤ L.pos → L.typ = tokEOF))
  rc : Q ⟨L.pos, L.line, L.col⟩
  rs : Q ⟨L.start, L.startLine, L.startCol⟩

/-- What one call of `Scan` from offset `p0` returns: the result `r` meets the specification, token
    position and new cursor satisfy `Q`, and token and cursor tile the input. -/
structure SDone (T : LexTables) (src : List Nat) (Q : LexSt → Prop) (p0 : Nat) (r : Tok × LexSt) : Prop where
  spec : ScanSpec T src p0 r.1.typ r.1.offset r.2.pos
  tok : Q ⟨r.1.offset, r.1.line, r.1.col⟩
  cur : Q r.2
  le : r.1.offset ≤ r.2.pos
  lit : r.1.litStart < r.1.litEnd → r.1.litStart = r.1.offset ∧ r.1.litEnd = r.2.pos
  nolit : ¬ r.1.litStart < r.1.litEnd → r.1.offset = r.2.pos
  adv : p0 < src.length → p0 < r.2.pos

/-- a lexeme was recorded: the token is `[start, end_)` and the cursor goes back to `end_` -/
theorem SDone.hi {T : LexTables} {src : List Nat} {Q : LexSt → Prop} {p0 : Nat} {L : Loop}
    (h : L.start < L.end_) (spec : ScanSpec T src p0 L.typ L.start L.end_)
    (tok : Q ⟨L.start, L.startLine, L.startCol⟩) (cur : Q ⟨L.end_, L.line, L.col⟩) :
    SDone T src Q p0 (scanOut L) := by
  have := spec.1.le
  rw [scanOut_hi h]
  exact ⟨spec, tok, cur, Nat.le_of_lt h, fun _ => ⟨rfl, rfl⟩, fun hn => absurd h hn,
    fun _ => Nat.lt_of_le_of_lt this h⟩

/-- nothing was recorded: nothing was read after the last restart and the input is exhausted -/
theorem SDone.lo {T : LexTables} {src : List Nat} {Q : LexSt → Prop} {p0 : Nat} {L : Loop}
    (h : L.end_ ≤ L.start) (hp : L.pos = L.start) (hl : src.length ≤ L.pos)
    (spec : ScanSpec T src p0 L.typ L.start L.pos)
    (tok : Q ⟨L.start, L.startLine, L.startCol⟩) (cur : Q ⟨L.pos, L.line, L.col⟩) :
    SDone T src Q p0 (scanOut L) := by
  have := spec.1.le
  rw [scanOut_lo h]
  exact ⟨spec, tok, cur, Nat.le_of_eq hp.symm, fun hn => absurd hn (Nat.lt_irrefl 0), fun _ => hp.symm,
    fun hlt => by dsimp only; omega⟩

def SGood (T : LexTables) (src : List Nat) (Q : LexSt → Prop) (p0 : Nat) (L : Loop) : Prop :=
  if L.state = -1 then SDone T src Q p0 (scanOut L) else SLive T src Q p0 L

theorem SGood.live {T : LexTables} {src : List Nat} {Q : LexSt → Prop} {p0 : Nat} {L : Loop}
    (hs : L.state ≠ -1) (h : SLive T src Q p0 L) : SGood T src Q p0 L := by
  unfold SGood; rwa [if_neg hs]

theorem SGood.done {T : LexTables} {src : List Nat} {Q : LexSt → Prop} {p0 : Nat} {L : Loop}
    (hs : L.state = -1) (h : SDone T src Q p0 (scanOut L)) : SGood T src Q p0 L := by
  unfold SGood; rwa [if_pos hs]

theorem iter_sgood {T : LexTables} (hT : TWF T) {src : List Nat} {Q : LexSt → Prop}
    (hQ : RuneClosed src Q) {p0 : Nat} {L : Loop} (h : SLive T src Q p0 L) :
    SGood T src Q p0 (iter T src L) := by
  obtain ⟨sk, run, le, alt, rc, rs⟩ := h
  have sle : L.start ≤ L.pos := run.le
  by_cases hlt : L.pos < src.length
  · obtain ⟨hw, hw2⟩ := decodeRune_drop hlt
    have hst := stepAt_lt T L.state.toNat hlt
    have rc' := hQ _ rc hlt
    rw [iter_lt T src L hlt]
    dsimp only
    by_cases hnext : T.trans L.state.toNat (decodeRune (src.drop L.pos)).1 = -1
    · -- no transition: the loop ends
      rw [if_pos hnext] at hst
      rw [if_neg (not_not_intro hnext)]
      by_cases htyp : L.typ = tokINVALID
      · rw [if_pos htyp]
        refine .done rfl (.hi (by dsimp only; omega)
          ⟨sk, Or.inr ⟨by dsimp only; omega, _, _, run, hst, Or.inr ⟨?_, htyp, ?_⟩⟩⟩ rs rc')
        · rcases alt with ⟨_, _, ht⟩ | ⟨hp, _⟩
          · exact Or.inr (ht ▸ htyp)
          · exact Or.inl hp
        · dsimp only; rw [if_pos hlt]
      · rw [if_neg htyp]
        rcases alt with ⟨he, hsp, ht⟩ | ⟨_, _, hty, _⟩
        · exact .done rfl (.hi (by dsimp only; omega)
            ⟨sk, Or.inr ⟨by dsimp only; omega, _, _, run, hst, Or.inl ⟨hsp, ht ▸ htyp, ht, he⟩⟩⟩ rs (he ▸ rc))
        · exact absurd (hty hlt) htyp
    · rw [if_neg hnext] at hst
      rw [if_pos hnext]
      by_cases hacc : T.accept (T.trans L.state.toNat (decodeRune (src.drop L.pos)).1).toNat = -1
      · -- into an ignore state: restart
        rw [if_neg (not_not_intro hacc), if_pos (hT _ hacc)]
        exact .live (show (0 : Int) ≠ -1 by decide) ⟨sk.snoc ⟨_, _, _, run, hst, hacc⟩, Run.refl _ _,
          by dsimp only; omega, Or.inr ⟨rfl, by dsimp only; omega, fun hp => if_neg (by dsimp only at hp; omega),
            fun hp => if_pos hp⟩, rc', rc'⟩
      · -- into a state with an action
        rw [if_pos hacc]
        exact .live hnext ⟨sk, run.step hst hacc, by dsimp only; omega,
          Or.inl ⟨rfl, by dsimp only; omega, rfl⟩, rc', rs⟩
  · have hle : src.length ≤ L.pos := by omega
    have hst := stepAt_ge T L.state.toNat hle
    rw [iter_eof T src L hle]
    rcases alt with ⟨he, hsp, ht⟩ | ⟨hp, hes, _, hty⟩
    · -- a lexeme that ends with the input: `end_ = pos` already
      have : SDone T src Q p0 (scanOut { L with state := -1 }) := by
        refine .hi (by dsimp only; omega) ⟨sk, Or.inr ⟨by dsimp only; omega, _, _, run, hst, ?_⟩⟩ rs (he ▸ rc)
        by_cases htyp : L.typ = tokINVALID
        · exact Or.inr ⟨Or.inr (ht ▸ htyp), htyp, by rw [if_neg (by omega)]; exact he⟩
        · exact Or.inl ⟨hsp, ht ▸ htyp, ht, he⟩
      split
      · exact .done rfl (he ▸ this)
      · exact .done rfl this
    · -- nothing read since the restart: end of input
      rw [if_neg (by rw [hty hle]; decide)]
      exact .done rfl (.lo hes hp hle ⟨sk, Or.inl ⟨by dsimp only; omega, hty hle, hp⟩⟩ rs rc)

theorem loop0_sgood (T : LexTables) {src : List Nat} {Q : LexSt → Prop} {st : LexSt} (hq : Q st)
    (h : st.pos < src.length) : SGood T src Q st.pos (loop0 st) :=
  .live (loop0_state st) ⟨Skipped.nil _, Run.refl _ _, Nat.le_of_lt h,
    Or.inr ⟨rfl, Nat.zero_le _, fun _ => rfl, fun hp => absurd h (Nat.not_lt.2 hp)⟩, hq, hq⟩

theorem scan_done {T : LexTables} (hT : TWF T) {src : List Nat} {Q : LexSt → Prop}
    (hQ : RuneClosed src Q) {st : LexSt} (hq : Q st) : SDone T src Q st.pos (scan T src st) := by
  by_cases hlt : st.pos < src.length
  · rw [scan_lt T src st hlt]
    exact loop_rule (Post := fun L => SDone T src Q st.pos (scanOut L))
      (fun _ _ hi => iter_sgood hT hQ hi) _ (loop0_sgood T hq hlt)
  · rw [scan_eof T src st (by omega)]
    exact ⟨⟨Skipped.nil _, Or.inl ⟨Nat.le_of_not_lt hlt, rfl, rfl⟩⟩, hq, hq, Nat.le_refl _,
      fun h => absurd h (Nat.lt_irrefl 0), fun _ => rfl, fun h => absurd h hlt⟩

theorem scanStates_reach {T : LexTables} (hT : TWF T) (src : List Nat) (k : Nat) :
    Reach src (scanStates T src k) := by
  induction k with
  | zero => exact Reach.zero src
  | succ k ih => exact (scan_done hT (Reach.runeClosed src) ih).cur

end Gocc
