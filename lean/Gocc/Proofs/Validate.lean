import Gocc.Model.Validate
import Gocc.Proofs.NDerives
import Gocc.Proofs.CallLog
/-
The table validator `safe` is sound: stack invariant of the generated parser's `Parse` loop and
its preservation.

`safe` alone does not imply soundness (counter-examples in Props/C02.lean); `safeEnds` holds the
further checks.  All theorems about validated tables take `SafeFacts G T c`, obtained from
`safe G T c = true` and `safeEnds T c = true` by `safeFacts_of`.
-/
namespace Gocc

theorem noRecovery_of_all {T : PTables} (h : T.canRecover.toList.all (fun b => !b) = true) :
    ∀ s : Nat, T.canRecover[s]?.getD false = false := by
  intro s
  rcases hx : T.canRecover[s]? with _ | b
  · rfl
  · have := List.all_eq_true.mp h b (Array.mem_toList_iff.mpr (Array.mem_of_getElem? hx))
    simpa using this

/-- Supplementary check on the two ends of a parse, NOT implied by `safe` (see the
    counter-examples in Props/C02.lean):
    * the start item `S' : •Start` occurs in state 0 only, and no shift/goto edge enters state 0
      (so "the state below the top holds the start item" means "the stack has depth one");
    * end of input (terminal 1) is never shifted. -/
def safeEnds (T : PTables) (c : Cert) : Bool :=
  (List.range c.size).all (fun s => s == 0 || !c.has s 0 0) &&
  (List.range T.action.size).all (fun s =>
    let row := T.action[s]?.getD #[]
    (List.range row.size).all fun t =>
      match (row[t]?).join with
      | some (.shift s') => t != 1 && s' != 0
      | _ => true) &&
  (List.range T.goto_.size).all (fun s =>
    let row := T.goto_[s]?.getD #[]
    (List.range row.size).all fun A => row[A]? != some 0)

structure SafeFacts (G : NGrammar) (T : PTables) (c : Cert) : Prop where
  npos : 0 < T.nStates
  prodNT : ∀ p, p < G.prods.size → T.prodNT[p]? = some (G.head p)
  prodLen : ∀ p, p < G.prods.size → T.prodLen[p]? = some (G.body p).length
  start : ∃ A, G.body 0 = [Sym.nt A]
  zero : ∀ p d, (p, d) ∈ c[0]?.getD [] → d = 0
  shift : ∀ s t s', s < T.nStates → T.act s t = some (.shift s') →
    s' < T.nStates ∧ edgeOk G c s (Sym.t t) s' = true ∧ t ≠ 1 ∧ s' ≠ 0
  reduce : ∀ s t p, s < T.nStates → T.act s t = some (.reduce p) →
    p < G.prods.size ∧ (p, (G.body p).length) ∈ c[s]?.getD []
  accept : ∀ s t, s < T.nStates → T.act s t = some .accept → t = 1 ∧ (0, 1) ∈ c[s]?.getD []
  goto : ∀ s A (g : Int), s < T.nStates → (T.goto_[s]?).bind (·[A]?) = some g → 0 ≤ g →
    g.toNat < T.nStates ∧ edgeOk G c s (Sym.nt A) g.toNat = true ∧ g.toNat ≠ 0
  startItem : ∀ s, (0, 0) ∈ c[s]?.getD [] → s = 0

theorem mem_getD_lt {α : Type} {c : Array (List α)} {s : Nat} {x : α} (h : x ∈ c[s]?.getD []) :
    s < c.size :=
  Nat.lt_of_not_le fun hs => by rw [Array.getElem?_eq_none hs] at h; cases h

@[simp] theorem Cert.has_iff {c : Cert} {s p d : Nat} :
    c.has s p d = true ↔ (p, d) ∈ c[s]?.getD [] := by
  simp [Cert.has]

theorem act_getD_eq (T : PTables) (s t : Nat) :
    ((T.action[s]?.getD #[])[t]?).join = T.act s t := by
  unfold PTables.act
  cases T.action[s]? <;> rfl

theorem goto_getD_eq (T : PTables) (s A : Nat) :
    (T.goto_[s]?.getD #[])[A]? = (T.goto_[s]?).bind (·[A]?) := by
  cases T.goto_[s]? <;> rfl

theorem act_getD {T : PTables} {s t : Nat} {a : Act} (h : T.act s t = some a) :
    s < T.action.size ∧ t < (T.action[s]?.getD #[]).size ∧
      ((T.action[s]?.getD #[])[t]?).join = some a := by
  obtain ⟨row, hrow, ht, hj⟩ := act_eq_some h
  rw [hrow]
  exact ⟨(Array.getElem?_eq_some_iff.mp hrow).1, ht, hj⟩

theorem goto_getD {T : PTables} {s A : Nat} {g : Int} (h : (T.goto_[s]?).bind (·[A]?) = some g) :
    s < T.goto_.size ∧ A < (T.goto_[s]?.getD #[]).size ∧ (T.goto_[s]?.getD #[])[A]? = some g := by
  rcases hrow : T.goto_[s]? with _ | row
  · rw [hrow] at h; cases h
  · rw [hrow] at h
    exact ⟨(Array.getElem?_eq_some_iff.mp hrow).1, (Array.getElem?_eq_some_iff.mp h).1, h⟩

theorem safeFacts_of {G : NGrammar} {T : PTables} {c : Cert} (hs : safe G T c = true)
    (he : safeEnds T c = true) : SafeFacts G T c := by
  simp only [safe, Bool.and_eq_true, List.all_eq_true, List.mem_range, beq_iff_eq,
    decide_eq_true_eq] at hs
  simp only [safeEnds, Bool.and_eq_true, List.all_eq_true, List.mem_range, Bool.or_eq_true,
    beq_iff_eq, Bool.not_eq_true', bne_iff_ne, ne_eq] at he
  obtain ⟨⟨⟨⟨⟨⟨⟨⟨⟨⟨hA, hG⟩, hC⟩, hn⟩, hNT⟩, hLen⟩, hP⟩, hS⟩, hZ⟩, hAct⟩, hGo⟩ := hs
  obtain ⟨⟨e1, e2⟩, e3⟩ := he
  refine
    { npos := hn, prodNT := fun p hp => (hP p hp).1, prodLen := fun p hp => (hP p hp).2,
      start := ?_, zero := fun p d h => hZ (p, d) h, shift := ?_, reduce := ?_, accept := ?_,
      goto := ?_, startItem := ?_ }
  · split at hS
    · exact ⟨_, by assumption⟩
    · cases hS
  · intro s t s' hs' h
    obtain ⟨hsz, ht, hj⟩ := act_getD h
    have h1 := hAct s hs' t ht
    have h2 := e2 s hsz t ht
    simp only [hj, Bool.and_eq_true, decide_eq_true_eq, bne_iff_ne, ne_eq] at h1 h2
    exact ⟨h1.1, h1.2, h2.1, h2.2⟩
  · intro s t p hs' h
    obtain ⟨-, ht, hj⟩ := act_getD h
    have h1 := hAct s hs' t ht
    simpa only [hj, Bool.and_eq_true, decide_eq_true_eq, Cert.has_iff] using h1
  · intro s t hs' h
    obtain ⟨-, ht, hj⟩ := act_getD h
    have h1 := hAct s hs' t ht
    simpa only [hj, Bool.and_eq_true, beq_iff_eq, Cert.has_iff] using h1
  · intro s A g hs' h hg
    obtain ⟨hsz, hA', hj⟩ := goto_getD h
    have h1 := hGo s hs' A hA'
    have h3 := e3 s hsz A hA'
    simp only [hj, Bool.or_eq_true, Bool.and_eq_true, decide_eq_true_eq, Option.some.injEq] at h1 h3
    rcases h1 with h1 | h1
    · omega
    · exact ⟨h1.1, h1.2, fun h0 => h3 (by omega)⟩
  · intro s h
    rcases e1 s (mem_getD_lt h) with h0 | h0
    · exact h0
    · rw [Cert.has_iff.2 h] at h0; cases h0

theorem evalL_cons {kinds : Array RKind} {k : PT} {ks : List PT} {log : List Nat}
    {xs : List Attr} {l' : List Nat} (h : evalL kinds (k :: ks) log = some (xs, l')) :
    ∃ a m as, evalT kinds k log = some (a, m) ∧ evalL kinds ks m = some (as, l') ∧
      xs = a :: as := by
  simp only [evalL] at h
  rcases he : evalT kinds k log with _ | ⟨a, m⟩ <;> rw [he] at h
  · cases h
  · rcases hf : evalL kinds ks m with _ | ⟨as, m'⟩ <;> simp only [hf] at h
    · cases h
    · cases h
      exact ⟨a, m, as, rfl, hf, rfl⟩

theorem evalL_snoc {kinds : Array RKind} {ks : List PT} {t : PT} {l0 l1 l2 : List Nat}
    {xs : List Attr} {a : Attr}
    (h1 : evalL kinds ks l0 = some (xs, l1)) (h2 : evalT kinds t l1 = some (a, l2)) :
    evalL kinds (ks ++ [t]) l0 = some (xs ++ [a], l2) := by
  induction ks generalizing l0 xs with
  | nil =>
    cases h1
    simp only [List.nil_append, evalL, h2]
  | cons k ks ih =>
    obtain ⟨b, l', bs, hk, hks, rfl⟩ := evalL_cons h1
    simp only [List.cons_append, evalL, hk, ih hks]

theorem reduceRes_ok {cfg : PCfg} {p : Nat} {X : List Attr} {ps ps2 : PState} {a : Attr}
    (h : reduceRes cfg p X ps = .ok (a, ps2)) {kids : List PT} {l1 : List Nat}
    (he : evalL cfg.T.prodKind kids l1 = some (X, ps.log)) :
    evalT cfg.T.prodKind (.node p kids) l1 = some (a, ps2.log) := by
  simp only [evalT, he]
  rcases reduceRes_eq_ok.1 h with ⟨hk, hx, rfl⟩ | ⟨hk, rfl, rfl⟩ | ⟨shape, id, hk, -, hu, rfl⟩
  · simp only [hk]; cases X <;> cases hx; rfl
  · simp only [hk]
  · simp only [hk, hu]

/-- `Stk G c n kinds states attrs trees log`: the stack (top first) above the bottom state 0 carries
    one well-formed tree per entry; consecutive states are linked by validated edges labelled
    with the roots; the attributes and the log are the post-order evaluation of the trees,
    bottom to top. -/
inductive Stk (G : NGrammar) (c : Cert) (n : Nat) (kinds : Array RKind) :
    List Nat → List Attr → List PT → List Nat → Prop
  | base : Stk G c n kinds [0] [Attr.nil] [] []
  | push {s ss as ts l s' t a l'} : Stk G c n kinds (s :: ss) as ts l → s' < n → s' ≠ 0 →
      edgeOk G c s (t.sym G) s' = true → t.wf G → evalT kinds t l = some (a, l') →
      Stk G c n kinds (s' :: s :: ss) (a :: as) (t :: ts) l'

variable {G : NGrammar} {c : Cert} {n : Nat} {kinds : Array RKind}

theorem Stk.top_lt {ss as ts l} (hn : 0 < n) (h : Stk G c n kinds ss as ts l) :
    ∃ s rest, ss = s :: rest ∧ s < n := by
  cases h with
  | base => exact ⟨0, [], rfl, hn⟩
  | push _ h2 => exact ⟨_, _, rfl, h2⟩

theorem Stk.length {ss as ts l} (h : Stk G c n kinds ss as ts l) :
    ss.length = ts.length + 1 ∧ as.length = ts.length + 1 := by
  induction h with
  | base => simp
  | push _ _ _ _ _ _ ih => simp [ih.1, ih.2]

theorem Stk.zero_bottom {ss as ts l} (h : Stk G c n kinds ss as ts l) :
    ∀ d, ss[d]? = some 0 → d = ts.length := by
  induction h with
  | base => intro d hd; cases d <;> simp_all
  | push _ _ h0 _ _ _ ih =>
    intro d hd
    cases d with
    | zero => simp at hd; exact absurd hd h0
    | succ d => simp at hd; simp [ih d hd]

theorem Sym.beq_iff (a b : Sym) : (a == b) = true ↔ a = b := by
  cases a <;> cases b <;> simp [BEq.beq, instBEqSym.beq]

instance : LawfulBEq Sym where
  rfl {a} := (Sym.beq_iff a a).2 rfl
  eq_of_beq {a b} h := (Sym.beq_iff a b).1 h

theorem edgeOk_mem {s s' : Nat} {X : Sym} (he : edgeOk G c s X s' = true) {p d : Nat}
    (hm : (p, d + 1) ∈ c[s']?.getD []) : (G.body p)[d]? = some X ∧ (p, d) ∈ c[s]?.getD [] := by
  simp only [edgeOk, List.all_eq_true] at he
  simpa using he (p, d + 1) hm

/-- the item lemma: an item `(p, d)` of the top state has its `d` symbols before the dot on the
    stack, and the state below them holds `(p, 0)` -/
theorem Stk.item (hz : ∀ p d, (p, d) ∈ c[0]?.getD [] → d = 0) :
    ∀ (d : Nat) {ss as ts l} (_ : Stk G c n kinds ss as ts l) (p : Nat),
      (p, d) ∈ c[ss.headD 0]?.getD [] →
      d ≤ ts.length ∧ (ts.take d).reverse.map (PT.sym G) = (G.body p).take d ∧
      ∃ s, ss[d]? = some s ∧ (p, 0) ∈ c[s]?.getD [] := by
  intro d
  induction d with
  | zero =>
    intro ss as ts l h p hm
    refine ⟨Nat.zero_le _, by simp, ?_⟩
    cases h <;> exact ⟨_, rfl, hm⟩
  | succ d ih =>
    intro ss as ts l h p hm
    cases h with
    | base => exact absurd (hz p _ hm) (by omega)
    | @push s ss as ts l s' t a l' h1 _ _ he _ _ =>
      obtain ⟨hX, hmem⟩ := edgeOk_mem he hm
      obtain ⟨i1, i2, i3⟩ := ih h1 p (by simpa using hmem)
      refine ⟨by simp; omega, ?_, by simpa using i3⟩
      rw [List.take_succ_cons, List.reverse_cons, List.map_append, i2, List.take_add_one, hX]
      simp

theorem Stk.pop {ss as ts l} (h : Stk G c n kinds ss as ts l) :
    ∀ k, k ≤ ts.length → ∃ l1, Stk G c n kinds (ss.drop k) (as.drop k) (ts.drop k) l1 ∧
      evalL kinds (ts.take k).reverse l1 = some ((as.take k).reverse, l) ∧
      PT.wfL G (ts.take k).reverse := by
  induction h with
  | base => intro k hk; simp at hk; subst hk; exact ⟨[], .base, by simp [evalL], by simp [PT.wfL]⟩
  | @push s ss as ts l s' t a l' h1 h2 h3 h4 h5 h6 ih =>
    intro k hk
    cases k with
    | zero => exact ⟨l', .push h1 h2 h3 h4 h5 h6, by simp [evalL], by simp [PT.wfL]⟩
    | succ k =>
      obtain ⟨l1, j1, j2, j3⟩ := ih k (by simpa using hk)
      refine ⟨l1, by simpa using j1, ?_, ?_⟩
      · simp only [List.take_succ_cons, List.reverse_cons]
        exact evalL_snoc j2 h6
      · simp only [List.take_succ_cons, List.reverse_cons]
        exact (PT.wfL_append G _ _).2 ⟨j3, by simp [PT.wfL, h5]⟩

/-- the invariant of the `Parse` loop: `m` tokens have been shifted, they are the yield of the
    trees on the stack; the look-ahead is token `m` -/
def Inv (G : NGrammar) (T : PTables) (c : Cert) (w : List Nat) (ps : PState) : Prop :=
  ∃ ts m, Stk G c T.nStates T.prodKind ps.states ps.attrs ts ps.log ∧ ps.ntok = m + 1 ∧
    ps.next = scanTok w m ∧ m ≤ w.length ∧ PT.yieldL ts.reverse = (List.range m).map (scanTok w)

/-- what `Parse` returns on acceptance -/
def Final (G : NGrammar) (T : PTables) (w : List Nat) (r : Attr) (log : List Nat) : Prop :=
  ∃ t : PT, t.wf G ∧ G.body 0 = [t.sym G] ∧ t.yield = (List.range w.length).zip w ∧
    evalT T.prodKind t [] = some (r, log)

theorem inv_init (G : NGrammar) (T : PTables) (c : Cert) (w : List Nat) : Inv G T c w (initPS w) :=
  ⟨[], 0, .base, rfl, rfl, Nat.zero_le _, rfl⟩

theorem scanTok_map_range (w : List Nat) :
    (List.range w.length).map (scanTok w) = (List.range w.length).zip w := by
  apply List.ext_getElem
  · simp
  · intro i h1 h2
    simp at h1
    simp [scanTok, h1]

/-- what an iteration from `ps` establishes when it ends the parse: on acceptance the result is
    the evaluation of a parse tree of the input; a panic leaves the call log as a successful
    step would (so the failing call is never reported as a panic) -/
def SafeQ (G : NGrammar) (T : PTables) (w : List Nat) (f : Nat) (ps : PState) :
    Outcome → PState → Prop
  | .accept r, ps' => Final G T w r ps'.log
  | .panic _, ps' => LogStep f ps ps'
  | _, _ => True

section
variable {G : NGrammar} {cfg : PCfg} {c : Cert} {w : List Nat}

theorem doAct_inv (F : SafeFacts G cfg.T c) (hw : 1 ∉ w) {ps : PState} (hI : Inv G cfg.T c w ps)
    {top : Nat} {rest : List Nat} (hst : ps.states = top :: rest) {a : Act}
    (ha : cfg.T.act top ps.next.2 = some a) :
    (doAct cfg w a ps).Post (Inv G cfg.T c w) (SafeQ G cfg.T w cfg.failAt ps) := by
  obtain ⟨ts, m, hS, hm, hnext, hle, hy⟩ := hI
  obtain ⟨states, attrs, next, ntok, log, calls⟩ := ps
  dsimp only at hS hm hnext hst ha
  subst hst hm
  obtain ⟨_, _, hh, htop⟩ := hS.top_lt F.npos
  cases hh
  cases a with
  | accept =>
    -- the complete start item in the top state: the stack has depth one
    obtain ⟨h1, hmem⟩ := F.accept _ _ htop ha
    obtain ⟨i1, i2, s, i3, i4⟩ := Stk.item F.zero 1 hS 0 (by simpa using hmem)
    have := F.startItem s i4
    subst this
    have hlen := hS.zero_bottom 1 i3
    cases hS with
    | base => simp at i1
    | @push s ss as ts l s' t a l' g1 g2 g3 g4 g5 g6 =>
      cases g1 with
      | push => simp at hlen
      | base =>
        show Final G cfg.T w _ _
        refine ⟨t, g5, ?_, ?_, g6⟩
        · obtain ⟨A, hA⟩ := F.start
          simpa [hA] using i2.symm
        · have : m = w.length := scanTok_eof hw hle (by rw [← hnext]; exact h1)
          subst this
          simpa [PT.yieldL, scanTok_map_range] using hy
  | shift s' =>
    obtain ⟨h1, h2, h3, h4⟩ := F.shift _ _ _ htop ha
    refine ⟨.leaf next.1 next.2 :: ts, m + 1, ?_, rfl, rfl, ?_, ?_⟩
    · exact .push hS h1 h4 h2 trivial rfl
    · exact scanTok_lt (w := w) (m := m) (by rw [← hnext]; exact h3)
    · simp [PT.yieldL_append, PT.yieldL, hy, PT.yield, List.range_succ, hnext]
  | reduce p =>
    -- the body is on the stack (item lemma); pop it, evaluate the node, push the goto state
    obtain ⟨hp, hmem⟩ := F.reduce _ _ _ htop ha
    obtain ⟨i1, i2, -⟩ := Stk.item F.zero _ hS p (by simpa using hmem)
    have hlen := hS.length
    obtain ⟨l1, j1, j2, j3⟩ := hS.pop _ i1
    obtain ⟨t', rest', hd, ht'⟩ := j1.top_lt F.npos
    simp only [doAct, F.prodLen p hp, F.prodNT p hp, Option.getD_some]
    rw [if_neg (by simp at hlen ⊢; omega), hd]
    rcases hres : reduceRes cfg p (List.take (G.body p).length attrs).reverse _ with
      (_ | why) | ⟨a, ps2⟩
    · trivial
    · exact Or.inl ⟨rfl, rfl⟩
    · obtain ⟨-, -, k4, k5⟩ := reduceRes_frame hres
      simp only []
      split
      · exact reduceRes_ok_log hres
      · rename_i hg
        rcases hgo : (cfg.T.goto_[t']?).bind (·[G.head p]?) with _ | g
        · rw [hgo] at hg; exact absurd (by decide) hg
        · simp only [hgo, Option.getD_some, Int.not_lt] at hg ⊢
          obtain ⟨q1, q2, q3⟩ := F.goto _ _ _ ht' hgo hg
          refine ⟨.node p (ts.take (G.body p).length).reverse :: ts.drop (G.body p).length, m, ?_,
            k5, k4.trans hnext, hle, ?_⟩
          · rw [hd] at j1
            refine .push j1 q1 q3 q2 ⟨hp, ?_, j3⟩ (reduceRes_ok hres j2)
            rw [i2, List.take_length]
          · have hsplit : PT.yieldL ts.reverse = PT.yieldL (ts.drop (G.body p).length).reverse ++
                PT.yieldL (ts.take (G.body p).length).reverse := by
              rw [← PT.yieldL_append, ← List.reverse_append, List.take_append_drop]
            rw [← hy, hsplit]
            simp [PT.yieldL_append, PT.yieldL, PT.yield]

theorem step_inv (F : SafeFacts G cfg.T c)
    (hr : ∀ s : Nat, cfg.T.canRecover[s]?.getD false = false) (hw : 1 ∉ w) {ps : PState}
    (hI : Inv G cfg.T c w ps) :
    (step cfg w ps).Post (Inv G cfg.T c w) (SafeQ G cfg.T w cfg.failAt ps) := by
  rcases hst : ps.states with _ | ⟨top, rest⟩
  · rw [step_nil hst]; exact Or.inl ⟨rfl, rfl⟩
  · rcases step_cases hr hst with ⟨-, e⟩ | ⟨-, ⟨-, e⟩ | ⟨a, ha, e⟩⟩ <;> rw [e]
    · exact Or.inl ⟨rfl, rfl⟩
    · trivial
    · exact doAct_inv F hw hI hst ha

theorem parse_accept (F : SafeFacts G cfg.T c)
    (hr : ∀ s : Nat, cfg.T.canRecover[s]?.getD false = false) (hw : 1 ∉ w) {fuel : Nat}
    {old : PState} {r : Attr} {ps' : PState} (h : parse cfg w fuel old = (.accept r, ps')) :
    Final G cfg.T w r ps'.log := by
  rw [parse_eq] at h
  obtain ⟨b, o, ps1, hrun, hd, he⟩ := parseLoop_done fuel _ (by rw [h]; exact Outcome.noConfusion)
  have hb := hrun.inv (I := Inv G cfg.T c w)
    (fun a b ha hs => by have := step_inv F hr hw ha; rwa [hs] at this) (inv_init ..)
  have := step_inv F hr hw hb
  rw [hd] at this
  cases h.symm.trans he
  exact this

theorem Final.sentence {G : NGrammar} {T : PTables} {w : List Nat} {r : Attr} {log : List Nat}
    (h : Final G T w r log) : NSentence G w := by
  obtain ⟨t, h1, h2, h3, -⟩ := h
  have := PT.derives G t h1
  rw [h3, List.map_snd_zip (by simp), ← h2] at this
  exact this

theorem parse_fail_actErr (F : SafeFacts G cfg.T c)
    (hr : ∀ s : Nat, cfg.T.canRecover[s]?.getD false = false) (hw : 1 ∉ w)
    (h0 : 0 < cfg.failAt) {fuel : Nat} {old : PState}
    (hc : (parse cfg w fuel old).2.calls = cfg.failAt) :
    ∃ id i t e s, (parse cfg w fuel old).1 = .actErr id i t e s := by
  refine parseLoop_post
    (I := fun ps => Inv G cfg.T c w ps ∧ ps.log.length = ps.calls ∧ ps.calls < cfg.failAt)
    (Q := fun o ps' => ps'.calls = cfg.failAt → ∃ id i t e s, o = .actErr id i t e s)
    (fun a ha => ?_) (fun a ha hc => absurd hc (Nat.ne_of_lt ha.2.2)) fuel (initPS w)
    ⟨inv_init .., rfl, h0⟩ hc
  have hl := step_log cfg w a
  have hc := hl.calls ha.2.1 ha.2.2
  have hi := step_inv F hr hw ha.1
  cases hs : step cfg w a with
  | cont ps1 => rw [hs] at hc hi; exact ⟨hi, hc.1, hc.2.2 _ rfl⟩
  | done o ps' =>
    rw [hs] at hl hi
    intro hcf
    have hno : ¬ LogStep cfg.failAt a ps' := by
      rintro (⟨-, q⟩ | ⟨_, -, q, q'⟩)
      · have := ha.2.2; omega
      · exact q' ⟨by omega, by omega⟩
    rcases hl with ⟨id, -, -, -, -, ⟨_, _, _, _, g3⟩ | ⟨why, g3⟩⟩ | ⟨-, g1⟩
    · exact ⟨_, _, _, _, _, g3⟩
    · subst g3; exact absurd hi hno
    · exact absurd g1 hno

end

end Gocc
