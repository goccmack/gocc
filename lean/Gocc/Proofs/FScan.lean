import Gocc.Model.FScan
import Gocc.Proofs.Utf8
/-
The model of the hand-written front-end scanner (`Gocc/Model/FScan.lean`): states positioned at a suffix
of the text (`At`), what `next` and the ASCII loops do to them, and the vocabulary (`WsRun`, `FollowOK`,
`ScansAs`) shared by the layout theorem (`FScanLayout`), the token classes (`FScanTokens`) and the
position rule (`FScanPos`).  The statements for the property file are collected in `Gocc/Props/C13.lean`.
-/
namespace Gocc
namespace FScan

/-- NUL and the bytes below 80 that `next` treats apart are decoded by `decodeRune` to the same result -/
theorem look_cons (b : Nat) (r : List Nat) : look (b :: r) = decodeRune (b :: r) := by
  show (if b = 0 then (0, 1) else if b ≥ 80 then decodeRune (b :: r) else ((b : Int), 1)) = _
  split
  · next h => subst h; exact (decodeRune_ascii 0 r (by omega)).symm
  · split
    · rfl
    · exact (decodeRune_ascii b r (by omega)).symm

theorem look_ascii {b : Nat} (r : List Nat) (h : b < 0x80) : look (b :: r) = ((b : Int), 1) := by
  rw [look_cons, decodeRune_ascii b r h]

theorem look_width_le (x : List Nat) : (look x).2 ≤ x.length := by
  cases x with
  | nil => exact Nat.le_refl 0
  | cons b r => rw [look_cons]; exact decodeRune_size_le _

theorem look_fst_lt {b : Nat} {r : List Nat} (h : (look (b :: r)).1 < 0x80) : b < 0x80 := by
  rw [look_cons] at h
  apply Decidable.byContradiction
  intro hb
  have := decodeRune_ge b r (by omega)
  omega

/-- `s` is positioned at the suffix `x`: `x = src[pos.Offset:]`, `ch` is its first rune and
    `offset` is just behind it -/
structure At (x : List Nat) (s : FSt) : Prop where
  cur : s.cur = x
  ch : s.ch = (look x).1
  off : s.offset = s.pos + (look x).2

theorem next_at {x : List Nat} {s : FSt} (h : At x s) :
    At (x.drop (look x).2) (next s) ∧ (next s).pos = s.pos + (look x).2 := by
  have hd : s.cur.drop (s.offset - s.pos) = x.drop (look x).2 := by
    rw [h.cur, h.off]; congr 1; omega
  unfold next
  split
  next heq =>
    rw [hd] at heq
    have hl : x.length ≤ (look x).2 := by
      have := congrArg List.length heq
      simp at this; omega
    have hl2 := look_width_le x
    rw [heq]
    refine ⟨⟨rfl, rfl, ?_⟩, ?_⟩
    · show s.offset = s.pos + s.cur.length + 0
      rw [h.cur, h.off]; omega
    · simp only [h.cur]; omega
  next b rest heq =>
    rw [hd] at heq
    rw [heq]
    exact ⟨⟨rfl, rfl, rfl⟩, h.off⟩

theorem next_at_ascii {b : Nat} {x : List Nat} {s : FSt} (h : At (b :: x) s) (hb : b < 0x80) :
    s.ch = (b : Int) ∧ At x (next s) ∧ (next s).pos = s.pos + 1 := by
  have hn := next_at h
  rw [look_ascii _ hb] at hn
  exact ⟨by rw [h.ch, look_ascii _ hb], hn.1, hn.2⟩

theorem At.of_ch {x : List Nat} {s : FSt} (h : At x s) {c : Nat} (hc : c < 0x80) (e : s.ch = c) :
    ∃ r, x = c :: r := by
  have hch := h.ch
  rw [e] at hch
  cases x with
  | nil => exact absurd hch (by simp only [look]; omega)
  | cons b r =>
    rw [look_ascii r (look_fst_lt (by rw [← hch]; omega))] at hch
    exact ⟨r, by rw [Int.ofNat_inj.1 hch]⟩

/-- A rune never extends over an ASCII byte: one `next` in front of `c` stays in front of `c`.
    The step is a single byte when the rune is below `0x80`. -/
theorem next_at_prefix {b c : Nat} {p q : List Nat} {s : FSt} (hc : c < 0x80)
    (h : At (b :: (p ++ c :: q)) s) :
    0 ≤ s.ch ∧ ∃ p', p' <:+ p ∧ At (p' ++ c :: q) (next s) ∧ (s.ch < 0x80 → s.ch = b ∧ p' = p) := by
  have h1 := (next_at h).1
  have hch := h.ch
  have hw := decodeRune_width_prefix b p c q hc
  rw [look_cons] at h1 hch
  rw [List.cons_append] at hw
  obtain ⟨k, hk⟩ : ∃ k, (decodeRune (b :: (p ++ c :: q))).2 = k + 1 :=
    ⟨_, (Nat.sub_add_cancel (decodeRune_cons b _).pos).symm⟩
  rw [hk, List.drop_succ_cons, List.drop_append_of_le_length (by omega)] at h1
  refine ⟨hch ▸ decodeRune_nonneg _, p.drop k, List.drop_suffix k p, h1, fun hlt => ?_⟩
  have hb : b < 0x80 := look_fst_lt (h.ch ▸ hlt)
  rw [decodeRune_ascii _ _ hb] at hch hk
  have : k = 0 := by simpa using hk.symm
  exact ⟨hch, by rw [this, List.drop_zero]⟩

theorem init_at (src : List Nat) : At src (init src) := by
  cases src with
  | nil => exact ⟨rfl, rfl, rfl⟩
  | cons b r => exact ⟨rfl, rfl, rfl⟩

/-- A fuel loop `L` that calls `next` while `cont` holds of the look-ahead, entered in front of a run `t`
    of bytes below `0x80` that satisfy `cont`, arrives behind `t` with fuel left. -/
theorem asciiLoop_at {L : Nat → FSt → FSt} {cont : Int → Prop}
    (hstep : ∀ f s, cont s.ch → L (f + 1) s = L f (next s)) {t x : List Nat}
    (ht : ∀ c ∈ t, c < 0x80 ∧ cont c) :
    ∀ (f : Nat) (s : FSt), t.length < f → At (t ++ x) s →
      ∃ k s', L f s = L (k + 1) s' ∧ At x s' ∧ s'.pos = s.pos + t.length := by
  induction t with
  | nil =>
    intro f s hf h
    cases f with
    | zero => exact absurd hf (Nat.not_lt_zero _)
    | succ f => exact ⟨f, s, rfl, h, rfl⟩
  | cons c t ih =>
    intro f s hf h
    obtain ⟨f, rfl⟩ : ∃ f', f = f' + 1 := ⟨f - 1, (Nat.sub_add_cancel (by omega)).symm⟩
    obtain ⟨hc, hcont⟩ := ht c List.mem_cons_self
    obtain ⟨c0, hn, hp⟩ := next_at_ascii h hc
    obtain ⟨k, s', e, h', hp'⟩ :=
      ih (fun c hc => ht c (List.mem_cons_of_mem _ hc)) f (next s) (by simpa using hf) hn
    exact ⟨k, s', by rw [hstep f s (c0 ▸ hcont), e], h', by rw [hp', hp, List.length_cons]; omega⟩

/-- the four white-space bytes of `skipWhitespace` -/
def isWsByte (b : Nat) : Bool := b == 32 || b == 9 || b == 10 || b == 13

def WsRun (w : List Nat) : Prop := ∀ b ∈ w, isWsByte b = true

def NoWsHead (x : List Nat) : Prop := ∀ b r, x = b :: r → isWsByte b = false

theorem isWsByte_cases {b : Nat} (h : isWsByte b = true) : b = 32 ∨ b = 9 ∨ b = 10 ∨ b = 13 := by
  simp [isWsByte] at h; omega

theorem isWs_ofNat (b : Nat) : isWs (b : Int) = isWsByte b := by
  rw [Bool.eq_iff_iff]
  simp [isWs, isWsByte]
  omega

theorem isWs_look {x : List Nat} (h : NoWsHead x) : isWs (look x).1 = false := by
  cases x with
  | nil => rfl
  | cons b r =>
    cases hw : isWs (look (b :: r)).1 with
    | false => rfl
    | true =>
      have hlt : (look (b :: r)).1 < 0x80 := by simp [isWs] at hw; omega
      rw [look_ascii r (look_fst_lt hlt), isWs_ofNat, h b r rfl] at hw
      cases hw

theorem skipWhitespace_at {w x : List Nat} (hw : WsRun w) (hx : NoWsHead x) {s : FSt}
    (h : At (w ++ x) s) :
    At x (skipWhitespace s) ∧ (skipWhitespace s).pos = s.pos + w.length := by
  obtain ⟨k, s', e, h', hp⟩ := asciiLoop_at (L := wsLoop) (cont := fun c => isWs c = true)
    (fun _ _ hc => if_pos hc)
    (fun c hc => ⟨by have := isWsByte_cases (hw c hc); omega, by rw [isWs_ofNat]; exact hw c hc⟩)
    (fuel s) s (by simp [fuel, h.cur]; omega) h
  have stop : wsLoop (k + 1) s' = s' := if_neg (by rw [h'.ch, isWs_look hx]; exact Bool.false_ne_true)
  rw [skipWhitespace, e, stop]
  exact ⟨h', hp⟩

theorem noWsHead_cons {b : Nat} {r : List Nat} (h : isWsByte b = false) : NoWsHead (b :: r) := by
  intro b' r' he
  cases he; exact h

theorem slice_self (p : FPos) (n : Nat) : slice p p.offset n = p.tail.take (n - p.offset) := by
  simp [slice]

theorem slice_at {t x : List Nat} {s s' : FSt} (h : At (t ++ x) s) (hp : s'.pos = s.pos + t.length) :
    slice (position s) (position s).offset s'.pos = t := by
  rw [slice_self]
  show s.cur.take (s'.pos - s.pos) = t
  rw [h.cur, hp, Nat.add_sub_cancel_left, List.take_left']
  rfl

def FollowOK (x : List Nat) : Prop := x = [] ∨ ∃ b r, x = b :: r ∧ isWsByte b = true

/-- The spelling `t` is scanned as exactly one token of type `ty` by the body of `Scan` whenever
    it is followed by a white-space byte or by the end of the input, in any scanner state
    positioned at it. -/
def ScansAs (u : UnicodeOracle) (t : List Nat) (ty : Int) : Prop :=
  ty ≠ tEOF ∧ t ≠ [] ∧ NoWsHead t ∧
  ∀ (x : List Nat) (s : FSt), FollowOK x → At (t ++ x) s →
    ∃ tok s', scanOnce u s = (some tok, s') ∧ tok.type = ty ∧ tok.lit = t ∧ At x s'

theorem followOK_ws {w : List Nat} (h : WsRun w) : FollowOK w := by
  cases w with
  | nil => exact .inl rfl
  | cons b r => exact .inr ⟨b, r, rfl, h b (by simp)⟩

theorem followOK_ch {x : List Nat} (hx : FollowOK x) {s : FSt} (h : At x s) :
    s.ch = -1 ∨ s.ch = 32 ∨ s.ch = 9 ∨ s.ch = 10 ∨ s.ch = 13 := by
  rcases hx with rfl | ⟨b, r, rfl, hb⟩
  · exact .inl h.ch
  · have := h.ch
    rw [look_ascii _ (by have := isWsByte_cases hb; omega)] at this
    rcases isWsByte_cases hb with rfl | rfl | rfl | rfl <;> simp [this]

/-! ## the `switch` of `Scan` by first rune -/

theorem scanOnce_ident (u : UnicodeOracle) {s : FSt} (h : s.ch = 33 ∨ isLetter u s.ch = true) :
    scanOnce u s = (some (mkTok (scanIdentifier u (position s) s).1 (position s) (identLoop u (fuel s) s)),
      identLoop u (fuel s) s) := by
  simp only [scanOnce, h, if_true, scanIdentifier]

theorem scanOnce_comment (u : UnicodeOracle) {s : FSt} (c0 : s.ch = 47)
    (c1 : (next s).ch = 47 ∨ (next s).ch = 42) :
    scanOnce u s = (none, scanComment (position s) (next s)) := by
  simp [scanOnce, c0, c1, isLetter]

theorem scanOnce_string (u : UnicodeOracle) {s : FSt} (c0 : s.ch = 34) :
    scanOnce u s = (some (mkTok tStringLit (position s) (scanString (next s))), scanString (next s)) := by
  simp [scanOnce, c0, isLetter]

theorem scanOnce_char (u : UnicodeOracle) {s s2 : FSt} (c0 : s.ch = 39)
    (hl : charLoop (fuel (next s)) 0 (next s) = (1, s2)) :
    scanOnce u s = (some (mkTok tCharLit (position s) (next s2)), next s2) := by
  simp [scanOnce, c0, isLetter, scanChar, hl]

theorem scanOnce_sdt (u : UnicodeOracle) {s : FSt} (c0 : s.ch = 60) (c1 : (next s).ch = 60) :
    scanOnce u s = (some (mkTok tSdtLit (position s) (scanSDTLit (next s))), scanSDTLit (next s)) := by
  simp [scanOnce, c0, c1, isLetter]

theorem lineDirective_eq (p : FPos) (s : FSt) : ∃ l, lineDirective p s = { s with line := l } := by
  simp only [lineDirective]
  repeat' split
  all_goals exact ⟨_, rfl⟩

end FScan
end Gocc
