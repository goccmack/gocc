import Gocc.Proofs.RegexSemMain
/-
C01: the REFERENCE AUTOMATON of Spec/LexRef.lean against a DECLARATIVE regular-expression semantics.

C01 ("the generated lexer returns exactly the tokens the lexical rules define") is proved against the
reference automaton `xStart` / `xStep` / `xVerdict` (Props/C01Gen.lean) — executable, but operational,
and it shares `emoveStep`, `isReduce`, `expected` and `lexAction` with the generator model.  Here the
reference automaton is tied to the textbook semantics `MatchPat` of Spec/RegexSem.lean (an inductive
definition over the abstract syntax that mentions no item, position or ε-move), for lexical parts
without references and without `.`:

  * `C01_ref_accepts_iff_matches` — after reading `w` the state contains the completed item of
    production `k` iff the pattern of `k` matches `w`  (`C01_ref_accepts_sound`,
    `C01_ref_accepts_complete` are the two directions; `C01_ref_done_iff` names the item);
  * `C01_ref_verdict_eq`, `C01_ref_verdict_none` / `_strLit` / `_first` — the verdict is `Action()` of
    the matching productions: none if nothing matches, the (last declared) matching string-literal
    production if there is one, otherwise the earliest declared matching production;
  * `C01_ref_alive_iff_prefix` — the automaton is alive after `w` iff `w` is a prefix of a string
    matched by some token;  `C01_ref_residual` — for EVERY dotted position the strings leading to the
    completed item are a language (`RegexS.Cont`) defined from the semantics alone.

Quantifier: ALL lists `prods` of lexical productions (any kinds, ids, `strLit` flags; empty alternatives,
empty `[ ]` / `{ }`, nullable bodies of `{ }`, nested `{ [ … ] }`, reversed ranges, runes outside
`[0, 0x10FFFF]`), ALL rune strings `w`.

Hypotheses (all decidable), with the witnesses that they are needed:
  * `noRefs prods` — finding D1 territory; the reference automaton expands references, `MatchPat`
    gives them no string (a semantics with references needs the environment of definitions).
  * `noDots prods` — `.` in the property is NOT a regular-expression operator: it applies only when no
    literal / range of the WHOLE state has the rune.
  * `p.pat.alts ≠ []` (resp. `altToks prods` for the verdict) — FINDING (`c01rx_empty_pattern`): for a
    pattern without alternatives the start item `⟨k,[0]⟩` is already "completed" (`pos ≥ len = 0`), the
    reference automaton (and the generator model, which shares `isReduce`) reports the EMPTY string as a
    token; the declarative semantics matches nothing.  Not reachable from a parsed grammar (`LexPattern`
    has at least one `LexAlt`).  Only the soundness direction needs it.  Empty `( )` INSIDE a pattern is
    fine (dead end on both sides).
  * `liveToks prods` — for "alive ⟹ prefix" only (`c01rx_dead_alive`): after `'a'` in `'a' 'z'-'a'` or
    `'a' 'b' ( )` the automaton is still alive although no continuation can match (a reversed range /
    an empty group match nothing).  "prefix ⟹ alive" holds without it.
NOT needed: well-formed ranges, distinct ids, anything about `reg` productions (never started).

Proof (Gocc/Proofs/RegexSem*.lean): runs `Run C i w f` of ε- and rune steps characterise `xRun`
(`mem_xRun_iff`, using the exactness of `xClosure` — `mem_xClosure_iff` — and `goodX_xStep`);
SOUNDNESS by the invariant `Cont` (continuation language of an item, from `rem` / `after` of the nodes
on its stack) preserved backwards by every step (`cont_eps`, `cont_rune`); COMPLETENESS by induction
on the size of the pattern (`cPass`), `Star` induction for `{ }`.
-/
namespace Gocc

open RegexS LexGenC

/-- what `ItemSet.Action()` returns for a chosen production -/
def tokAct (p : LProd) : LAct :=
  match p.kind with
  | .tok => .accept p.id
  | .ign => .ignore p.id
  | .reg => .none

def doneItem (k : Nat) (p : LProd) : LItem := ⟨k, [p.pat.alts.length]⟩

/-- COMPLETENESS: a matched string is accepted — no side condition on the pattern -/
theorem C01_ref_accepts_complete (prods : List LProd) (hr : noRefs prods = true)
    (hd : noDots prods = true) (k : Nat) (p : LProd) (hk : prods[k]? = some p) (hkind : p.kind ≠ .reg)
    (w : List Int) (hm : MatchPat p.pat w) :
    [doneItem k p] ∈ xRun { prods := prods.toArray } w ∧
      LexCtx.isReduce { prods := prods.toArray } (doneItem k p) = true := by
  have hP : (LexCtx.prods { prods := prods.toArray })[k]? = some p := by simpa using hk
  exact ⟨done_of_den (noRefC_of_noRefs hr) (noDotC_of_noDots hd) hP hkind ((matchPat_iff_den _ _).1 hm),
    isReduce_done hP⟩

/-- the reference automaton accepts `w` for production `k` iff the pattern of `k` matches `w` -/
theorem C01_ref_accepts_iff_matches (prods : List LProd) (hr : noRefs prods = true)
    (hd : noDots prods = true) (k : Nat) (p : LProd) (hk : prods[k]? = some p) (hkind : p.kind ≠ .reg)
    (hne : p.pat.alts ≠ []) (w : List Int) :
    (∃ top, [top] ∈ xRun { prods := prods.toArray } w ∧ top.prod = k ∧
      LexCtx.isReduce { prods := prods.toArray } top = true) ↔ MatchPat p.pat w := by
  rw [matchPat_iff_den]
  exact accept_iff (noRefC_of_noRefs hr) (noDotC_of_noDots hd) (by simpa using hk) hkind hne w

/-- SOUNDNESS: an accepted string is matched -/
theorem C01_ref_accepts_sound (prods : List LProd) (hr : noRefs prods = true)
    (hd : noDots prods = true) (k : Nat) (p : LProd) (hk : prods[k]? = some p) (hkind : p.kind ≠ .reg)
    (hne : p.pat.alts ≠ []) (w : List Int) (top : LItem)
    (hin : [top] ∈ xRun { prods := prods.toArray } w) (hprod : top.prod = k)
    (hred : LexCtx.isReduce { prods := prods.toArray } top = true) : MatchPat p.pat w :=
  (C01_ref_accepts_iff_matches prods hr hd k p hk hkind hne w).1 ⟨top, hin, hprod, hred⟩

/-- the completed items of the state after `w`: exactly the items `doneItem k p` of the non-`reg`
    productions whose pattern matches `w` -/
theorem C01_ref_done_iff (prods : List LProd) (hr : noRefs prods = true) (hd : noDots prods = true)
    (ha : altToks prods = true) (w : List Int) (i : LItem) :
    ([i] ∈ xRun { prods := prods.toArray } w ∧ LexCtx.isReduce { prods := prods.toArray } i = true) ↔
      ∃ (k : Nat) (p : LProd), prods[k]? = some p ∧ p.kind ≠ .reg ∧ i = doneItem k p ∧
        MatchPat p.pat w := by
  simpa only [List.getElem?_toArray, matchPat_iff_den, doneItem] using
    done_iff (noRefC_of_noRefs hr) (noDotC_of_noDots hd) (topNE_of_altToks ha) w i

/-- the verdict after `w` is `Action()` of ANY production-sorted list enumerating the completed
    items of the matching non-`reg` productions -/
theorem C01_ref_verdict_eq (prods : List LProd) (hr : noRefs prods = true) (hd : noDots prods = true)
    (ha : altToks prods = true) (w : List Int) (l : List LItem)
    (hs : l.Pairwise (fun a b => a.prod ≤ b.prod))
    (hl : ∀ i, i ∈ l ↔ ∃ (k : Nat) (p : LProd), prods[k]? = some p ∧ p.kind ≠ .reg ∧
      i = doneItem k p ∧ MatchPat p.pat w) :
    xVerdict { prods := prods.toArray } (xRun { prods := prods.toArray } w) =
      lexAction { prods := prods.toArray } l :=
  verdict_eq (noRefC_of_noRefs hr) (noDotC_of_noDots hd) (topNE_of_altToks ha) w l hs
    (by simpa only [List.getElem?_toArray, matchPat_iff_den, doneItem] using hl)

theorem actOfProd_eq {C : LexCtx} {k : Nat} {p : LProd} (hP : C.prods[k]? = some p) :
    actOfProd C k = tokAct p := by
  simp only [actOfProd, hP, tokAct]
  cases p.kind <;> rfl

/-- the production chosen after `w` (`verdict_winner`), in the words of this file -/
theorem c01_winner (prods : List LProd) (hr : noRefs prods = true) (hd : noDots prods = true)
    (ha : altToks prods = true) (w : List Int) :
    (xVerdict { prods := prods.toArray } (xRun { prods := prods.toArray } w) = .none ∧
      ∀ (k : Nat) (p : LProd), prods[k]? = some p → p.kind ≠ .reg → ¬ MatchPat p.pat w) ∨
    ∃ (ka : Nat) (pa : LProd), prods[ka]? = some pa ∧ pa.kind ≠ .reg ∧ MatchPat pa.pat w ∧
      xVerdict { prods := prods.toArray } (xRun { prods := prods.toArray } w) = tokAct pa ∧
      (pa.strLit = true → ∀ (k : Nat) (p : LProd), prods[k]? = some p → p.kind ≠ .reg →
        MatchPat p.pat w → p.strLit = true → k ≤ ka) ∧
      (pa.strLit = false → ∀ (k : Nat) (p : LProd), prods[k]? = some p → p.kind ≠ .reg →
        MatchPat p.pat w → p.strLit = false ∧ ka ≤ k) := by
  rcases verdict_winner (noRefC_of_noRefs hr) (noDotC_of_noDots hd) (topNE_of_altToks ha) w with
    h | ⟨ka, pa, hP, h⟩
  · exact .inl (by simpa only [List.getElem?_toArray, matchPat_iff_den] using h)
  · rw [actOfProd_eq hP] at h
    exact .inr ⟨ka, pa, by simpa only [List.getElem?_toArray, matchPat_iff_den] using And.intro hP h⟩

theorem C01_ref_verdict_none (prods : List LProd) (hr : noRefs prods = true) (hd : noDots prods = true)
    (ha : altToks prods = true) (w : List Int)
    (hno : ∀ (k : Nat) (p : LProd), prods[k]? = some p → p.kind ≠ .reg → ¬ MatchPat p.pat w) :
    xVerdict { prods := prods.toArray } (xRun { prods := prods.toArray } w) = .none := by
  rcases c01_winner prods hr hd ha w with ⟨h, _⟩ | ⟨ka, pa, hka, hkinda, hma, _⟩
  · exact h
  · exact absurd hma (hno ka pa hka hkinda)

/-- a string-literal production matches (the last declared, if several do): it is the token -/
theorem C01_ref_verdict_strLit (prods : List LProd) (hr : noRefs prods = true)
    (hd : noDots prods = true) (ha : altToks prods = true) (w : List Int) (k : Nat) (p : LProd)
    (hk : prods[k]? = some p) (hkind : p.kind ≠ .reg) (hm : MatchPat p.pat w) (hstr : p.strLit = true)
    (hlast : ∀ (k' : Nat) (p' : LProd), prods[k']? = some p' → p'.kind ≠ .reg → p'.strLit = true →
      MatchPat p'.pat w → k' ≤ k) :
    xVerdict { prods := prods.toArray } (xRun { prods := prods.toArray } w) = tokAct p := by
  rcases c01_winner prods hr hd ha w with ⟨_, hno⟩ | ⟨ka, pa, hka, hkinda, hma, hv, h1, h2⟩
  · exact absurd hm (hno k p hk hkind)
  · cases hsa : pa.strLit with
    | true =>
      obtain rfl := Nat.le_antisymm (hlast ka pa hka hkinda hsa hma) (h1 hsa k p hk hkind hm hstr)
      rw [hv, Option.some.inj (hka.symm.trans hk)]
    | false => rw [(h2 hsa k p hk hkind hm).1] at hstr; cases hstr

/-- no string-literal production matches: the earliest declared matching production is the token -/
theorem C01_ref_verdict_first (prods : List LProd) (hr : noRefs prods = true)
    (hd : noDots prods = true) (ha : altToks prods = true) (w : List Int) (k : Nat) (p : LProd)
    (hk : prods[k]? = some p) (hkind : p.kind ≠ .reg) (hm : MatchPat p.pat w)
    (hfirst : ∀ (k' : Nat) (p' : LProd), prods[k']? = some p' → p'.kind ≠ .reg → MatchPat p'.pat w →
      p'.strLit = false ∧ k ≤ k') :
    xVerdict { prods := prods.toArray } (xRun { prods := prods.toArray } w) = tokAct p := by
  rcases c01_winner prods hr hd ha w with ⟨_, hno⟩ | ⟨ka, pa, hka, hkinda, hma, hv, -, h2⟩
  · exact absurd hm (hno k p hk hkind)
  · obtain ⟨hsa, hle⟩ := hfirst ka pa hka hkinda hma
    obtain rfl := Nat.le_antisymm hle (h2 hsa k p hk hkind hm).2
    rw [hv, Option.some.inj (hka.symm.trans hk)]

/-- a prefix of a matched string keeps the automaton alive (no side condition on the patterns) -/
theorem C01_ref_alive_of_prefix (prods : List LProd) (hr : noRefs prods = true)
    (hd : noDots prods = true) (w : List Int) (k : Nat) (p : LProd) (v : List Int)
    (hk : prods[k]? = some p) (hkind : p.kind ≠ .reg) (hm : MatchPat p.pat (w ++ v)) :
    xRun { prods := prods.toArray } w ≠ [] :=
  alive_of_prefix (noRefC_of_noRefs hr) (noDotC_of_noDots hd) (P := p) (k := k) (by simpa using hk)
    hkind ((matchPat_iff_den _ _).1 hm)

theorem C01_ref_alive_iff_prefix (prods : List LProd) (hr : noRefs prods = true)
    (hd : noDots prods = true) (hl : liveToks prods = true) (w : List Int) :
    xRun { prods := prods.toArray } w ≠ [] ↔
      ∃ (k : Nat) (p : LProd) (v : List Int), prods[k]? = some p ∧ p.kind ≠ .reg ∧
        MatchPat p.pat (w ++ v) := by
  simpa only [List.getElem?_toArray, matchPat_iff_den] using
    alive_iff (noRefC_of_noRefs hr) (noDotC_of_noDots hd) (liveC_of_liveToks hl) w

/-- the residual language of EVERY dotted position `y` of a production (not only of the positions the
    automaton reaches): the strings read by a run from `y` to the completed item are the continuation
    language `Cont C y`, which is defined from the declarative semantics alone (`RegexS.rem`,
    `RegexS.after`, `RegexS.up` in Proofs/RegexSemResidual.lean) -/
theorem C01_ref_residual (C : LexCtx) (y : LItem) (p : LProd) (hp : C.prods[y.prod]? = some p)
    (hne : p.pat.alts ≠ []) (hy : Pos C y) (v : List Int) :
    Run C y v (doneItem y.prod p) ↔ Cont C y v :=
  residual_iff hp hne hy v

/-! ### Non-vacuity

```
t    : { [ 'b' | ( 'c' 'd' ) ] 'e' | 'f'-'h' } ;     nesting: { } around [ ] around ( ), a range
!ws  : ' ' ;
"be" : 'b' 'e' ;                                      string literal of the syntax part
```
-/

def c01rxBody : LPat :=
  .mk [ .mk [.opt (.mk [.mk [.lit 98], .mk [.grp (.mk [.mk [.lit 99, .lit 100]])]]), .lit 101],
        .mk [.rng 102 104] ]

def c01rxLex : List LProd :=
  [ { kind := .tok, id := "t", pat := .mk [.mk [.rep c01rxBody]] },
    { kind := .ign, id := "ws", pat := .mk [.mk [.lit 32]] },
    { kind := .tok, id := "be", pat := .mk [.mk [.lit 98, .lit 101]], strLit := true } ]

theorem c01rx_side : noRefs c01rxLex = true ∧ noDots c01rxLex = true ∧ altToks c01rxLex = true ∧
    liveToks c01rxLex = true := by decide

/-- one round of the `{ }`: a string of the body -/
theorem c01rx_body_cde : MatchPat c01rxBody [99, 100, 101] :=
  .alt (a := .mk [.opt (.mk [.mk [.lit 98], .mk [.grp (.mk [.mk [.lit 99, .lit 100]])]]), .lit 101])
    (.head _)
    (.mk (.cons (u := [99, 100]) (v := [101])
      (.optSome (.alt (a := .mk [.grp (.mk [.mk [.lit 99, .lit 100]])]) (.tail _ (.head _))
        (.mk (.cons (u := [99, 100]) (v := [])
          (.grp (.alt (a := .mk [.lit 99, .lit 100]) (.head _)
            (.mk (.cons (u := [99]) (v := [100]) (.lit 99)
              (.cons (u := [100]) (v := []) (.lit 100) .nil)))))
          .nil))))
      (.cons (u := [101]) (v := []) (.lit 101) .nil)))

theorem c01rx_body_g : MatchPat c01rxBody [103] :=
  .alt (a := .mk [.rng 102 104]) (.tail _ (.head _))
    (.mk (.cons (u := [103]) (v := []) (.rng 102 104 103 (by decide) (by decide)) .nil))

theorem c01rx_body_be : MatchPat c01rxBody [98, 101] :=
  .alt (a := .mk [.opt (.mk [.mk [.lit 98], .mk [.grp (.mk [.mk [.lit 99, .lit 100]])]]), .lit 101])
    (.head _)
    (.mk (.cons (u := [98]) (v := [101])
      (.optSome (.alt (a := .mk [.lit 98]) (.head _)
        (.mk (.cons (u := [98]) (v := []) (.lit 98) .nil))))
      (.cons (u := [101]) (v := []) (.lit 101) .nil)))

/-- `cdeg` ∈ `t` : two rounds, `cde` then `g`, by an explicit derivation -/
theorem c01rx_match_cdeg : MatchPat (.mk [.mk [.rep c01rxBody]]) [99, 100, 101, 103] :=
  .alt (a := .mk [.rep c01rxBody]) (.head _)
    (.mk (.cons (u := [99, 100, 101, 103]) (v := [])
      (.repCons (u := [99, 100, 101]) (v := [103]) c01rx_body_cde
        (.repCons (u := [103]) (v := []) c01rx_body_g (.repNil _)))
      .nil))

/-- `be` ∈ `t` (one round through `[ 'b' ] 'e'`) and `be` ∈ `"be"` -/
theorem c01rx_match_be_t : MatchPat (.mk [.mk [.rep c01rxBody]]) [98, 101] :=
  .alt (a := .mk [.rep c01rxBody]) (.head _)
    (.mk (.cons (u := [98, 101]) (v := [])
      (.repCons (u := [98, 101]) (v := []) c01rx_body_be (.repNil _)) .nil))

theorem c01rx_match_be_lit : MatchPat (.mk [.mk [.lit 98, .lit 101]]) [98, 101] :=
  .alt (a := .mk [.lit 98, .lit 101]) (.head _)
    (.mk (.cons (u := [98]) (v := [101]) (.lit 98) (.cons (u := [101]) (v := []) (.lit 101) .nil)))

/-- through the theorem: the reference automaton accepts `cdeg` for `t` … -/
theorem c01rx_accepts_cdeg :
    [doneItem 0 c01rxLex[0]] ∈ xRun { prods := c01rxLex.toArray } [99, 100, 101, 103] :=
  (C01_ref_accepts_complete c01rxLex c01rx_side.1 c01rx_side.2.1 0 _ rfl (by decide) _
    c01rx_match_cdeg).1

/-- … and the computed state agrees (the completed item `⟨0,[1]⟩` is in it) -/
example : xRun { prods := c01rxLex.toArray } [99, 100, 101, 103] =
    [[⟨0, [0, 0, 0, 0, 0, 0]⟩], [⟨0, [0, 0, 0, 0, 1, 0, 0, 0]⟩], [⟨0, [0, 0, 0, 1]⟩],
     [⟨0, [0, 0, 1, 0]⟩], [⟨0, [1]⟩]] := by decide +kernel

/-- `be`: `t` and the string literal `"be"` both match; the verdict is the string literal, by `C01_ref_verdict_strLit` -/
theorem c01rx_verdict_be :
    xVerdict { prods := c01rxLex.toArray } (xRun { prods := c01rxLex.toArray } [98, 101]) =
      .accept "be" := by
  refine C01_ref_verdict_strLit c01rxLex c01rx_side.1 c01rx_side.2.1 c01rx_side.2.2.1 _ 2 _ rfl
    (by decide) c01rx_match_be_lit rfl ?_
  intro k' p' hk' _ _ _
  exact Nat.le_of_lt_succ (List.getElem?_eq_some_iff.1 hk').1

example : xVerdict { prods := c01rxLex.toArray } (xRun { prods := c01rxLex.toArray } [98, 101]) =
    .accept "be" := by decide +kernel

/-- `cd` is NOT in `t`: the automaton side of the theorem decides it (no completed item of `t` after
    `cd`), the theorem transports it to the declarative semantics -/
theorem c01rx_not_match_cd : ¬ MatchPat (.mk [.mk [.rep c01rxBody]]) [99, 100] := by
  have hno : (xRun { prods := c01rxLex.toArray } [99, 100]).contains [doneItem 0 c01rxLex[0]] = false := by
    decide +kernel
  intro hm
  have h := (C01_ref_accepts_complete c01rxLex c01rx_side.1 c01rx_side.2.1 0 _ rfl (by decide) _ hm).1
  exact Bool.false_ne_true (hno.symm.trans (List.contains_iff_mem.2 h))

/-- … but `cd` is a prefix of a match (`cde`), so the automaton is alive after it -/
theorem c01rx_alive_cd : xRun { prods := c01rxLex.toArray } [99, 100] ≠ [] :=
  C01_ref_alive_of_prefix c01rxLex c01rx_side.1 c01rx_side.2.1 [99, 100] 0 _ [101] rfl (by decide)
    (.alt (a := .mk [.rep c01rxBody]) (.head _)
      (.mk (.cons (u := [99, 100, 101]) (v := [])
        (.repCons (u := [99, 100, 101]) (v := []) c01rx_body_cde (.repNil _)) .nil)))

/-- `x` is a prefix of nothing: the automaton is dead after it, hence no token matches any
    extension of `x` -/
theorem c01rx_dead_x (v : List Int) (k : Nat) (p : LProd) (hk : c01rxLex[k]? = some p)
    (hkind : p.kind ≠ .reg) : ¬ MatchPat p.pat ([120] ++ v) := by
  intro hm
  have hdead : xRun { prods := c01rxLex.toArray } [120] = [] := by decide +kernel
  exact C01_ref_alive_of_prefix c01rxLex c01rx_side.1 c01rx_side.2.1 [120] k p v hk hkind hm hdead

/-- FINDING: a pattern without alternatives.  The reference automaton (and the generator model: same
    `isReduce`) reports the empty string as the token `t`; the declarative semantics matches nothing. -/
theorem c01rx_empty_pattern :
    let prods : List LProd := [{ kind := .tok, id := "t", pat := .mk [] }]
    noRefs prods = true ∧ noDots prods = true ∧ altToks prods = false ∧
    xRun { prods := prods.toArray } [] = [[⟨0, [0]⟩]] ∧
    LexCtx.isReduce { prods := prods.toArray } ⟨0, [0]⟩ = true ∧
    xVerdict { prods := prods.toArray } (xRun { prods := prods.toArray } []) = .accept "t" ∧
    lexAction { prods := prods.toArray } (itemsSet0 { prods := prods.toArray }) = .accept "t" ∧
    ¬ MatchPat (.mk []) [] := by
  refine ⟨by decide, by decide, by decide, by decide +kernel, by decide, by decide +kernel,
    by decide +kernel, ?_⟩
  intro h
  rw [matchPat_iff_den, denPat_mk, denAlts_nil] at h
  exact h

/-- `liveToks` is needed for "alive ⟹ prefix": after `a` in `'a' 'z'-'a'` the automaton is alive (it
    waits for a rune of the reversed range) but nothing can follow -/
theorem c01rx_dead_alive :
    let prods : List LProd := [{ kind := .tok, id := "t", pat := .mk [.mk [.lit 97, .rng 122 97]] }]
    noRefs prods = true ∧ noDots prods = true ∧ altToks prods = true ∧ liveToks prods = false ∧
    xRun { prods := prods.toArray } [97] ≠ [] ∧
    ∀ v, ¬ MatchPat (.mk [.mk [.lit 97, .rng 122 97]]) ([97] ++ v) := by
  refine ⟨by decide, by decide, by decide, by decide, by decide +kernel, ?_⟩
  intro v h
  rw [matchPat_iff_den, denPat_mk, denAlts_cons, denAlts_nil, denAlt_mk, denTerms_cons] at h
  rcases h with ⟨u1, v1, _, _, h2⟩ | h
  · rw [denTerms_cons] at h2
    obtain ⟨u2, v2, _, h3, _⟩ := h2
    rw [denTerm_rng] at h3
    obtain ⟨c, _, h4, h5⟩ := h3
    omega
  · exact h

/-- the same with an empty group: `'a' 'b' ( )` -/
theorem c01rx_dead_alive_grp :
    let prods : List LProd :=
      [{ kind := .tok, id := "t", pat := .mk [.mk [.lit 97, .lit 98, .grp (.mk [])]] }]
    liveToks prods = false ∧ xRun { prods := prods.toArray } [97] ≠ [] ∧
    ∀ v, ¬ MatchPat (.mk [.mk [.lit 97, .lit 98, .grp (.mk [])]]) ([97] ++ v) := by
  refine ⟨by decide, by decide +kernel, ?_⟩
  intro v h
  rw [matchPat_iff_den, denPat_mk, denAlts_cons, denAlts_nil, denAlt_mk, denTerms_cons] at h
  rcases h with ⟨u1, v1, _, _, h2⟩ | h
  · rw [denTerms_cons] at h2
    obtain ⟨u2, v2, _, _, h3⟩ := h2
    rw [denTerms_cons] at h3
    obtain ⟨u3, v3, _, h4, _⟩ := h3
    rw [denTerm_grp, denPat_mk, denAlts_nil] at h4
    exact h4
  · exact h

/-- shapes that need NO side condition: nullable body of `{ }`, `{ [ 'a' ] }`, empty alternative, empty
    `[ ]`, a dead `( )` in one alternative, a reversed range — covered by the theorems above; e.g. the
    empty string and `aa` are tokens of `{ [ 'a' ] | } 'z'-'a' | ( ) 'q' | [ ]` … -/
def c01rxOdd : List LProd :=
  [ { kind := .tok, id := "o",
      pat := .mk [ .mk [.rep (.mk [.mk [.opt (.mk [.mk [.lit 97]])], .mk []]), .rng 122 97],
                   .mk [.grp (.mk []), .lit 113],
                   .mk [.opt (.mk [])],
                   .mk [.rep (.mk [.mk [.opt (.mk [.mk [.lit 97]])]])] ] } ]

theorem c01rxOdd_side : noRefs c01rxOdd = true ∧ noDots c01rxOdd = true ∧ altToks c01rxOdd = true := by
  decide

theorem c01rxOdd_aa : MatchPat c01rxOdd[0].pat [97, 97] := by
  have hbody : MatchPat (.mk [.mk [.opt (.mk [.mk [.lit 97]])]]) [97] :=
    .alt (a := .mk [.opt (.mk [.mk [.lit 97]])]) (.head _)
      (.mk (.cons (u := [97]) (v := [])
        (.optSome (.alt (a := .mk [.lit 97]) (.head _)
          (.mk (.cons (u := [97]) (v := []) (.lit 97) .nil)))) .nil))
  exact .alt (a := .mk [.rep (.mk [.mk [.opt (.mk [.mk [.lit 97]])]])]) (.tail _ (.tail _ (.tail _ (.head _))))
    (.mk (.cons (u := [97, 97]) (v := [])
      (.repCons (u := [97]) (v := [97]) hbody (.repCons (u := [97]) (v := []) hbody (.repNil _)))
      .nil))

example : xVerdict { prods := c01rxOdd.toArray } (xRun { prods := c01rxOdd.toArray } [97, 97]) =
    .accept "o" :=
  C01_ref_verdict_first c01rxOdd c01rxOdd_side.1 c01rxOdd_side.2.1 c01rxOdd_side.2.2 _ 0 _ rfl
    (by decide) c01rxOdd_aa (by
      intro k' p' hk' _ _
      match k', hk' with
      | 0, hk' => cases hk'; exact ⟨rfl, Nat.le_refl _⟩
      | _ + 1, hk' => cases hk')

/-- `q` is not a token of it (the `( )` in front is a dead end), `az` neither (reversed range) -/
example : xVerdict { prods := c01rxOdd.toArray } (xRun { prods := c01rxOdd.toArray } [113]) = .none ∧
    xVerdict { prods := c01rxOdd.toArray } (xRun { prods := c01rxOdd.toArray } [97, 122]) = .none := by
  decide +kernel

end Gocc
