import Gocc.Proofs.ScanSpec
/-
C08 — Token positions follow the position rule and lexemes tile the input.

Quantifier: all tables `T : LexTables`, all byte lists `src`, all lexer cursors `st`
(no bounds).  The only hypothesis on the tables is `TWF T` (`Accept = -1` only for ignore
states, which is how the generator emits `ActTab`); it is used exactly where a call of
`Scan` actually runs the automaton.  `Reach src st` says that `st = ⟨pos, line, col⟩` is
obtained from `⟨0, 1, 1⟩` by reading runes of `src` one after the other with the rule
"line + 1 and column 1 after '\n', column 1 after '\r', + 4 for a tab, + 1 otherwise";
`C08_position_rule` shows that this is the declarative rule (`lineOf`, `colOf`).  It is what the
line/column statements and the bound `st'.pos ≤ src.length` rest on; progress and the literal
clauses of `C08_tiling` hold from every cursor (`scan_done` with `Q := fun _ => True`).

`scan T src st = (tok, st')` is one call of `Scan()`; `scanN T src k st` the first `k`
tokens; `scanStates T src k` the cursor of a new lexer after `k` calls and
`scanTokAt T src k` the token returned by call number `k` (from 0).
-/
namespace Gocc

/-- a reachable triple is: a rune boundary inside the input, line = 1 + number of '\n'
    read before it, column = 1 + advance since the last '\r' / '\n' (4 per tab, 1 per rune) -/
theorem C08_position_rule {src : List Nat} {st : LexSt} {rs : List Int} (h : ReachR src st rs) :
    st.line = lineOf rs ∧ st.col = colOf rs ∧ st.pos ≤ src.length :=
  ⟨(reachR_line_col h).1, (reachR_line_col h).2, reachR_pos_le h⟩

/-- line and column are a function of the offset: there is exactly one position-rule triple
    per rune boundary, so the triples of `C08_positions` are *the* line/column of the reported offset -/
theorem C08_position_unique {src : List Nat} {st st' : LexSt} (h : Reach src st) (h' : Reach src st')
    (hp : st.pos = st'.pos) : st = st' :=
  h.unique h' hp

/-- every returned token (INVALID and EOF included) reports the position rule applied to
    the runes before its first byte, and the cursor after the call is again such a triple -/
theorem C08_positions {T : LexTables} (hT : TWF T) {src : List Nat} {st : LexSt} (h : Reach src st) :
    Reach src (scan T src st).2 ∧
    Reach src ⟨(scan T src st).1.offset, (scan T src st).1.line, (scan T src st).1.col⟩ :=
  ⟨(scan_done hT (Reach.runeClosed src) h).cur, (scan_done hT (Reach.runeClosed src) h).tok⟩

/-- one call consumes `[st.pos, st'.pos)`: ignored text `[st.pos, tok.offset)`, then the
    literal, which is exactly `src[tok.offset : st'.pos]` -/
theorem C08_tiling {T : LexTables} (hT : TWF T) {src : List Nat} {st : LexSt} (h : Reach src st) :
    st.pos ≤ (scan T src st).1.offset ∧
    (scan T src st).1.offset ≤ (scan T src st).2.pos ∧
    (scan T src st).2.pos ≤ src.length ∧
    ((scan T src st).1.litStart < (scan T src st).1.litEnd →
        (scan T src st).1.litStart = (scan T src st).1.offset ∧
        (scan T src st).1.litEnd = (scan T src st).2.pos) ∧
    (¬ (scan T src st).1.litStart < (scan T src st).1.litEnd →
        (scan T src st).1.offset = (scan T src st).2.pos) := by
  have d := scan_done hT (Reach.runeClosed src) h
  exact ⟨d.spec.1.le, d.le, d.cur.pos_le, d.lit, d.nolit⟩

/-- each call before end of input consumes at least one byte -/
theorem C08_progress {T : LexTables} (hT : TWF T) {src : List Nat} {st : LexSt} (h : Reach src st)
    (hlt : st.pos < src.length) : st.pos < (scan T src st).2.pos :=
  (scan_done hT (Reach.runeClosed src) h).adv hlt

/-- at end of input `Scan` returns EOF at the cursor and does not move -/
theorem C08_eof_sticky (T : LexTables) (src : List Nat) (st : LexSt) (h : st.pos ≥ src.length) :
    scan T src st =
      ({ typ := tokEOF, litStart := 0, litEnd := 0, offset := st.pos, line := st.line, col := st.col }, st) :=
  scan_eof T src st h

/-- ... and so does every later call -/
theorem C08_eof_sticky_scanN (T : LexTables) (src : List Nat) (st : LexSt) (h : st.pos ≥ src.length)
    (k : Nat) :
    scanN T src k st = List.replicate k
      { typ := tokEOF, litStart := 0, litEnd := 0, offset := st.pos, line := st.line, col := st.col } := by
  induction k with
  | zero => rfl
  | succ k ih => simp only [scanN, scan_eof T src st h, ih, List.replicate_succ]

/-- in the token stream of a new lexer: once call `k` is made at end of input, call `j ≥ k`
    finds the same cursor and returns the same EOF token -/
theorem C08_eof_sticky_stream (T : LexTables) (src : List Nat) (k : Nat)
    (h : (scanStates T src k).pos ≥ src.length) (j : Nat) (hj : k ≤ j) :
    scanStates T src j = scanStates T src k ∧
    scanTokAt T src j =
      { typ := tokEOF, litStart := 0, litEnd := 0, offset := (scanStates T src k).pos,
        line := (scanStates T src k).line, col := (scanStates T src k).col } := by
  obtain ⟨d, rfl⟩ := Nat.exists_eq_add_of_le hj
  have hs : scanStates T src (k + d) = scanStates T src k := by
    unfold scanStates
    rw [scanStatesFrom_add]; exact scanStatesFrom_eof T src _ h d
  refine ⟨hs, ?_⟩
  unfold scanTokAt; rw [hs, scan_eof T src _ h]

/-- `scanN` is the list of the tokens `scanTokAt 0, scanTokAt 1, ...` -/
theorem C08_scanN_stream (T : LexTables) (src : List Nat) (k i : Nat) (hi : i < k) :
    (scanN T src k newLexer)[i]? = some (scanTokAt T src i) :=
  scanN_getElem? T src k newLexer i hi

/-- the whole token stream of a new lexer tiles the input: the stream starts at offset 0,
    every cursor is a position-rule triple, the cursors are monotone and bounded by the length,
    token `k` starts between cursor `k` and cursor `k+1` at a position-rule triple, and its
    literal (if any) is exactly `src[offset : cursor (k+1)]` -/
theorem C08_scanN_tiles {T : LexTables} (hT : TWF T) (src : List Nat) (k : Nat) :
    scanStates T src 0 = ⟨0, 1, 1⟩ ∧
    Reach src (scanStates T src k) ∧
    Reach src ⟨(scanTokAt T src k).offset, (scanTokAt T src k).line, (scanTokAt T src k).col⟩ ∧
    (scanStates T src k).pos ≤ (scanTokAt T src k).offset ∧
    (scanTokAt T src k).offset ≤ (scanStates T src (k + 1)).pos ∧
    (scanStates T src (k + 1)).pos ≤ src.length ∧
    ((scanTokAt T src k).litStart < (scanTokAt T src k).litEnd →
        (scanTokAt T src k).litStart = (scanTokAt T src k).offset ∧
        (scanTokAt T src k).litEnd = (scanStates T src (k + 1)).pos) ∧
    (¬ (scanTokAt T src k).litStart < (scanTokAt T src k).litEnd →
        (scanTokAt T src k).offset = (scanStates T src (k + 1)).pos) ∧
    ((scanStates T src k).pos < src.length →
        (scanStates T src k).pos < (scanStates T src (k + 1)).pos) := by
  have hr := scanStates_reach hT src k
  have d := scan_done hT (Reach.runeClosed src) hr
  exact ⟨rfl, hr, d.tok, d.spec.1.le, d.le, d.cur.pos_le, d.lit, d.nolit, d.adv⟩

/-- cursors never move backwards and never pass the end of the input -/
theorem C08_cursor_mono {T : LexTables} (hT : TWF T) (src : List Nat) (k : Nat) :
    (scanStates T src k).pos ≤ (scanStates T src (k + 1)).pos ∧
    (scanStates T src (k + 1)).pos ≤ src.length := by
  obtain ⟨_, _, _, h3, h4, h5, _⟩ := C08_scanN_tiles hT src k
  exact ⟨Nat.le_trans h3 h4, h5⟩

/-- the stream reaches end of input after at most `src.length` calls -/
theorem C08_reaches_eof {T : LexTables} (hT : TWF T) (src : List Nat) :
    (scanStates T src src.length).pos = src.length := by
  have key : ∀ k, k ≤ src.length → k ≤ (scanStates T src k).pos := by
    intro k
    induction k with
    | zero => intro _; exact Nat.zero_le _
    | succ k ih =>
      intro hk
      have := ih (by omega)
      obtain ⟨_, _, _, h3, h4, _, _, _, h8⟩ := C08_scanN_tiles hT src k
      by_cases hlt : (scanStates T src k).pos < src.length
      · have := h8 hlt; omega
      · omega
  have h1 := key src.length (Nat.le_refl _)
  have h2 := (scanStates_reach hT src src.length).pos_le
  omega

/-! ### Non-vacuity: a concrete lexer -/

/-- tables of `x : 'a' ; !ws : ' ' ; y : 'a' 'b' ;` — S0 start, S1 after `a` (x, type 2),
    S2 after a blank (ignore), S3 after `ab` (y, type 3) -/
def exT : LexTables where
  trans s r :=
    if s = 0 ∧ r = 97 then 1 else if s = 0 ∧ r = 32 then 2 else if s = 1 ∧ r = 98 then 3 else -1
  accept s := if s = 1 then 2 else if s = 2 then -1 else if s = 3 then 3 else 0
  ignore s := s == 2

theorem exT_twf : TWF exT := by
  intro s h
  by_cases h2 : s = 2
  · subst h2; rfl
  · exfalso
    revert h
    show (if s = 1 then (2 : Int) else if s = 2 then -1 else if s = 3 then 3 else 0) = -1 → False
    rw [if_neg h2]
    split
    · decide
    · split <;> decide

example : TWF exT := exT_twf

/-- the hypothesis is not void state by state either -/
example : exT.accept 2 = -1 ∧ exT.ignore 2 = true ∧ exT.accept 0 = 0 ∧ exT.accept 1 = 2 := by decide

/-- "a ab\tb": x, (blank skipped) y, then an INVALID tab, an INVALID `b` at column 9, EOF -/
example : scanN exT [97, 32, 97, 98, 9, 98] 6 newLexer =
    [ { typ := 2, litStart := 0, litEnd := 1, offset := 0, line := 1, col := 1 },
      { typ := 3, litStart := 2, litEnd := 4, offset := 2, line := 1, col := 3 },
      { typ := 0, litStart := 4, litEnd := 5, offset := 4, line := 1, col := 5 },
      { typ := 0, litStart := 5, litEnd := 6, offset := 5, line := 1, col := 9 },
      { typ := 1, litStart := 0, litEnd := 0, offset := 6, line := 1, col := 10 },
      { typ := 1, litStart := 0, litEnd := 0, offset := 6, line := 1, col := 10 } ] := by
  rw [scanN_eq_scanNF]; decide +kernel

/-- "a\néa": a newline and a two-byte rune (both INVALID for these tables) -/
example : scanN exT [97, 10, 0xC3, 0xA9, 97] 5 newLexer =
    [ { typ := 2, litStart := 0, litEnd := 1, offset := 0, line := 1, col := 1 },
      { typ := 0, litStart := 1, litEnd := 2, offset := 1, line := 1, col := 2 },
      { typ := 0, litStart := 2, litEnd := 4, offset := 2, line := 2, col := 1 },
      { typ := 2, litStart := 4, litEnd := 5, offset := 4, line := 2, col := 2 },
      { typ := 1, litStart := 0, litEnd := 0, offset := 5, line := 2, col := 3 } ] := by
  rw [scanN_eq_scanNF]; decide +kernel

/-- "a  ": trailing ignored text, EOF comes out of the loop at offset 3 -/
example : scanN exT [97, 32, 32] 2 newLexer =
    [ { typ := 2, litStart := 0, litEnd := 1, offset := 0, line := 1, col := 1 },
      { typ := 1, litStart := 0, litEnd := 0, offset := 3, line := 1, col := 4 } ] := by
  rw [scanN_eq_scanNF]; decide +kernel

/-- `TWF` is needed: with a live state that neither accepts nor ignores (S2 below), on "abc"
    the call returns `a` and rewinds the cursor to offset 1, but line/column have already been
    advanced over `b`: the cursor `⟨1, 1, 3⟩` is not a position-rule triple (column 2 is) -/
def badT : LexTables where
  trans s r :=
    if s = 0 ∧ r = 97 then 1 else if s = 1 ∧ r = 98 then 2 else -1
  accept s := if s = 1 then 2 else if s = 2 then -1 else 0
  ignore _ := false

example : ¬ TWF badT := by
  intro h; exact absurd (h 2 (by decide)) (by decide)

example : (scan badT [97, 98, 99] newLexer).2 = ⟨1, 1, 3⟩ := by
  rw [scan_eq_scanF]; decide +kernel

example : ¬ Reach [97, 98, 99] ⟨1, 1, 3⟩ := by
  intro h
  have h1 : Reach [97, 98, 99] ⟨1, 1, 2⟩ := ⟨_, ReachR.step ReachR.zero (by decide)⟩
  exact absurd (C08_position_unique h h1 rfl) (by decide)

end Gocc
