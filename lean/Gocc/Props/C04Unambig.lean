import Gocc.Proofs.UnambigPos
import Gocc.Props.C02Kind
/-
C04, consequence — a grammar for which gocc reports NO LR(1) conflict is UNAMBIGUOUS
(equivalently: for an ambiguous grammar the generator always records a conflict).

C04 says that conflicts are reported exactly for the grammars that are not LR(1).  The consequence
proved here needs no definition of LR(1): it is stated with parse trees only (`PT`, `PT.wf`,
`PT.yield`, `PT.sym` of Spec/Eval.lean).

  `Unambiguous G`  (definition in Proofs/UnambigInj.lean, restated by `C04_unambiguous_def`):
      for every token-type string `w`, any two well-formed trees of `G` whose root is the start
      symbol (`G.body 0 = [t.sym G]`) and whose leaves are the tokens of `w` with their positions
      (`t.yield = (List.range w.length).zip w`, the form of `C03_result_is_tree_eval`) are equal.
  `C04_unambiguous_any_positions`: the positions stored in the leaves are immaterial — in an
      unambiguous grammar two such trees with EQUAL YIELDS (any positions) are equal.

TABLES LEVEL
  * `C04_parse_follows_tree`: tables passing `firstOk` / `complete` (Model/ValidateC.lean), any
    `cfg` over them whose actions never fail (`ActsOk`): for EVERY well-formed tree `t` of the
    input, Parse accepts and the returned value and call log are `evalT … t []` — the evaluation
    of THIS tree (C02-complete said "accepts"; C03 said "the evaluation of SOME tree").
  * `C04_complete_tables_unambiguous`: tables passing `firstOk` / `complete` exist only for
    unambiguous grammars.  The statement does not mention `cfg` or actions: the proof builds the
    configuration `Unambig.treeCfg` (same tables, `prodKind` replaced by `RKind.user 1 p` for every
    production `p`, i.e. the harness action `<< vh.Mk(C, p, X) >>` that returns the full node;
    `complete` does not read `prodKind`: `Unambig.complete_prodKind` is `rfl`), runs it on both
    trees (ONE run: `parse` is a function and fuel does not matter, `parseLoop_fuel_mono`), and
    uses that under these actions the value determines the tree (`Unambig.evalT_inj`).

Hypotheses the theorems do without:
  * neither `safe` / `safeEnds` nor "no recovery state" is assumed: along the run that follows a
    tree the action entry is never missing, so `Error` is never called (as in C02-complete);
    in particular the generator-level theorem has NO hypothesis about `error` alternatives;
  * no hypothesis `1 ∉ w`;
  * `TreeKinds` is not a hypothesis of any exported theorem (it is established for `treeCfg`);
    it is indexed by the number of productions — `∀ p < n, kinds[p]? = some (.user 1 p)` — because
    `∀ p` is unsatisfiable for a finite array.

GENERATOR LEVEL (`genParser`, `ngrammarOf`; hypotheses exactly those of `C02_genParser_complete`)
  * `C04_no_conflict_unambiguous`: `genParser syn tokIds = .ok r`, `NamesOk`, `CompleteNamesOk`,
    `r.states.size ≤ 4096`, `r.tables.conflictStates = 0`  ⟹  the grammar is unambiguous.
  * `C04_ambiguous_has_conflict` (the C04-facing contrapositive): two different well-formed trees
    with the same yield  ⟹  `r.tables.conflictStates ≠ 0`.
  * `…_kind`: the same over `ngrammarSpec` (the grammar read BY KIND, Spec/KindGrammar.lean), with
    the extra hypothesis `SpellingsOk syn tokIds`.
  Grammars with unproductive symbols, ε-cycles, unit cycles need no side condition: the theorem
  is about trees that exist.  `A : A | a` makes the generator panic ("Cannot have LR1 conflict
  with Accept.", so `genParser = .error _` and there is no `r`); `S : A S | b ; A : empty` is
  generated with conflicts (`C04UnambigEx.epsCycle_conflict`).

NON-VACUITY (`C04UnambigEx`)
  (a) `S : a S b | c` (`C02GenEx.syn`) is unambiguous — through the theorem;
  (b) `E : E + E | x`: the two trees of `x + x + x` are exhibited, hence (contrapositive) every
      successful run records a conflict; kernel evaluation of the model: exactly 1 conflict state.
  (c) `S : A S | b ; A : empty` (ε-cycle): two trees of `b`, hence a conflict; kernel
      evaluation: 2 conflict states.
-/
namespace Gocc

open Unambig (Unambiguous)

/-- the definition of `Unambiguous`, spelled out -/
theorem C04_unambiguous_def (G : NGrammar) :
    Unambiguous G ↔
      ∀ (w : List Nat) (t1 t2 : PT), t1.wf G → t2.wf G →
        G.body 0 = [t1.sym G] → G.body 0 = [t2.sym G] →
        t1.yield = (List.range w.length).zip w → t2.yield = (List.range w.length).zip w →
        t1 = t2 :=
  Iff.rfl

/-- positions are immaterial: in an unambiguous grammar two well-formed trees from the start
    symbol with the same yield — whatever positions their leaves carry — are equal -/
theorem C04_unambiguous_any_positions {G : NGrammar} (hu : Unambiguous G) {t1 t2 : PT}
    (hw1 : t1.wf G) (hw2 : t2.wf G) (hr1 : G.body 0 = [t1.sym G]) (hr2 : G.body 0 = [t2.sym G])
    (hy : t1.yield = t2.yield) : t1 = t2 :=
  hu.any_positions hw1 hw2 hr1 hr2 hy

/-! ### tables level -/

/-- (completeness along a given tree) for every well-formed tree `t` of the input `w`, Parse
    accepts — with some fuel, hence with every larger fuel — and returns the evaluation of `t` -/
theorem C04_parse_follows_tree {G : NGrammar} {T : PTables} {fc : FirstCert} {c : CertLA}
    (hf : firstOk G fc = true) (hc : complete G T fc c = true)
    {cfg : PCfg} (hA : ActsOk cfg) (hT : cfg.T = T)
    {w : List Nat} {t : PT} (hwf : t.wf G) (hroot : G.body 0 = [t.sym G])
    (hy : t.yield = (List.range w.length).zip w) (old : PState) :
    ∃ fuel res ps, (∀ k : Nat, parse cfg w (fuel + k) old = (Outcome.accept res, ps)) ∧
      evalT cfg.T.prodKind t [] = some (res, ps.log) := by
  subst hT
  obtain ⟨n, res, ps, hp, he⟩ := Unambig.parse_follows_tree hf hc hA hwf hroot hy old
  exact ⟨n, res, ps, fun k => hp _ (Nat.le_add_right n k), he⟩

/-- (one run, all trees) whenever Parse accepts, its value and call log are the evaluation of
    EVERY well-formed tree of the input (under `Unambig.TreeKinds` there is only one) -/
theorem C04_result_is_eval_of_every_tree {G : NGrammar} {T : PTables} {fc : FirstCert} {c : CertLA}
    (hf : firstOk G fc = true) (hc : complete G T fc c = true)
    {cfg : PCfg} (hA : ActsOk cfg) (hT : cfg.T = T)
    {w : List Nat} {fuel : Nat} {old : PState} {res : Attr} {ps : PState}
    (hacc : parse cfg w fuel old = (Outcome.accept res, ps))
    {t : PT} (hwf : t.wf G) (hroot : G.body 0 = [t.sym G])
    (hy : t.yield = (List.range w.length).zip w) :
    evalT cfg.T.prodKind t [] = some (res, ps.log) := by
  subst hT
  exact Unambig.result_is_eval_of_every_tree hf hc hA hacc hwf hroot hy

/-- (C04, tables) tables that pass the completeness validator exist only for unambiguous grammars -/
theorem C04_complete_tables_unambiguous {G : NGrammar} {T : PTables} {fc : FirstCert} {c : CertLA}
    (hf : firstOk G fc = true) (hc : complete G T fc c = true) : Unambiguous G := by
  intro w t1 t2 hw1 hw2 hr1 hr2 hy1 hy2
  have hA := Unambig.actsOk_treeCfg T G.prods.size
  have hc' : complete G (Unambig.treeCfg T G.prods.size).T fc c = true := hc
  -- the run that follows `t1` also evaluates `t2`
  obtain ⟨n, r, ps, hp, he1⟩ := Unambig.parse_follows_tree hf hc' hA hw1 hr1 hy1 default
  have he2 := Unambig.result_is_eval_of_every_tree hf hc' hA (hp n (Nat.le_refl _)) hw2 hr2 hy2
  exact Unambig.evalT_inj (Unambig.treeKinds_treeCfg T G.prods.size) t1 t2 hw1 hw2 [] [] _ _ _ he1 he2

/-- the same, spelled out for two trees with equal yields (any positions) -/
theorem C04_complete_tables_unambiguous' {G : NGrammar} {T : PTables} {fc : FirstCert} {c : CertLA}
    (hf : firstOk G fc = true) (hc : complete G T fc c = true) {t1 t2 : PT}
    (hw1 : t1.wf G) (hw2 : t2.wf G) (hr1 : G.body 0 = [t1.sym G]) (hr2 : G.body 0 = [t2.sym G])
    (hy : t1.yield = t2.yield) : t1 = t2 :=
  (C04_complete_tables_unambiguous hf hc).any_positions hw1 hw2 hr1 hr2 hy

/-! ### generator level -/

/-- (C04-gen) a grammar for which the generator records no conflict is unambiguous -/
theorem C04_no_conflict_unambiguous {syn : List SProd} {tokIds : List String} {r : LRResult}
    (h : genParser syn tokIds = .ok r) (hn : NamesOk syn tokIds) (hx : CompleteNamesOk syn)
    (hsz : r.states.size ≤ 4096) (hc : r.tables.conflictStates = 0) :
    Unambiguous (ngrammarOf (augment syn) r.tables.terminals r.tables.nts) :=
  C04_complete_tables_unambiguous (C02_genParser_complete syn tokIds r h hn hsz hc hx).1
    (C02_genParser_complete syn tokIds r h hn hsz hc hx).2

/-- (C04-gen, contrapositive) if some input has two different parse trees, the generator records
    a conflict -/
theorem C04_ambiguous_has_conflict {syn : List SProd} {tokIds : List String} {r : LRResult}
    (h : genParser syn tokIds = .ok r) (hn : NamesOk syn tokIds) (hx : CompleteNamesOk syn)
    (hsz : r.states.size ≤ 4096) {t1 t2 : PT}
    (hw1 : t1.wf (ngrammarOf (augment syn) r.tables.terminals r.tables.nts))
    (hw2 : t2.wf (ngrammarOf (augment syn) r.tables.terminals r.tables.nts))
    (hr1 : (ngrammarOf (augment syn) r.tables.terminals r.tables.nts).body 0 =
      [t1.sym (ngrammarOf (augment syn) r.tables.terminals r.tables.nts)])
    (hr2 : (ngrammarOf (augment syn) r.tables.terminals r.tables.nts).body 0 =
      [t2.sym (ngrammarOf (augment syn) r.tables.terminals r.tables.nts)])
    (hy : t1.yield = t2.yield) (hne : t1 ≠ t2) : r.tables.conflictStates ≠ 0 :=
  fun hc => hne ((C04_no_conflict_unambiguous h hn hx hsz hc).any_positions hw1 hw2 hr1 hr2 hy)

/-- (C04-gen, by kind) `C04_no_conflict_unambiguous` for the grammar as written -/
theorem C04_no_conflict_unambiguous_kind {syn : List SProd} {tokIds : List String} {r : LRResult}
    (h : genParser syn tokIds = .ok r) (hn : NamesOk syn tokIds) (hs : SpellingsOk syn tokIds)
    (hx : CompleteNamesOk syn) (hsz : r.states.size ≤ 4096) (hc : r.tables.conflictStates = 0) :
    Unambiguous (ngrammarSpec (augment syn) r.tables.terminals r.tables.nts) := by
  rw [ngrammarSpec_eq_ngrammarOf h hs]
  exact C04_no_conflict_unambiguous h hn hx hsz hc

/-- (C04-gen, contrapositive, by kind) `C04_ambiguous_has_conflict` for the grammar as written -/
theorem C04_ambiguous_has_conflict_kind {syn : List SProd} {tokIds : List String} {r : LRResult}
    (h : genParser syn tokIds = .ok r) (hn : NamesOk syn tokIds) (hs : SpellingsOk syn tokIds)
    (hx : CompleteNamesOk syn) (hsz : r.states.size ≤ 4096) {t1 t2 : PT}
    (hw1 : t1.wf (ngrammarSpec (augment syn) r.tables.terminals r.tables.nts))
    (hw2 : t2.wf (ngrammarSpec (augment syn) r.tables.terminals r.tables.nts))
    (hr1 : (ngrammarSpec (augment syn) r.tables.terminals r.tables.nts).body 0 =
      [t1.sym (ngrammarSpec (augment syn) r.tables.terminals r.tables.nts)])
    (hr2 : (ngrammarSpec (augment syn) r.tables.terminals r.tables.nts).body 0 =
      [t2.sym (ngrammarSpec (augment syn) r.tables.terminals r.tables.nts)])
    (hy : t1.yield = t2.yield) (hne : t1 ≠ t2) : r.tables.conflictStates ≠ 0 :=
  fun hc =>
    hne ((C04_no_conflict_unambiguous_kind h hn hs hx hsz hc).any_positions hw1 hw2 hr1 hr2 hy)

/-! ### Non-vacuity -/
namespace C04UnambigEx

/-! #### (a) `S : a S b | c` is unambiguous -/

open C02GenCompleteEx (Gex names_ok cnames_ok hyps)

/-- through the generator-level theorem (no validator run, no evaluation of `parse`) -/
theorem gen_unambiguous (r : LRResult) (h : genParser C02GenEx.syn C02GenEx.ids = .ok r) :
    Unambiguous (ngrammarOf (augment C02GenEx.syn) r.tables.terminals r.tables.nts) :=
  C04_no_conflict_unambiguous h names_ok cnames_ok (hyps h).1 (hyps h).2.1

/-- the run exists, and its numbered grammar is `Gex`: `S' : S ; S : a S b | c` is unambiguous -/
theorem gex_unambiguous : Unambiguous Gex := by
  obtain ⟨r, h⟩ := C02GenEx.run_ok
  have := gen_unambiguous r h
  rw [(hyps h).2.2.2.2] at this
  exact this

/-- … and by kind -/
example (r : LRResult) (h : genParser C02GenEx.syn C02GenEx.ids = .ok r) :
    Unambiguous (ngrammarSpec (augment C02GenEx.syn) r.tables.terminals r.tables.nts) :=
  C04_no_conflict_unambiguous_kind h names_ok C02KindEx.spellingsOk cnames_ok (hyps h).1
    (hyps h).2.1

/-- the tree of `a c b` … -/
def tacb : PT := .node 1 [.leaf 0 2, .node 2 [.leaf 1 4], .leaf 2 3]

theorem tacb_wf : tacb.wf Gex := by
  simp [tacb, PT.wf, PT.wfL, PT.sym, Gex, NGrammar.body, NGrammar.head]

/-- … is the only one: every well-formed tree of `a c b` is this tree (the definition is not
    vacuously satisfied: there are trees to compare) -/
example (t : PT) (hw : t.wf Gex) (hr : Gex.body 0 = [t.sym Gex])
    (hy : t.yield = [(0, 2), (1, 4), (2, 3)]) : t = tacb :=
  gex_unambiguous [2, 4, 3] t tacb hw tacb_wf hr rfl hy rfl

/-! #### (b) `E : E + E | x` is ambiguous, hence the generator records a conflict -/

open C02GenCompleteEx (ambig)

def idsA : List String := ["+", "x"]

/-- `S' : E ; E : E + E | x` with `+ x` = 2 3 -/
def Gamb : NGrammar :=
  { prods := #[(0, [Sym.nt 1]), (1, [Sym.nt 1, Sym.t 2, Sym.nt 1]), (1, [Sym.t 3])] }

theorem gamb_eq : ngrammarOf (augment ambig) ["INVALID", "␚", "+", "x"] ["S'", "E"] = Gamb :=
  NGrammar.ext_prods (by decide +kernel)

/-- `(x + x) + x` -/
def tL : PT :=
  .node 1 [.node 1 [.node 2 [.leaf 0 3], .leaf 1 2, .node 2 [.leaf 2 3]], .leaf 3 2,
    .node 2 [.leaf 4 3]]
/-- `x + (x + x)` -/
def tR : PT :=
  .node 1 [.node 2 [.leaf 0 3], .leaf 1 2,
    .node 1 [.node 2 [.leaf 2 3], .leaf 3 2, .node 2 [.leaf 4 3]]]

theorem tL_wf : tL.wf Gamb := by
  simp [tL, PT.wf, PT.wfL, PT.sym, Gamb, NGrammar.body, NGrammar.head]
theorem tR_wf : tR.wf Gamb := by
  simp [tR, PT.wf, PT.wfL, PT.sym, Gamb, NGrammar.body, NGrammar.head]
theorem tL_yield : tL.yield = (List.range 5).zip [3, 2, 3, 2, 3] := by
  simp [tL, PT.yield, PT.yieldL]; decide
theorem tR_yield : tR.yield = (List.range 5).zip [3, 2, 3, 2, 3] := by
  simp [tR, PT.yield, PT.yieldL]; decide
theorem tL_ne_tR : tL ≠ tR := by
  intro h
  simp [tL, tR] at h

/-- two different trees of `x + x + x`: the grammar is ambiguous -/
theorem gamb_ambiguous : ¬ Unambiguous Gamb :=
  fun hu => tL_ne_tR (hu [3, 2, 3, 2, 3] tL tR tL_wf tR_wf rfl rfl tL_yield tR_yield)

/-- what we need to know about a run -/
structure Facts where
  nStates : Nat
  conflicts : Nat
  terminals : List String
  nts : List String
deriving DecidableEq

def facts (r : LRResult) : Facts :=
  { nStates := r.states.size, conflicts := r.tables.conflictStates,
    terminals := r.tables.terminals, nts := r.tables.nts }

theorem facts_of_run {g : Except String LRResult} {F : Facts}
    (hrun : g.toOption.map facts = some F) {r : LRResult} (h : g = .ok r) : facts r = F := by
  subst h
  exact Option.some.inj hrun

/-- kernel evaluation of the generator model: 5 states, ONE state with a conflict -/
theorem runA : (genParser ambig idsA).toOption.map facts =
    some { nStates := 5, conflicts := 1, terminals := ["INVALID", "␚", "+", "x"],
           nts := ["S'", "E"] } := by
  decide +kernel

theorem runA_ok : ∃ r, genParser ambig idsA = .ok r := by
  have h := runA
  cases hg : genParser ambig idsA with
  | error e => rw [hg] at h; cases h
  | ok r => exact ⟨r, rfl⟩

/-- THROUGH THE CONTRAPOSITIVE (the conflict count of the run is not looked at): every successful
    run of the generator on `E : E + E | x` records a conflict -/
theorem ambig_has_conflict (r : LRResult) (h : genParser ambig idsA = .ok r) :
    r.tables.conflictStates ≠ 0 := by
  obtain ⟨f1, -, f3, f4⟩ := Facts.mk.inj (facts_of_run runA h)
  refine C04_ambiguous_has_conflict h (by decide +kernel) (by decide +kernel)
    (by rw [f1]; decide +kernel)
    (t1 := tL) (t2 := tR) ?_ ?_ ?_ ?_ (tL_yield.trans tR_yield.symm) tL_ne_tR
  all_goals rw [f3, f4, gamb_eq]
  · exact tL_wf
  · exact tR_wf
  · rfl
  · rfl

/-- … confirmed by the kernel evaluation: exactly one conflicting state -/
example (r : LRResult) (h : genParser ambig idsA = .ok r) : r.tables.conflictStates = 1 :=
  (Facts.mk.inj (facts_of_run runA h)).2.1

/-- … also for the grammar read by kind -/
example (r : LRResult) (h : genParser ambig idsA = .ok r) : r.tables.conflictStates ≠ 0 := by
  obtain ⟨f1, -, f3, f4⟩ := Facts.mk.inj (facts_of_run runA h)
  refine C04_ambiguous_has_conflict_kind h (by decide +kernel) (by decide +kernel)
    (by decide +kernel) (by rw [f1]; decide +kernel)
    (t1 := tL) (t2 := tR) ?_ ?_ ?_ ?_ (tL_yield.trans tR_yield.symm) tL_ne_tR
  all_goals rw [ngrammarSpec_eq_ngrammarOf h (by decide +kernel), f3, f4, gamb_eq]
  · exact tL_wf
  · exact tR_wf
  · rfl
  · rfl

/-! #### (c) an ε-cycle: `S : A S | b ; A : empty` -/

def epsCycle : List SProd :=
  [{ head := "S", body := [⟨.prodId, "A"⟩, ⟨.prodId, "S"⟩] },
   { head := "S", body := [⟨.tokId, "b"⟩] },
   { head := "A", body := [⟨.tokId, "empty"⟩] }]

/-- `S' : S ; S : A S | b ; A : ε` with `b` = 2 -/
def Geps : NGrammar :=
  { prods := #[(0, [Sym.nt 1]), (1, [Sym.nt 2, Sym.nt 1]), (1, [Sym.t 2]), (2, [])] }

/-- `b` -/
def tb : PT := .node 2 [.leaf 0 2]
/-- `ε b` -/
def teb : PT := .node 1 [.node 3 [], .node 2 [.leaf 0 2]]

theorem tb_wf : tb.wf Geps := by
  simp [tb, PT.wf, PT.wfL, PT.sym, Geps, NGrammar.body]
theorem teb_wf : teb.wf Geps := by
  simp [teb, PT.wf, PT.wfL, PT.sym, Geps, NGrammar.body, NGrammar.head]

/-- kernel evaluation of the generator model: 5 states, two of them with a conflict -/
theorem runE : (genParser epsCycle ["b"]).toOption.map facts =
    some { nStates := 5, conflicts := 2, terminals := ["INVALID", "␚", "b", "empty"],
           nts := ["S'", "S", "A"] } := by
  decide +kernel

theorem geps_eq :
    ngrammarOf (augment epsCycle) ["INVALID", "␚", "b", "empty"] ["S'", "S", "A"] = Geps :=
  NGrammar.ext_prods (by decide +kernel)

/-- through the contrapositive: two trees of `b`, hence every successful run records a conflict
    (the conflict count of the run is not looked at) -/
theorem epsCycle_conflict (r : LRResult) (h : genParser epsCycle ["b"] = .ok r) :
    r.tables.conflictStates ≠ 0 := by
  obtain ⟨f1, -, f3, f4⟩ := Facts.mk.inj (facts_of_run runE h)
  refine C04_ambiguous_has_conflict h (by decide +kernel) (by decide +kernel)
    (by rw [f1]; decide +kernel)
    (t1 := tb) (t2 := teb) ?_ ?_ ?_ ?_ (by simp [tb, teb, PT.yield, PT.yieldL]) ?_
  · rw [f3, f4, geps_eq]; exact tb_wf
  · rw [f3, f4, geps_eq]; exact teb_wf
  · rw [f3, f4, geps_eq]; rfl
  · rw [f3, f4, geps_eq]; rfl
  · intro h; simp [tb, teb] at h

/-- … confirmed by the kernel evaluation: two conflicting states -/
example (r : LRResult) (h : genParser epsCycle ["b"] = .ok r) : r.tables.conflictStates = 2 :=
  (Facts.mk.inj (facts_of_run runE h)).2.1

end C04UnambigEx

end Gocc

