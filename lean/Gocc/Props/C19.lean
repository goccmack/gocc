import Gocc.Proofs.Md
/-
C19 — `md.loadMd` blanks everything outside ``` fences, keeps every newline, keeps the length.

Quantifier: all finite rune sequences `l : List Int` (no bound), `loadMd` being the model of
the Go function `loadMd` (in-place; the model returns the final slice contents).
Runes: 10 = '\n', 32 = ' ', 96 = '`'.

The first three theorems hold for every input.  `C19_document` is the functional specification on
structured documents `prose0 ``` code1 ``` prose1 ``` code2 ``` prose2 ...`; it needs a hypothesis because of a
quirk of the Go code (mirrored by the model): the rune directly after a fence is processed
without being tested for the start of another fence, and fences are matched greedily from the
left.
-/
namespace Gocc

/-- the length is unchanged -/
theorem C19_length (l : List Int) : (loadMd l).length = l.length :=
  (loadMd_rel l).length_eq

/-- every newline stays where it was, and no new newline appears -/
theorem C19_newlines_kept (l : List Int) (i : Nat) :
    (loadMd l)[i]? = some 10 ↔ l[i]? = some 10 := by
  rcases (loadMd_rel l).get i with ⟨h1, h2⟩ | ⟨a, b, h1, h2, h3⟩
  · simp [h1, h2]
  · simp only [h1, h2, Option.some.injEq]; omega

/-- every rune is either kept or replaced by a blank -/
theorem C19_keep_or_blank (l : List Int) (i : Nat) (c : Int) (h : l[i]? = some c) :
    (loadMd l)[i]? = some c ∨ (loadMd l)[i]? = some 32 := by
  rcases (loadMd_rel l).get i with ⟨h1, _⟩ | ⟨a, b, h1, h2, h3⟩
  · simp [h1] at h
  · simp only [h1, Option.some.injEq] at h
    simp only [h2, Option.some.injEq]; omega

/-! ### structured documents

A document is `prose0` followed by blocks `(code_i, prose_i)`.
`mdFence = [96,96,96]` (`Proofs/Md.lean`), `mdBlank c = if c = 10 then 10 else 32` (model file). -/

/-- ```` ``` code_1 ``` prose_1 ``` code_2 ``` prose_2 ... ```` -/
def mdRenderBlocks : List (List Int × List Int) → List Int
  | [] => []
  | (code, prose) :: bs => mdFence ++ (code ++ (mdFence ++ (prose ++ mdRenderBlocks bs)))

def mdRender (prose0 : List Int) (bs : List (List Int × List Int)) : List Int :=
  prose0 ++ mdRenderBlocks bs

def mdExpectedBlocks : List (List Int × List Int) → List Int
  | [] => []
  | (code, prose) :: bs =>
    [32, 32, 32] ++ (code ++ ([32, 32, 32] ++ (prose.map mdBlank ++ mdExpectedBlocks bs)))

def mdExpected (prose0 : List Int) (bs : List (List Int × List Int)) : List Int :=
  prose0.map mdBlank ++ mdExpectedBlocks bs

/-- Hypothesis on the pieces (`hasFence`, `startOk`, `midOk`, `lastOk` are in `Proofs/Md.lean`):
    * a piece between two fences (`midOk`) is non-empty, and from its *second* rune on it
      contains no ``` and does not end in a back-quote;
    * the prose after the last fence (`lastOk`) may be empty, and from its second rune on it
      contains no ```. -/
def mdBlocksOk : List (List Int × List Int) → Bool
  | [] => true
  | (code, prose) :: bs =>
    midOk code && (if bs.isEmpty then lastOk prose else midOk prose) && mdBlocksOk bs

/-- * `prose0`, when a fence follows (`startOk`), contains no ``` and does not end in a
      back-quote (it may be empty); without any block it just contains no ```;
    * the blocks satisfy `mdBlocksOk`. -/
def mdDocOk (prose0 : List Int) (bs : List (List Int × List Int)) : Bool :=
  (if bs.isEmpty then !hasFence prose0 else startOk prose0) && mdBlocksOk bs

/-- the blocks part, started at a position where fences are recognised -/
theorem C19_blocks (bs : List (List Int × List Int)) (h : mdBlocksOk bs = true) :
    loadMdAux true 0 false (mdRenderBlocks bs) = mdExpectedBlocks bs := by
  induction bs with
  | nil => rfl
  | cons b bs ih =>
    obtain ⟨code, prose⟩ := b
    simp only [mdBlocksOk, Bool.and_eq_true] at h
    obtain ⟨⟨hc, hp⟩, hbs⟩ := h
    have ih' := ih hbs
    simp only [mdRenderBlocks, mdExpectedBlocks]
    rw [loadMdAux_fence, loadMdAux_mid _ _ _ hc, loadMdAux_fence]
    simp only [Bool.not_true, Bool.not_false, map_mdKeep_false]
    cases bs with
    | nil =>
      simp only [List.isEmpty_nil, if_true] at hp
      simp only [mdRenderBlocks, mdExpectedBlocks, List.append_nil, loadMdAux_last _ _ hp,
        map_mdKeep_true]
    | cons b' bs' =>
      obtain ⟨c', p'⟩ := b'
      simp only [List.isEmpty_cons, Bool.false_eq_true, if_false] at hp
      simp only [mdRenderBlocks] at ih' ⊢
      rw [loadMdAux_mid _ _ _ hp, map_mdKeep_true, ih']

/-- on a structured document, prose (and the fences) are blanked except for newlines, and
    code is kept verbatim -/
theorem C19_document (prose0 : List Int) (bs : List (List Int × List Int))
    (h : mdDocOk prose0 bs = true) : loadMd (mdRender prose0 bs) = mdExpected prose0 bs := by
  simp only [mdDocOk, Bool.and_eq_true] at h
  obtain ⟨h0, hbs⟩ := h
  have hb := C19_blocks bs hbs
  unfold loadMd mdRender mdExpected
  cases bs with
  | nil =>
    simp only [List.isEmpty_nil, if_true, Bool.not_eq_true'] at h0
    simp only [mdRenderBlocks, mdExpectedBlocks, List.append_nil, loadMdAux_noFence _ _ h0,
      map_mdKeep_true]
  | cons b bs =>
    obtain ⟨c, p⟩ := b
    simp only [List.isEmpty_cons, Bool.false_eq_true, if_false] at h0
    simp only [mdRenderBlocks] at hb ⊢
    rw [loadMdAux_start _ _ _ h0, map_mdKeep_true, hb]

/-! ### non-vacuity -/

/-- "# T\nintro\n" -/
def exProse0 : List Int := [35, 32, 84, 10, 105, 110, 116, 114, 111, 10]
/-- "\nA : `b` c ;\n" (code with single back-quotes in the middle) -/
def exCode1 : List Int := [10, 65, 32, 58, 32, 96, 98, 96, 32, 99, 32, 59, 10]
/-- "\nsee `x`.\n" -/
def exProse1 : List Int := [10, 115, 101, 101, 32, 96, 120, 96, 46, 10]
/-- "\nB : 'y' ;\n" -/
def exCode2 : List Int := [10, 66, 32, 58, 32, 39, 121, 39, 32, 59, 10]
/-- "\nend\n" -/
def exProse2 : List Int := [10, 101, 110, 100, 10]

def exBlocks : List (List Int × List Int) := [(exCode1, exProse1), (exCode2, exProse2)]

example : mdDocOk exProse0 exBlocks = true := by decide +kernel

example : loadMd (mdRender exProse0 exBlocks) = mdExpected exProse0 exBlocks := by decide +kernel

/-- the same equation through the theorem -/
example : loadMd (mdRender exProse0 exBlocks) = mdExpected exProse0 exBlocks :=
  C19_document _ _ (by decide +kernel)

/-- a document that ends directly with the closing fence, and one without any fence -/
example : mdDocOk exProse0 [(exCode1, [])] = true := by decide +kernel
example : mdDocOk exProse0 [] = true := by decide +kernel

/-- the hypothesis is not vacuous the other way either: it rejects the quirk cases, and on
    them the equation really fails (empty code block; prose ending in a back-quote) -/
example : mdDocOk exProse0 [([], exProse1)] = false := by decide +kernel
example : loadMd (mdRender exProse0 [([], exProse1)]) ≠ mdExpected exProse0 [([], exProse1)] := by
  decide +kernel
example : mdDocOk [120, 96] [(exCode1, [])] = false := by decide +kernel
example : loadMd (mdRender [120, 96] [(exCode1, [])]) ≠ mdExpected [120, 96] [(exCode1, [])] := by
  decide +kernel

/-- a concrete input: "a\n```\nb`\n```c" -/
example : loadMd [97, 10, 96, 96, 96, 10, 98, 96, 10, 96, 96, 96, 99] =
    [32, 10, 32, 32, 32, 10, 98, 96, 10, 32, 32, 32, 32] := by decide +kernel

end Gocc
