import Gocc.Props.C10
import Gocc.Props.C05Gen
/-
C10 at generator level — "the generated parser's tables are indexed by exactly these numbers".

For EVERY grammar on which the generator model returns tables: the terminal list stored with the
tables is the symbol table's terminal list (the one `C10_numbering` / `C10_token_map` speak about,
which `GenToken` prints as `TokMap`); the action table has one row per state and every row has
exactly one column per terminal, so that column `t` of every row is the column of the terminal
numbered `t` (`C10_genParser_columns`); and what stands in row `s`, column `t` is the action for
the state `s` and the terminal NAMED `tokId terminals t` (`C10_genParser_entry_by_name`, through
`C05_genParser_entry`).  The goto table has one row per state and one column per non-terminal of
`ntList`, and `prodNT[p]` is the `ntList` index of the head of production `p`.

Quantifier: all syntax parts and token-id lists; all states; all terminal numbers.
-/
namespace Gocc

theorem C10_genParser_columns {syn : List SProd} {ids : List String} {r : LRResult}
    (h : genParser syn ids = .ok r) :
    r.tables.terminals = r.ctx.S.terminals ∧
    r.tables.action.size = r.tables.nStates ∧
    (∀ row ∈ r.tables.action.toList, row.size = r.tables.terminals.length) ∧
    r.tables.goto_.size = r.tables.nStates ∧
    (∀ row ∈ r.tables.goto_.toList, row.size = r.tables.nts.length) := by
  obtain ⟨_, -, hterms, -, -, -, -, -, hn⟩ := genParser_tables h
  obtain ⟨h1, h2, -⟩ := tables_shape h
  exact ⟨hterms, h1.trans hn.symm, hterms ▸ h2, genParser_gotoRect h⟩

/-- row `s`, column `t` holds the resolved action of state `s` for the terminal whose NAME the
    token map gives for number `t` -/
theorem C10_genParser_entry_by_name {syn : List SProd} {ids : List String} {r : LRResult}
    (h : genParser syn ids = .ok r) {s t : Nat} {st : LRState}
    (hs : r.states[s]? = some st) (ht : t < r.tables.terminals.length) :
    r.tables.act s t = specResolve (proposals r.ctx st (tokId r.tables.terminals t)) := by
  have hterms := (C10_genParser_columns h).1
  have ht' : t < r.ctx.S.terminals.length := by rw [← hterms]; exact ht
  have hget : r.ctx.S.terminals[t]? = some (tokId r.tables.terminals t) := by
    rw [hterms]; simp [tokId, ht']
  exact C05_genParser_entry h hs hget

/-! ### non-vacuity -/

/-- four terminals (INVALID, end of input, `p`, `n`), one row per state, every row four columns
    wide -/
example : (genParser C05GenEx.synSR ["n", "p"]).toOption.map (fun r =>
    decide (r.tables.terminals.length = 4 ∧ r.tables.action.size = r.tables.nStates ∧ 1 < r.tables.nStates ∧
      r.tables.action.toList.all (fun row => row.size == 4))) = some true :=
  toOption_map_of C05GenEx.runSR (·.2.2.2.2)

end Gocc
