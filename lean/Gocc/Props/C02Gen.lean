import Gocc.Proofs.GenSafe
import Gocc.Props.C03
/-
C02 / C03 at the generator level — for EVERY grammar, the tables computed by the generator model
pass the verified validator, hence the generated parser is sound for every grammar (not only for
the grammars a run happens to validate).

Object: `genParser syn tokIds` (Model/LR1.lean: `augment`, `newSymbols`, `addTokens`, `firstSets`,
`closure`, `goto`, `lrExpand`/`lrLoop`, `setAction`/`itemAction`/`resolve`, table layout), the
validator `safe` (Model/Validate.lean) and `safeEnds` (Proofs/Validate.lean), the numbered grammar
`ngrammarOf (augment syn) terminals nts` and the certificate `certOf states` (the model's own item
sets, look-aheads dropped) — exactly the arguments with which the validator is run per grammar.

Quantifiers: all `syn : List SProd`, all `tokIds : List String`, all `r` with
`genParser syn tokIds = .ok r` (the generator did not panic: no string literal spelled like a
production name, no unresolvable conflict), under the side conditions below.

Side condition `NamesOk syn tokIds` (Proofs/GenSafe.lean, decidable, checked by `decide` for a
concrete grammar):
    syn ≠ [] ∧ (∀ p ∈ syn.take 1, p.head ≠ "S'" ∧ p.head ≠ "empty") ∧
    "␚" ∉ heads ∧ "INVALID" ∉ heads ∧
    "S'" ∉ body symbols ∧ "␚" ∉ body symbols ∧ "" ∉ body symbols ∧ "" ∉ tokIds
Why each clause is there (gocc's own scanner cannot produce any of these spellings; rejected
grammars for all clauses but one are at the end of this file):
  * `syn = []`: there is no production 0;
  * start symbol spelled `empty`: `prodLen` makes production 0 an empty alternative, `G.body 0 = []`;
  * `S'` in a body: the closure re-creates the start item `S' : •Start` in states other than 0;
  * start symbol spelled `S'`: production 0 would be `S' : S'`, an item expecting its own head;
    excluded for the proof (the lemma "no item expects `S'`" fails) — this is the one clause
    for which no rejected grammar is exhibited below;
  * a head spelled `␚` / `INVALID`: that name is then a non-terminal, so end of input is not
    column 1 of the action table;
  * `␚` in a body: end of input is shifted;
  * a terminal spelled `` (empty string): `Item.action` compares the column symbol with
    `ExpectedSymbol()`, which is `""` for a complete item, and proposes `shift` to the default
    next state 0.
  NOT needed (and not assumed): `INVALID` / `␚` may occur among `tokIds` (they are in the symbol
  table anyway), `INVALID` may occur in a body (column 0 never holds an action), `S'` may be the
  head of a later production, string literals vs. production names (`newSymbols` already failed).

Extra hypothesis `r.states.size ≤ 4096` of `C02_genParser_safe`: the model's `lrLoop` expands at
most `maxStates = 4096` states.  A state beyond that bound would have no transitions, and
`setAction` would give it `shift 0` (`nextState` defaults to 0) on every terminal some item expects —
which `safeEnds` rightly rejects.  `r.states.size ≤ 4096` says that the fuel was not exhausted
(every state was expanded, `C02_genParser_item_sets`).  The `safe` half does not need it
(`C02_genParser_safe_any_size`).

Proof (Proofs/GenSafe.lean, on Proofs/LRLoop.lean and Proofs/GenTables.lean): invariant of
`lrExpand`/`lrLoop` (`LRInv`: state 0 is the closure of
`S' : •Start, ␚`; every other state is a `goto` set; a recorded transition `(X, idx)` leads to a
state `≠ 0` whose items are contained in `goto` of the source on `X`); members of `closure` / `goto`
are advanced kernel items or dot-0 items whose head is expected by some item; the action kept by
the fold of `setAction` is proposed by one of the items (`foldActs_inv`, Proofs/ActionFold.lean);
index ↔ name translation of rows, columns and body symbols.
-/
namespace Gocc

/-- (C02-gen) the tables generated for any grammar pass the soundness validator. -/
theorem C02_genParser_safe (syn : List SProd) (tokIds : List String) (r : LRResult)
    (h : genParser syn tokIds = .ok r) (hn : NamesOk syn tokIds) (hsz : r.states.size ≤ 4096) :
    safe (ngrammarOf (augment syn) r.tables.terminals r.tables.nts) r.tables (certOf r.states)
      = true ∧
    safeEnds r.tables (certOf r.states) = true :=
  ⟨genParser_safe h hn, genParser_safeEnds h hn hsz⟩

/-- the `safe` half holds whatever the number of states (an unexpanded state only produces
    `shift 0` entries, which `safe` tolerates and `safeEnds` rejects) -/
theorem C02_genParser_safe_any_size (syn : List SProd) (tokIds : List String) (r : LRResult)
    (h : genParser syn tokIds = .ok r) (hn : NamesOk syn tokIds) :
    safe (ngrammarOf (augment syn) r.tables.terminals r.tables.nts) r.tables (certOf r.states)
      = true :=
  genParser_safe h hn

/-- the facts about the item sets behind the theorem: the transition invariant, and — when the
    fuel of `lrLoop` was not exhausted — every state has a transition for every symbol with a
    non-empty `goto` set -/
theorem C02_genParser_item_sets (syn : List SProd) (tokIds : List String) (r : LRResult)
    (h : genParser syn tokIds = .ok r) (hn : NamesOk syn tokIds) :
    LRInv r.ctx (closure r.ctx [⟨0, 0, "␚"⟩]) r.states ∧
    (r.states.size ≤ 4096 → ∀ j, j < r.states.size → ∀ st : LRState, r.states[j]? = some st →
      ∀ X ∈ r.ctx.S.typeMap, goto r.ctx st.items X ≠ [] → ∃ idx, (X, idx) ∈ st.trans) :=
  genParser_inv h hn

/-- (C02-gen-sound) for every grammar: whatever the parser running the GENERATED tables accepts
    is a sentence of the grammar (`C02_accept_sound` instantiated with the generator's output).
    `hr`: no state can recover, i.e. the grammar has no `error` alternative. -/
theorem C02_generated_parser_sound {syn : List SProd} {tokIds : List String} {r : LRResult}
    (h : genParser syn tokIds = .ok r) (hn : NamesOk syn tokIds) (hsz : r.states.size ≤ 4096)
    (hr : ∀ s : Nat, r.tables.canRecover[s]?.getD false = false)
    {w : List Nat} (hw : 1 ∉ w) {cfg : PCfg} (hT : cfg.T = r.tables)
    {fuel : Nat} {old : PState} {res : Attr}
    (hacc : (parse cfg w fuel old).1 = Outcome.accept res) :
    NSentence (ngrammarOf (augment syn) r.tables.terminals r.tables.nts) w :=
  C02_accept_sound (C02_genParser_safe syn tokIds r h hn hsz).1
    (C02_genParser_safe syn tokIds r h hn hsz).2 hr hw hT hacc

/-- (C03-gen) for every grammar: the value and the call log of an accepting run of the parser
    with the GENERATED tables are the evaluation of a parse tree of the whole input
    (`C03_result_is_tree_eval` instantiated). -/
theorem C03_generated_result_is_tree_eval {syn : List SProd} {tokIds : List String} {r : LRResult}
    (h : genParser syn tokIds = .ok r) (hn : NamesOk syn tokIds) (hsz : r.states.size ≤ 4096)
    (hr : ∀ s : Nat, r.tables.canRecover[s]?.getD false = false)
    {w : List Nat} (hw : 1 ∉ w) {cfg : PCfg} (hT : cfg.T = r.tables)
    {fuel : Nat} {old : PState} {res : Attr} {ps : PState}
    (hacc : parse cfg w fuel old = (Outcome.accept res, ps)) :
    ∃ t : PT, t.wf (ngrammarOf (augment syn) r.tables.terminals r.tables.nts) ∧
      (ngrammarOf (augment syn) r.tables.terminals r.tables.nts).body 0 =
        [t.sym (ngrammarOf (augment syn) r.tables.terminals r.tables.nts)] ∧
      t.yield = (List.range w.length).zip w ∧
      evalT r.tables.prodKind t [] = some (res, ps.log) :=
  C03_result_is_tree_eval (C02_genParser_safe syn tokIds r h hn hsz).1
    (C02_genParser_safe syn tokIds r h hn hsz).2 hr hw hT hacc

/-- (C03-gen, failing action) with the generated tables the failing call is reported as an action
    error (`C03_failing_action_is_reported` instantiated) -/
theorem C03_generated_failing_action_is_reported {syn : List SProd} {tokIds : List String}
    {r : LRResult} (h : genParser syn tokIds = .ok r) (hn : NamesOk syn tokIds)
    (hsz : r.states.size ≤ 4096) (hr : ∀ s : Nat, r.tables.canRecover[s]?.getD false = false)
    {w : List Nat} (hw : 1 ∉ w) {cfg : PCfg} (hT : cfg.T = r.tables) {k : Nat}
    (hk : cfg.failAt = k) (hk0 : k ≠ 0) {fuel : Nat} {old : PState} {o : Outcome} {ps : PState}
    (hrun : parse cfg w fuel old = (o, ps)) :
    ps.calls = k ↔ ∃ id i t e s, o = Outcome.actErr id i t e s :=
  C03_failing_action_is_reported (C02_genParser_safe syn tokIds r h hn hsz).1
    (C02_genParser_safe syn tokIds r h hn hsz).2 hr hw hT hk hk0 hrun

/-! ### Non-vacuity: `S : a S b <<10>> | c <<11>>` -/
namespace C02GenEx

def syn : List SProd := [
  { head := "S", body := [⟨.tokId, "a"⟩, ⟨.prodId, "S"⟩, ⟨.tokId, "b"⟩], act := 1, actId := 10 },
  { head := "S", body := [⟨.tokId, "c"⟩], act := 1, actId := 11 } ]

def ids : List String := ["a", "b", "c"]

example : NamesOk syn ids := by decide

/-- the side condition is not trivially true: a grammar that uses `S'` in a body, one whose start
    symbol is spelled `empty`, one with a token spelled `` -/
example : ¬ NamesOk [{ head := "S", body := [⟨.prodId, "S'"⟩] }] [] := by decide
example : ¬ NamesOk [{ head := "empty", body := [⟨.tokId, "a"⟩] }] ["a"] := by decide
example : ¬ NamesOk syn ["", "a", "b", "c"] := by decide

def acceptsW (T : PTables) (w : List Nat) : Bool :=
  match (parse { T := T, errTerm := 0, failAt := 0 } w 50 default).1 with
  | .accept _ => true
  | _ => false

def errOf : Outcome → Option (Nat × Nat × List Nat × Nat)
  | .synErr i typ exp top => some (i, typ, exp, top)
  | _ => none

theorem errOf_eq {o : Outcome} {i typ top : Nat} {exp : List Nat}
    (h : errOf o = some (i, typ, exp, top)) : o = Outcome.synErr i typ exp top := by
  cases o <;> simp only [errOf, Option.some.injEq, Prod.mk.injEq, reduceCtorEq] at h
  obtain ⟨rfl, rfl, rfl, rfl⟩ := h
  rfl

/-- what we look at in a run: number of states, the tables (terminals: 0 INVALID, 1 ␚, 2 a, 3 b,
    4 c), no recovery state, the validator evaluated directly on the generated tables, and the
    parser's verdict on `a a c b b` and on `a c` (for the latter also the error it reports, which
    Props/C06Gen.lean reads) -/
structure Summary where
  nStates : Nat
  terminals : List String
  nts : List String
  action : List (List (Option Act))
  goto_ : List (List Int)
  noRecovery : Bool
  safe : Bool
  safeEnds : Bool
  aacbb : Bool
  ac : Bool
  acErr : Option (Nat × Nat × List Nat × Nat)
deriving DecidableEq

def summary (r : LRResult) : Summary :=
  { nStates := r.states.size, terminals := r.tables.terminals, nts := r.tables.nts,
    action := r.tables.action.toList.map (·.toList),
    goto_ := r.tables.goto_.toList.map (·.toList),
    noRecovery := r.tables.canRecover.toList.all (fun b => !b),
    safe := Gocc.safe (ngrammarOf (augment syn) r.tables.terminals r.tables.nts) r.tables
      (certOf r.states),
    safeEnds := Gocc.safeEnds r.tables (certOf r.states),
    aacbb := acceptsW r.tables [2, 2, 4, 3, 3], ac := acceptsW r.tables [2, 4],
    acErr := errOf (parse { T := r.tables, errTerm := 0, failAt := 0 } [2, 4] 50 default).1 }

/-- the generator model run on the grammar (kernel evaluation; `decide` alone cannot unfold the
    `mergeSort` inside `first1`): 10 states, and the validator — evaluated directly, for
    comparison with the theorem — answers `true`, `true` -/
theorem run : (genParser syn ids).toOption.map summary =
    some
      { nStates := 10, terminals := ["INVALID", "␚", "a", "b", "c"], nts := ["S'", "S"],
        action := [
          [none, none, some (.shift 2), none, some (.shift 3)],
          [none, some .accept, none, none, none],
          [none, none, some (.shift 5), none, some (.shift 6)],
          [none, some (.reduce 2), none, none, none],
          [none, none, none, some (.shift 7), none],
          [none, none, some (.shift 5), none, some (.shift 6)],
          [none, none, none, some (.reduce 2), none],
          [none, some (.reduce 1), none, none, none],
          [none, none, none, some (.shift 9), none],
          [none, none, none, some (.reduce 1), none]],
        goto_ := [[-1, 1], [-1, -1], [-1, 4], [-1, -1], [-1, -1], [-1, 8], [-1, -1], [-1, -1],
          [-1, -1], [-1, -1]],
        noRecovery := true, safe := true, safeEnds := true, aacbb := true, ac := false,
        acErr := some (2, 1, [3], 6) } := by
  decide +kernel

theorem run_ok : ∃ r, genParser syn ids = .ok r :=
  (exists_of_toOption_map run).imp fun _ h => h.1

theorem run_summary {r : LRResult} (h : genParser syn ids = .ok r) :
    r.states.size = 10 ∧ (r.tables.canRecover.toList.all (fun b => !b)) = true :=
  ⟨congrArg Summary.nStates (of_toOption_map run h),
    congrArg Summary.noRecovery (of_toOption_map run h)⟩

/-- the theorem applies to this run: the generated tables pass the validator (here obtained from
    `C02_genParser_safe`, in `run` from direct evaluation) -/
example (r : LRResult) (h : genParser syn ids = .ok r) :
    safe (ngrammarOf (augment syn) r.tables.terminals r.tables.nts) r.tables (certOf r.states)
      = true ∧ safeEnds r.tables (certOf r.states) = true :=
  C02_genParser_safe syn ids r h (by decide) (by rw [(run_summary h).1]; decide)

/-- the parser with the generated tables accepts `a a c b b` (token types 2 2 4 3 3) … -/
theorem accepts : (genParser syn ids).toOption.map (fun r =>
    match (parse { T := r.tables, errTerm := 0, failAt := 0 } [2, 2, 4, 3, 3] 50 default).1 with
    | .accept _ => true
    | _ => false) = some true :=
  toOption_map_of run (·.aacbb)

/-- … hence, by the generator-level theorem (no validator run involved), `a a c b b` is a sentence
    of the numbered grammar -/
example (r : LRResult) (h : genParser syn ids = .ok r) :
    NSentence (ngrammarOf (augment syn) r.tables.terminals r.tables.nts) [2, 2, 4, 3, 3] := by
  have hacc := of_toOption_map accepts h
  split at hacc
  · rename_i res hres
    exact C02_generated_parser_sound h (by decide) (by rw [(run_summary h).1]; decide)
      (noRecovery_of_all (run_summary h).2) (w := [2, 2, 4, 3, 3]) (by decide)
      (cfg := { T := r.tables, errTerm := 0, failAt := 0 }) rfl (fuel := 50) (old := default) hres
  · cases hacc

/-- `a c` is not accepted -/
example : (genParser syn ids).toOption.map (fun r =>
    match (parse { T := r.tables, errTerm := 0, failAt := 0 } [2, 4] 50 default).1 with
    | .accept _ => true
    | _ => false) = some false :=
  toOption_map_of run (·.ac)

/-! ### the clauses of `NamesOk` matter
Grammars that violate one clause, are generated without panic, stay far below 4096 states, and
whose tables the validator REJECTS (kernel evaluation of the model and of the validator). -/

/-- (`safe`, `safeEnds`) of the tables generated for a grammar -/
def verdict (syn : List SProd) (ids : List String) : Option (Bool × Bool) :=
  (genParser syn ids).toOption.map fun r =>
    (safe (ngrammarOf (augment syn) r.tables.terminals r.tables.nts) r.tables (certOf r.states),
     safeEnds r.tables (certOf r.states))

/-- a token id spelled `` -/
example : verdict syn ["", "a", "b", "c"] = some (true, false) := by decide +kernel
/-- `` in a body -/
example : verdict [{ head := "S", body := [⟨.tokId, "a"⟩, ⟨.tokId, ""⟩] }] ["a"] =
    some (true, false) := by decide +kernel
/-- start symbol spelled `empty` -/
example : verdict [{ head := "empty", body := [⟨.tokId, "a"⟩] }] ["a"] = some (false, true) := by
  decide +kernel
/-- `S'` in a body -/
example : verdict [{ head := "S", body := [⟨.tokId, "a"⟩, ⟨.prodId, "S'"⟩] },
    { head := "S", body := [⟨.tokId, "b"⟩] }] ["a", "b"] = some (true, false) := by decide +kernel
/-- a head spelled `␚` -/
example : verdict [{ head := "S", body := [⟨.tokId, "a"⟩] },
    { head := "␚", body := [⟨.tokId, "a"⟩] }] ["a"] = some (true, false) := by decide +kernel
/-- a head spelled `INVALID` -/
example : verdict [{ head := "S", body := [⟨.tokId, "a"⟩] },
    { head := "INVALID", body := [⟨.tokId, "a"⟩] }] ["a"] = some (false, false) := by decide +kernel
/-- `␚` in a body -/
example : verdict [{ head := "S", body := [⟨.tokId, "a"⟩, ⟨.tokId, "␚"⟩] }] ["a"] =
    some (true, false) := by decide +kernel
/-- no production at all -/
example : verdict [] ["a"] = some (false, true) := by decide +kernel

/-- not excluded, and fine: `INVALID` in a body, `INVALID` / `␚` among the token ids, `S'` as the
    head of a later production -/
def odd : List SProd :=
  [{ head := "S", body := [⟨.tokId, "a"⟩, ⟨.tokId, "INVALID"⟩] },
   { head := "S'", body := [⟨.tokId, "a"⟩] }]
example : NamesOk odd ["INVALID", "a", "␚"] := by decide
example : verdict odd ["INVALID", "a", "␚"] = some (true, true) := by decide +kernel

end C02GenEx

end Gocc
