import Gocc.Proofs.DerivesAvoid
import Gocc.Proofs.GenInert
import Gocc.Props.C02GenComplete
import Gocc.Props.C07
/-
C07 at the generator level — the INERTNESS clause for every grammar:

    "For grammars with alternatives that begin with the error symbol, Parse … on inputs without
     syntax errors behaves exactly as if those alternatives were absent."

The generator-level theorems of Props/C02Gen.lean / C02GenComplete.lean
(`C02_generated_parser_sound`, `C03_generated_result_is_tree_eval`,
`C02_generated_accept_iff_sentence`) assume `hr : ∀ s, r.tables.canRecover[s]?.getD false = false`
— no recovery state — which is false as soon as the grammar has an alternative `X : error …`
(`itemCanRecover` flags every state holding `X : •error …`; `C07GenEx.old_theorems_do_not_apply`).
The theorems here do without it, for inputs without syntax errors.

Quantifiers: all `syn : List SProd`, all `tokIds`, all `r` with `genParser syn tokIds = .ok r`
under the side conditions of the C02 generator theorems (`NamesOk`, `r.states.size ≤ 4096` for the
soundness half; in addition `r.tables.conflictStates = 0`, `CompleteNamesOk` for the completeness
half); all `cfg : PCfg` with `cfg.T = r.tables` — recovery states ALLOWED, ANY `cfg.errTerm`, any
`failAt` unless `ActsOk cfg` is assumed —; all inputs `w` (`1 ∉ w`: no end-of-input token inside
the input, where soundness is involved); all previous parser states `old`.
`G := ngrammarOf (augment syn) r.tables.terminals r.tables.nts` is the numbered grammar; it
contains the error alternatives, with `error` as an ordinary terminal.
`cfg.noRecovery` (Spec/Recover.lean) is the same parser with all `canRecover` flags cleared and no
error terminal: at a failed action lookup it stops with a syntax error.

Why it works: the validators `safe` / `safeEnds` / `firstOk` / `complete` do not read
`canRecover` (`GenInert.safe_noRecovery` … are `rfl`), so `C02_genParser_safe` /
`C02_genParser_complete` validate the flag-less tables as well; the C02 / C03 theorems apply to
the flag-less parser; and by `C07_inert_parse` the real parser performs exactly the run of the
flag-less parser unless that run ends in a syntax error.

The plain equivalence is false.  The statement

    (∃ fuel res, (parse cfg w fuel old).1 = .accept res) ↔ NSentence G w          (*)

fails from left to right when the grammar has error alternatives: accepting non-sentences after
recovering is the purpose of recovery.  Counterexample `C07GenEx.naive_iff_false`: for
`L : St | L semi St ; St : id | error` the generated parser accepts `id id semi id`, which is
not a sentence.  What is true, and proved below:

  1a `C07_generated_sentence_accepted_inert`   sentence ⟹ for all sufficiently large fuel the real
        parser accepts, and its run (outcome, result, final state, call log) IS the run of the
        parser without recovery — the recovery machinery is never entered;
  1b `C07_generated_inert_result_is_tree_eval`  whenever the parser without recovery accepts, the
        real parser performs the same run, and the result and the call log are the evaluation of
        a parse tree of the whole input (C03 without `hr`);
  1c `C07_generated_noRecovery_accept_iff`      the parser without recovery decides membership;
  1  `C07_generated_inert_accept_iff`           the true form of (*):
        w sentence  ⟺  the real parser accepts w by a run that is the run without recovery;
     `C07_generated_failing_action_is_reported` C03's failing-action clause, same transfer.
  2  "as if those alternatives were absent", for any terminal `e` that does not occur in the
     input (the scanner never delivers a token of the type of `error`): terminals are never
     erased, so a production mentioning `e` cannot occur in a parse tree / derivation of `w`:
     `C07_tree_avoids`, `C07_sentence_iff_without` (grammar-level, any `G`),
     `C07_generated_error_free_tree`            the accepted result is the evaluation of a tree
        that uses error-free alternatives only (`PT.avoids`),
     `C07_generated_accept_iff_without`         … ⟺ `w` is a sentence of `G.without e`, the
        grammar in which the alternatives mentioning `e` ARE absent.
     `e` is arbitrary; the intended instance is `e = cfg.errTerm`.  Every alternative that
     mentions `e` anywhere is avoided, in particular those that begin with it.
  non-vacuity: `C07GenEx` (the statement-list grammar above, generated by the model in the kernel).
-/
namespace Gocc

/-! ### 0 — any parser configuration, recovery states allowed -/
namespace GenInert

/-- the run of the parser without recovery accepts: the real parser (any recovery flags, any
    error terminal) performs exactly that run -/
theorem parse_eq_of_noRecovery_accept {cfg : PCfg} {w : List Nat} {fuel : Nat} {old : PState}
    {res : Attr} (h : (parse cfg.noRecovery w fuel old).1 = Outcome.accept res) :
    parse cfg w fuel old = parse cfg.noRecovery w fuel old :=
  C07_inert_parse cfg w fuel old (by intro i t e s hh; rw [h] at hh; cases hh)

end GenInert

open GenInert

/-! ### 1 — inertness for every grammar -/

/-- (1a) for every grammar without conflict: a sentence is accepted by the parser running the
    GENERATED tables — recovery states and error terminal included — for all sufficiently large
    fuel, and the whole run (outcome, result, final parser state, call log) is the run of the
    parser without recovery: the error alternatives' recovery machinery is never entered. -/
theorem C07_generated_sentence_accepted_inert {syn : List SProd} {tokIds : List String}
    {r : LRResult} (h : genParser syn tokIds = .ok r) (hn : NamesOk syn tokIds)
    (hsz : r.states.size ≤ 4096) (hc : r.tables.conflictStates = 0) (hx : CompleteNamesOk syn)
    {cfg : PCfg} (hA : ActsOk cfg) (hT : cfg.T = r.tables) {w : List Nat}
    (hs : NSentence (ngrammarOf (augment syn) r.tables.terminals r.tables.nts) w) (old : PState) :
    ∃ fuel₀ res ps, ∀ fuel, fuel₀ ≤ fuel →
      parse cfg w fuel old = (Outcome.accept res, ps) ∧
      parse cfg.noRecovery w fuel old = (Outcome.accept res, ps) := by
  obtain ⟨hf, hcm⟩ := C02_genParser_complete syn tokIds r h hn hsz hc hx
  obtain ⟨fuel₀, res, h0⟩ := C02_sentence_accepted (T := r.tables.noRecovery) hf hcm
    (actsOk_noRecovery hA) (noRecovery_T hT) hs old
  refine ⟨fuel₀, res, (parse cfg.noRecovery w fuel₀ old).2, fun fuel hle => ?_⟩
  have h1 : parse cfg.noRecovery w fuel old =
      (Outcome.accept res, (parse cfg.noRecovery w fuel₀ old).2) := by
    rw [parse_fuel_le (by rw [h0]; intro hh; cases hh) hle, ← h0]
  exact ⟨by rw [parse_eq_of_noRecovery_accept (res := res) (by rw [h1]), h1], h1⟩

/-- (1b) for every grammar (conflicts or not, whatever the actions do): whenever the parser
    without recovery accepts, the real parser with the GENERATED tables performs the same run,
    and the returned value and the call log are the evaluation of a parse tree of the whole input
    (`C03_generated_result_is_tree_eval` without the hypothesis "no recovery state"). -/
theorem C07_generated_inert_result_is_tree_eval {syn : List SProd} {tokIds : List String}
    {r : LRResult} (h : genParser syn tokIds = .ok r) (hn : NamesOk syn tokIds)
    (hsz : r.states.size ≤ 4096)
    {w : List Nat} (hw : 1 ∉ w) {cfg : PCfg} (hT : cfg.T = r.tables)
    {fuel : Nat} {old : PState} {res : Attr} {ps : PState}
    (hacc : parse cfg.noRecovery w fuel old = (Outcome.accept res, ps)) :
    parse cfg w fuel old = (Outcome.accept res, ps) ∧
    ∃ t : PT, t.wf (ngrammarOf (augment syn) r.tables.terminals r.tables.nts) ∧
      (ngrammarOf (augment syn) r.tables.terminals r.tables.nts).body 0 =
        [t.sym (ngrammarOf (augment syn) r.tables.terminals r.tables.nts)] ∧
      t.yield = (List.range w.length).zip w ∧
      evalT r.tables.prodKind t [] = some (res, ps.log) :=
  ⟨by rw [parse_eq_of_noRecovery_accept (res := res) (by rw [hacc]), hacc],
   C03_result_is_tree_eval (T := r.tables.noRecovery) (C02_genParser_safe syn tokIds r h hn hsz).1
    (C02_genParser_safe syn tokIds r h hn hsz).2 (noRecovery_hr _) hw (noRecovery_T hT) hacc⟩

/-- (1c) for every grammar without conflict: the parser WITHOUT recovery running the generated
    tables accepts exactly the sentences (`C02_generated_accept_iff_sentence` for the flag-less
    tables; the grammar may have error alternatives). -/
theorem C07_generated_noRecovery_accept_iff {syn : List SProd} {tokIds : List String}
    {r : LRResult} (h : genParser syn tokIds = .ok r) (hn : NamesOk syn tokIds)
    (hsz : r.states.size ≤ 4096) (hc : r.tables.conflictStates = 0) (hx : CompleteNamesOk syn)
    {cfg : PCfg} (hA : ActsOk cfg) (hT : cfg.T = r.tables) {w : List Nat} (hw : 1 ∉ w)
    (old : PState) :
    (∃ fuel res, (parse cfg.noRecovery w fuel old).1 = Outcome.accept res) ↔
      NSentence (ngrammarOf (augment syn) r.tables.terminals r.tables.nts) w := by
  constructor
  · rintro ⟨fuel, res, hacc⟩
    exact C02_accept_sound (T := r.tables.noRecovery) (C02_genParser_safe syn tokIds r h hn hsz).1
      (C02_genParser_safe syn tokIds r h hn hsz).2 (noRecovery_hr _) hw (noRecovery_T hT) hacc
  · intro hs
    obtain ⟨fuel₀, res, ps, hrun⟩ :=
      C07_generated_sentence_accepted_inert h hn hsz hc hx hA hT hs old
    exact ⟨fuel₀, res, by rw [(hrun fuel₀ (Nat.le_refl _)).2]⟩

/-- (1) the true form of (*), for every grammar without conflict: `w` is a
    sentence iff the real parser (recovery states, any error terminal) accepts `w` by a run that
    coincides with the run of the parser without recovery.  Without the second conjunct the
    direction ⟹ is false (`C07GenEx.naive_iff_false`). -/
theorem C07_generated_inert_accept_iff {syn : List SProd} {tokIds : List String}
    {r : LRResult} (h : genParser syn tokIds = .ok r) (hn : NamesOk syn tokIds)
    (hsz : r.states.size ≤ 4096) (hc : r.tables.conflictStates = 0) (hx : CompleteNamesOk syn)
    {cfg : PCfg} (hA : ActsOk cfg) (hT : cfg.T = r.tables) {w : List Nat} (hw : 1 ∉ w)
    (old : PState) :
    (∃ fuel res, (parse cfg w fuel old).1 = Outcome.accept res ∧
        parse cfg w fuel old = parse cfg.noRecovery w fuel old) ↔
      NSentence (ngrammarOf (augment syn) r.tables.terminals r.tables.nts) w := by
  constructor
  · rintro ⟨fuel, res, hacc, heq⟩
    exact (C07_generated_noRecovery_accept_iff h hn hsz hc hx hA hT hw old).mp
      ⟨fuel, res, by rw [← heq]; exact hacc⟩
  · intro hs
    obtain ⟨fuel₀, res, ps, hrun⟩ :=
      C07_generated_sentence_accepted_inert h hn hsz hc hx hA hT hs old
    obtain ⟨h1, h2⟩ := hrun fuel₀ (Nat.le_refl _)
    exact ⟨fuel₀, res, by rw [h1], by rw [h1, h2]⟩

/-- (C03 failing action, without `hr`) for every grammar: if the run of the parser without
    recovery does not end in a syntax error, the real run is that run, and the failing call
    (`failAt = k ≠ 0`) is reported as an action error. -/
theorem C07_generated_failing_action_is_reported {syn : List SProd} {tokIds : List String}
    {r : LRResult} (h : genParser syn tokIds = .ok r) (hn : NamesOk syn tokIds)
    (hsz : r.states.size ≤ 4096)
    {w : List Nat} (hw : 1 ∉ w) {cfg : PCfg} (hT : cfg.T = r.tables) {k : Nat}
    (hk : cfg.failAt = k) (hk0 : k ≠ 0) {fuel : Nat} {old : PState}
    (hne : ∀ i t e s, (parse cfg.noRecovery w fuel old).1 ≠ Outcome.synErr i t e s)
    {o : Outcome} {ps : PState} (hrun : parse cfg w fuel old = (o, ps)) :
    parse cfg.noRecovery w fuel old = (o, ps) ∧
    (ps.calls = k ↔ ∃ id i t e s, o = Outcome.actErr id i t e s) := by
  have heq := C07_inert_parse cfg w fuel old hne
  rw [heq] at hrun
  exact ⟨hrun, C03_failing_action_is_reported (T := r.tables.noRecovery)
    (C02_genParser_safe syn tokIds r h hn hsz).1 (C02_genParser_safe syn tokIds r h hn hsz).2
    (noRecovery_hr r.tables) hw (noRecovery_T hT) (cfg := cfg.noRecovery) hk hk0 hrun⟩

/-! ### 2 — "as if those alternatives were absent" -/

/-- (grammar level, any `G`) terminals are never erased: a well-formed parse tree whose leaves do
    not carry the token type `e` has no node labelled with a production whose body mentions the
    terminal `e`. -/
theorem C07_tree_avoids (G : NGrammar) (e : Nat) (t : PT) (hwf : t.wf G)
    (he : e ∉ t.yield.map (·.2)) : t.avoids G e :=
  avoids_of_yield G e t hwf he

/-- a tree that avoids `e` spells a derivation that avoids `e` -/
theorem C07_tree_avoids_derives (G : NGrammar) (e : Nat) (t : PT) (hwf : t.wf G)
    (ha : t.avoids G e) : NDerivesAvoid G e [t.sym G] (t.yield.map (·.2)) :=
  derivesAvoid_of_tree G e t hwf ha

/-- (grammar level, any `G` whose production 0 does not mention `e`) for a string without the
    terminal `e`: sentence of `G` ⟺ sentence by a derivation that uses no production mentioning
    `e` ⟺ sentence of the grammar `G.without e`, in which these productions are absent. -/
theorem C07_sentence_iff_without {G : NGrammar} {e : Nat} (h0 : Sym.t e ∉ G.body 0)
    {w : List Nat} (he : e ∉ w) :
    (NSentence G w ↔ NSentenceAvoid G e w) ∧ (NSentence G w ↔ NSentence (G.without e) w) := by
  have h1 : NSentence G w ↔ NSentenceAvoid G e w := (derivesAvoid_iff he).symm
  exact ⟨h1, h1.trans (sentence_without_iff h0).symm⟩

/-- the restricted derivations are the derivations of `G.without e` (any string) -/
theorem C07_derives_without_iff {G : NGrammar} {e : Nat} {α : List Sym} {w : List Nat} :
    NDerives (G.without e) α w ↔ NDerivesAvoid G e α w :=
  derives_without_iff

/-- production 0 of a generated grammar is `S' : Start`; it mentions no terminal -/
theorem C07_generated_body0 {syn : List SProd} {tokIds : List String} {r : LRResult}
    (h : genParser syn tokIds = .ok r) (hn : NamesOk syn tokIds) (e : Nat) :
    Sym.t e ∉ (ngrammarOf (augment syn) r.tables.terminals r.tables.nts).body 0 := by
  obtain ⟨_, -, hterm, hnts, -⟩ := genParser_tables h
  obtain ⟨A, hb⟩ := body0_ok (symFacts_of h hn)
  rw [hterm, hnts, hb]
  simp

/-- (2) for every grammar without conflict, every terminal `e` (intended: the error terminal) and
    every sentence `w` in which `e` does not occur: the real parser accepts, by the run of the
    parser without recovery, and the result is the evaluation of a parse tree that uses only
    alternatives NOT mentioning `e` — exactly as if the error alternatives were absent. -/
theorem C07_generated_error_free_tree {syn : List SProd} {tokIds : List String}
    {r : LRResult} (h : genParser syn tokIds = .ok r) (hn : NamesOk syn tokIds)
    (hsz : r.states.size ≤ 4096) (hc : r.tables.conflictStates = 0) (hx : CompleteNamesOk syn)
    {cfg : PCfg} (hA : ActsOk cfg) (hT : cfg.T = r.tables) {w : List Nat} (hw : 1 ∉ w)
    {e : Nat} (he : e ∉ w)
    (hs : NSentence (ngrammarOf (augment syn) r.tables.terminals r.tables.nts) w) (old : PState) :
    ∃ fuel₀ res ps,
      (∀ fuel, fuel₀ ≤ fuel → parse cfg w fuel old = (Outcome.accept res, ps) ∧
        parse cfg.noRecovery w fuel old = (Outcome.accept res, ps)) ∧
      ∃ t : PT, t.wf (ngrammarOf (augment syn) r.tables.terminals r.tables.nts) ∧
        t.avoids (ngrammarOf (augment syn) r.tables.terminals r.tables.nts) e ∧
        (ngrammarOf (augment syn) r.tables.terminals r.tables.nts).body 0 =
          [t.sym (ngrammarOf (augment syn) r.tables.terminals r.tables.nts)] ∧
        t.yield = (List.range w.length).zip w ∧
        evalT r.tables.prodKind t [] = some (res, ps.log) := by
  obtain ⟨fuel₀, res, ps, hrun⟩ :=
    C07_generated_sentence_accepted_inert h hn hsz hc hx hA hT hs old
  obtain ⟨-, t, h1, h2, h3, h4⟩ := C07_generated_inert_result_is_tree_eval h hn hsz hw hT
    (hrun fuel₀ (Nat.le_refl _)).2
  refine ⟨fuel₀, res, ps, hrun, t, h1, ?_, h2, h3, h4⟩
  apply C07_tree_avoids _ _ _ h1
  rw [h3, List.map_snd_zip (by simp)]
  exact he

/-- (2) for every grammar without conflict and inputs in which the terminal `e` does not occur:
    the real parser accepts `w` by a run without recovery iff `w` is a sentence of the grammar
    WITHOUT the alternatives mentioning `e`. -/
theorem C07_generated_accept_iff_without {syn : List SProd} {tokIds : List String}
    {r : LRResult} (h : genParser syn tokIds = .ok r) (hn : NamesOk syn tokIds)
    (hsz : r.states.size ≤ 4096) (hc : r.tables.conflictStates = 0) (hx : CompleteNamesOk syn)
    {cfg : PCfg} (hA : ActsOk cfg) (hT : cfg.T = r.tables) {w : List Nat} (hw : 1 ∉ w)
    {e : Nat} (he : e ∉ w) (old : PState) :
    (∃ fuel res, (parse cfg w fuel old).1 = Outcome.accept res ∧
        parse cfg w fuel old = parse cfg.noRecovery w fuel old) ↔
      NSentence ((ngrammarOf (augment syn) r.tables.terminals r.tables.nts).without e) w :=
  (C07_generated_inert_accept_iff h hn hsz hc hx hA hT hw old).trans
    (C07_sentence_iff_without (C07_generated_body0 h hn e) he).2

/-! ### Non-vacuity: `L : St <<11>> | L semi St <<12>> ; St : id <<13>> | error <<14>>`
(a `semi`-separated statement list.  The grammar is chosen such that every look-ahead set computed
by `first1` is a singleton: `first1` sorts with `List.mergeSort`, whose well-founded recursion the
kernel does not unfold on two or more elements.) -/
namespace C07GenEx

def syn : List SProd := [
  { head := "L", body := [⟨.prodId, "St"⟩], act := 1, actId := 11 },
  { head := "L", body := [⟨.prodId, "L"⟩, ⟨.tokId, "semi"⟩, ⟨.prodId, "St"⟩], act := 1,
    actId := 12 },
  { head := "St", body := [⟨.tokId, "id"⟩], act := 1, actId := 13 },
  { head := "St", body := [⟨.tokId, "error"⟩], act := 1, actId := 14 } ]

def ids : List String := ["id", "semi"]

theorem names_ok : NamesOk syn ids := by decide
theorem cnames_ok : CompleteNamesOk syn := by decide
example : NamesOk syn ids := names_ok
example : CompleteNamesOk syn := cnames_ok

/-- what the hypotheses of the theorems need to know about a run -/
structure Facts where
  nStates : Nat
  conflicts : Nat
  terminals : List String
  nts : List String
  kindsTotal : Bool
  canRecover : List Bool
deriving DecidableEq

def facts (r : LRResult) : Facts :=
  { nStates := r.states.size, conflicts := r.tables.conflictStates,
    terminals := r.tables.terminals, nts := r.tables.nts, kindsTotal := Gocc.kindsTotal r.tables,
    canRecover := r.tables.canRecover.toList }

/-- the parser as generated: recovery states, `error` is token type 4 -/
def cfgOf (r : LRResult) : PCfg := { T := r.tables, errTerm := 4, failAt := 0 }

/-- `id id semi id` — a separator is missing -/
def bad : List Nat := [3, 3, 2, 3]

/-- outcome of a run, for the examples: accepted? / syntax error at (token index, token type)? -/
def verdict (o : Outcome × PState) : Option (Option (Nat × Nat)) :=
  match o.1 with
  | .accept _ => some none
  | .synErr i t _ _ => some (some (i, t))
  | _ => none

/-- ONE kernel evaluation of the generator model and of the generated parser on `bad`:
    7 states, no conflict, the numbering (`error` is terminal 4), total actions, and TWO RECOVERY
    STATES (0 and 5, the states holding `St : •error`); the generated parser ACCEPTS `bad` thanks
    to recovery, the parser without recovery reports a syntax error at token 1 (the second `id`);
    in the recovering run token 0 is popped into the error attribute, token 1 (the offending `id`)
    is skipped, parsing resumes at token 2 (`semi`) — the tokens inside the accepted result are
    0 2 3 -/
theorem run :
    (genParser syn ids).toOption.map facts =
      some { nStates := 7, conflicts := 0, terminals := ["INVALID", "␚", "semi", "id", "error"],
             nts := ["S'", "L", "St"], kindsTotal := true,
             canRecover := [true, false, false, false, false, true, false] } ∧
    (genParser syn ids).toOption.map (fun r =>
      (verdict (parse (cfgOf r) bad 40 default),
       verdict (parse (cfgOf r).noRecovery bad 40 default))) =
      some (some none, some (some (1, 3))) ∧
    (genParser syn ids).toOption.map (fun r =>
      C07Toy.acceptedToks (parse (cfgOf r) bad 40 default)) = some (some [0, 2, 3]) := by
  decide +kernel

theorem run_ok : ∃ r, genParser syn ids = .ok r :=
  (exists_of_toOption_map run.1).imp fun _ h => h.1

theorem run_facts {r : LRResult} (h : genParser syn ids = .ok r) :
    r.states.size = 7 ∧ r.tables.conflictStates = 0 ∧
    r.tables.terminals = ["INVALID", "␚", "semi", "id", "error"] ∧
    r.tables.nts = ["S'", "L", "St"] ∧ kindsTotal r.tables = true ∧
    r.tables.canRecover.toList = [true, false, false, false, false, true, false] := by
  have hrun := of_toOption_map run.1 h
  simp only [facts, Facts.mk.injEq] at hrun
  exact hrun

theorem hyps {r : LRResult} (h : genParser syn ids = .ok r) :
    r.states.size ≤ 4096 ∧ r.tables.conflictStates = 0 ∧ ActsOk (cfgOf r) := by
  obtain ⟨f1, f2, -, -, f5, -⟩ := run_facts h
  exact ⟨by rw [f1]; decide, f2, C02_actsOk_of_kindsTotal rfl f5⟩

/-- the hypothesis `hr` of `C02_generated_parser_sound`, `C03_generated_result_is_tree_eval`,
    `C02_generated_accept_iff_sentence` is FALSE for this grammar -/
theorem old_theorems_do_not_apply {r : LRResult} (h : genParser syn ids = .ok r) :
    ¬ ∀ s : Nat, r.tables.canRecover[s]?.getD false = false := by
  intro hr
  have h0 := hr 0
  have hl := (run_facts h).2.2.2.2.2
  have : r.tables.canRecover[0]? = some true := by
    rw [← Array.getElem?_toList, hl]; rfl
  rw [this] at h0
  cases h0

/-- the numbered grammar of the run: terminals `semi id error` = 2 3 4, non-terminals
    `S' L St` = 0 1 2 -/
def Gex : NGrammar :=
  { prods := #[(0, [Sym.nt 1]), (1, [Sym.nt 2]), (1, [Sym.nt 1, Sym.t 2, Sym.nt 2]),
      (2, [Sym.t 3]), (2, [Sym.t 4])] }

theorem g_eq {r : LRResult} (h : genParser syn ids = .ok r) :
    ngrammarOf (augment syn) r.tables.terminals r.tables.nts = Gex := by
  rw [(run_facts h).2.2.1, (run_facts h).2.2.2.1]
  exact NGrammar.ext_prods (by decide +kernel)

/-- the grammar in which the error alternative IS absent: `S' : L ; L : St | L semi St ; St : id` -/
example : (Gex.without 4).prods =
    #[(0, [Sym.nt 1]), (1, [Sym.nt 2]), (1, [Sym.nt 1, Sym.t 2, Sym.nt 2]), (2, [Sym.t 3])] := by
  decide

/-- `id semi id` is a sentence — by a derivation, not by running the parser -/
theorem sentence_ok : NSentence Gex [3, 2, 3] := by
  have hst : NDerives Gex [Sym.nt 2] [3] :=
    NDerives.nt (G := Gex) (p := 3) (α := []) (u := [3]) (v := []) (by decide) (.term .nil) .nil
  have hl1 : NDerives Gex [Sym.nt 1, Sym.t 2, Sym.nt 2] [3, 2, 3] :=
    NDerives.nt (G := Gex) (p := 1) (α := [Sym.t 2, Sym.nt 2]) (u := [3]) (v := [2, 3])
      (by decide) hst (.term hst)
  exact NDerives.nt (G := Gex) (p := 2) (α := []) (u := [3, 2, 3]) (v := []) (by decide) hl1 .nil

/-- through `C07_generated_error_free_tree` (no evaluation of `parse`): the generated parser — with its recovery
    states and error terminal — accepts `id semi id`, its run is the run of the parser without
    recovery, and the result is the evaluation of a parse tree that does not use the alternative
    `St : error` -/
theorem accepted_inert (r : LRResult) (h : genParser syn ids = .ok r) (old : PState) :
    ∃ fuel₀ res ps,
      (∀ fuel, fuel₀ ≤ fuel → parse (cfgOf r) [3, 2, 3] fuel old = (Outcome.accept res, ps) ∧
        parse (cfgOf r).noRecovery [3, 2, 3] fuel old = (Outcome.accept res, ps)) ∧
      ∃ t : PT, t.wf Gex ∧ t.avoids Gex 4 ∧ Gex.body 0 = [t.sym Gex] ∧
        t.yield = [(0, 3), (1, 2), (2, 3)] ∧
        evalT r.tables.prodKind t [] = some (res, ps.log) := by
  obtain ⟨hsz, hc, hA⟩ := hyps h
  have := C07_generated_error_free_tree h names_ok hsz hc cnames_ok hA rfl (w := [3, 2, 3])
    (by decide) (e := 4) (by decide) (by rw [g_eq h]; exact sentence_ok) old
  rw [g_eq h] at this
  exact this

/-- for this grammar, inputs without end-of-input and without error token: accepted without
    recovery ⟺ sentence of the grammar without the error alternative -/
example (r : LRResult) (h : genParser syn ids = .ok r) {w : List Nat} (hw : 1 ∉ w) (he : 4 ∉ w)
    (old : PState) :
    (∃ fuel res, (parse (cfgOf r) w fuel old).1 = Outcome.accept res ∧
        parse (cfgOf r) w fuel old = parse (cfgOf r).noRecovery w fuel old) ↔
      NSentence (Gex.without 4) w := by
  obtain ⟨hsz, hc, hA⟩ := hyps h
  have := C07_generated_accept_iff_without h names_ok hsz hc cnames_ok hA rfl hw he old
  rw [g_eq h] at this
  exact this

/-! #### why the converse must be stated for the parser without recovery -/

example : (genParser syn ids).toOption.map (fun r =>
      C07Toy.acceptedToks (parse (cfgOf r) bad 40 default)) = some (some [0, 2, 3]) :=
  run.2.2

theorem bad_accepted {r : LRResult} (h : genParser syn ids = .ok r) :
    ∃ res, (parse (cfgOf r) bad 40 default).1 = Outcome.accept res := by
  have hb := of_toOption_map run.2.1 h
  have h1 := (Prod.mk.inj hb).1
  unfold verdict at h1
  split at h1
  · rename_i res hres
    exact ⟨res, hres⟩
  · cases h1
  · cases h1

theorem bad_synErr {r : LRResult} (h : genParser syn ids = .ok r) :
    ∃ e s, (parse (cfgOf r).noRecovery bad 40 default).1 = Outcome.synErr 1 3 e s := by
  have hb := of_toOption_map run.2.1 h
  have h2 := (Prod.mk.inj hb).2
  unfold verdict at h2
  split at h2
  · cases h2
  · rename_i i t e s hres
    simp only [Option.some.injEq, Prod.mk.injEq] at h2
    obtain ⟨rfl, rfl⟩ := h2
    exact ⟨e, s, hres⟩
  · cases h2

/-- `bad` is not a sentence — obtained from the verdict of the parser without recovery through
    `C07_generated_noRecovery_accept_iff` -/
theorem bad_not_sentence {r : LRResult} (h : genParser syn ids = .ok r) :
    ¬ NSentence (ngrammarOf (augment syn) r.tables.terminals r.tables.nts) bad := by
  intro hs
  obtain ⟨hsz, hc, hA⟩ := hyps h
  obtain ⟨fuel, res, hacc⟩ :=
    (C07_generated_noRecovery_accept_iff h names_ok hsz hc cnames_ok hA rfl (w := bad) (by decide)
      default).mpr hs
  obtain ⟨e, s, hse⟩ := bad_synErr h
  exact not_accept_of_synErr hse fuel res hacc

/-- counterexample to (*) of the header: all hypotheses hold (`NamesOk`,
    `CompleteNamesOk`, 7 states, no conflict, `ActsOk`, `1 ∉ bad`), the real parser accepts `bad`,
    and `bad` is not a sentence. -/
theorem naive_iff_false {r : LRResult} (h : genParser syn ids = .ok r) :
    NamesOk syn ids ∧ CompleteNamesOk syn ∧ r.states.size ≤ 4096 ∧ r.tables.conflictStates = 0 ∧
    ActsOk (cfgOf r) ∧ 1 ∉ bad ∧
    ¬ ((∃ fuel res, (parse (cfgOf r) bad fuel default).1 = Outcome.accept res) ↔
        NSentence (ngrammarOf (augment syn) r.tables.terminals r.tables.nts) bad) := by
  obtain ⟨hsz, hc, hA⟩ := hyps h
  refine ⟨names_ok, cnames_ok, hsz, hc, hA, by decide, fun hiff => ?_⟩
  obtain ⟨res, hres⟩ := bad_accepted h
  exact bad_not_sentence h (hiff.mp ⟨40, res, hres⟩)

/-- … and the run exists -/
example : ∃ r, genParser syn ids = .ok r := run_ok

end C07GenEx

end Gocc
