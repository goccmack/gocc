import Gocc.Proofs.GenTables
import Gocc.Props.C05
import Gocc.Props.C12Tables
/-
C05 / C12 at generator level — statements about the tables `genParser` builds, for EVERY grammar.

C05: every entry of the action table that `genParser` (the model of gocc's parser-generator
pipeline, Model/LR1) produces is the one the resolution rule names: `specResolve` of the actions
proposed by the items of that state for that terminal — the shift if an item proposes one,
otherwise the reduction by the lowest-numbered production, otherwise accept, otherwise no action.
Together with the correspondence (compiled tables = `genParser`'s, exact equality per visited
grammar) and with `parse` being a function of the tables, this is the run-level clause of C05:
the parser's verdict and reductions are those of the LR(1) machine resolved by that rule, on every
token sequence.

C12: the goto table of `genParser` is rectangular (`nStates × |nts|`), so the hypothesis of
`C12_zipTables_eq` is discharged for every grammar: `-zip` tables = plain tables, and the parser
model runs identically on them (`C12_genParser_zip_parse_eq`).

Quantifier: all syntax parts `syn` and token-id lists `ids` on which the model generator returns
tables (a refusal = gocc panics/exits, C04), all states, all terminals, all inputs and histories.
-/
namespace Gocc

/-- the actions the items of `st` propose for terminal `sym` (what `ItemSet.Action` folds) -/
def proposals (C : LRCtx) (st : LRState) (sym : String) : List (Option Act) :=
  st.items.map fun i => itemAction C i sym ((st.next sym).getD 0)

theorem genParser_entry {syn : List SProd} {ids : List String} {r : LRResult}
    (h : genParser syn ids = .ok r) {s t : Nat} {st : LRState} {sym : String}
    (hs : r.states[s]? = some st) (ht : r.ctx.S.terminals[t]? = some sym) :
    ∃ c, foldActs (proposals r.ctx st sym) = .ok (r.tables.act s t, c) := by
  obtain ⟨res, h1, h2, -⟩ := act_of_state h hs ht
  rw [C05_setAction_eq_foldActs] at h1
  exact ⟨res.2, h2 ▸ h1⟩

/-- C05, generator level: every table entry is the one the resolution rule names -/
theorem C05_genParser_entry {syn : List SProd} {ids : List String} {r : LRResult}
    (h : genParser syn ids = .ok r) {s t : Nat} {st : LRState} {sym : String}
    (hs : r.states[s]? = some st) (ht : r.ctx.S.terminals[t]? = some sym) :
    r.tables.act s t = specResolve (proposals r.ctx st sym) := by
  obtain ⟨c, hc⟩ := genParser_entry h hs ht
  exact C05_fold_is_spec hc

/-- a shift proposed by some item of the state is the entry, whatever else competes -/
theorem C05_genParser_shift_wins {syn : List SProd} {ids : List String} {r : LRResult}
    (h : genParser syn ids = .ok r) {s t n : Nat} {st : LRState} {sym : String}
    (hs : r.states[s]? = some st) (ht : r.ctx.S.terminals[t]? = some sym)
    (hp : some (Act.shift n) ∈ proposals r.ctx st sym) :
    r.tables.act s t = some (Act.shift n) := by
  obtain ⟨c, hc⟩ := genParser_entry h hs ht
  exact C05_shift_wins hc hp

/-- without a shift, the competing production declared first is the entry -/
theorem C05_genParser_earliest {syn : List SProd} {ids : List String} {r : LRResult}
    (h : genParser syn ids = .ok r) {s t p : Nat} {st : LRState} {sym : String}
    (hs : r.states[s]? = some st) (ht : r.ctx.S.terminals[t]? = some sym)
    (hns : ∀ n, some (Act.shift n) ∉ proposals r.ctx st sym)
    (hp : some (Act.reduce p) ∈ proposals r.ctx st sym)
    (hmin : ∀ q, some (Act.reduce q) ∈ proposals r.ctx st sym → p ≤ q) :
    r.tables.act s t = some (Act.reduce p) := by
  obtain ⟨c, hc⟩ := genParser_entry h hs ht
  exact C05_earliest_production hc hns hp hmin

/-! ### C12: the hypothesis of the whole-table round trip holds for every generated table -/

theorem genParser_gotoRect {syn : List SProd} {ids : List String} {r : LRResult}
    (h : genParser syn ids = .ok r) : GotoRect r.tables := by
  obtain ⟨_, -, -, hnts, -, -, -, -, hn⟩ := genParser_tables h
  obtain ⟨-, -, h1, h2⟩ := tables_shape h
  exact ⟨h1.trans hn.symm, hnts ▸ h2⟩

/-- C12, generator level: for every grammar the tables a `-zip` build holds after `init()` are
    the tables of the plain build -/
theorem C12_genParser_zip_eq {syn : List SProd} {ids : List String} {r : LRResult}
    (h : genParser syn ids = .ok r) : zipTables r.tables = r.tables :=
  C12_zipTables_eq _ (genParser_gotoRect h)

/-- … and the generated parser behaves identically on them, on every input, from every history -/
theorem C12_genParser_zip_parse_eq {syn : List SProd} {ids : List String} {r : LRResult}
    (h : genParser syn ids = .ok r) (errTerm failAt : Nat) (input : List Nat) (fuel : Nat)
    (old : PState) :
    parse { T := zipTables r.tables, errTerm := errTerm, failAt := failAt } input fuel old =
      parse { T := r.tables, errTerm := errTerm, failAt := failAt } input fuel old := by
  rw [C12_genParser_zip_eq h]

/-! ### Non-vacuity: `E : E p E <<10>> | n <<11>>` (ambiguous: shift/reduce on `p`) and
    `S : A | B ; A : x ; B : x` (reduce/reduce on end of input) -/
namespace C05GenEx

def synSR : List SProd := [
  { head := "E", body := [⟨.prodId, "E"⟩, ⟨.tokId, "p"⟩, ⟨.prodId, "E"⟩], act := 1, actId := 10 },
  { head := "E", body := [⟨.tokId, "n"⟩], act := 1, actId := 11 } ]

def synRR : List SProd := [
  { head := "S", body := [⟨.prodId, "A"⟩] }, { head := "S", body := [⟨.prodId, "B"⟩] },
  { head := "A", body := [⟨.tokId, "x"⟩] }, { head := "B", body := [⟨.tokId, "x"⟩] } ]

/-- everything the examples below and those of Props/C04Gen.lean and Props/C10Gen.lean say about
    the tables of the shift/reduce grammar, read off one kernel run of the generator model -/
theorem runSR : (genParser synSR ["n", "p"]).toOption.map (fun r =>
    (decide (r.tables.conflictStates > 0),
     ((List.range r.states.size).any fun s => (List.range r.ctx.S.terminals.length).any fun t =>
        match r.states[s]?, r.ctx.S.terminals[t]? with
        | some st, some sym =>
          competing (proposals r.ctx st sym) &&
            (match r.tables.act s t with | some (.shift _) => true | _ => false)
        | _, _ => false),
     decide ((zipTables r.tables).action = r.tables.action ∧
       (zipTables r.tables).goto_ = r.tables.goto_),
     decide (r.tables.conflictStates = (r.states.toList.filter fun st =>
        r.ctx.S.terminals.any fun sym => competing (proposals r.ctx st sym)).length ∧
      r.tables.conflictStates = 1),
     decide (r.tables.terminals.length = 4 ∧ r.tables.action.size = r.tables.nStates ∧
       1 < r.tables.nStates ∧ r.tables.action.toList.all (fun row => row.size == 4)))) =
    some (true, true, true, true, true) := by
  decide +kernel

/-- both grammars are generated (no panic) and have conflicting states, so the theorems above
    speak about entries with real competition -/
example : (genParser synSR ["n", "p"]).toOption.map (fun r => decide (r.tables.conflictStates > 0)) = some true :=
  toOption_map_of runSR (·.1)
example : (genParser synRR ["x"]).toOption.map (fun r => decide (r.tables.conflictStates > 0)) = some true := by
  decide +kernel

/-- in the shift/reduce grammar some entry with a competing reduction is a shift … -/
example : (genParser synSR ["n", "p"]).toOption.map (fun r =>
    (List.range r.states.size).any fun s => (List.range r.ctx.S.terminals.length).any fun t =>
      match r.states[s]?, r.ctx.S.terminals[t]? with
      | some st, some sym =>
        competing (proposals r.ctx st sym) &&
          (match r.tables.act s t with | some (.shift _) => true | _ => false)
      | _, _ => false) = some true :=
  toOption_map_of runSR (·.2.1)

/-- … and in the reduce/reduce grammar the competing entry is the reduction by the production
    declared first (`A : x` is production 3, `B : x` production 4) -/
example : (genParser synRR ["x"]).toOption.map (fun r =>
    (List.range r.states.size).any fun s => (List.range r.ctx.S.terminals.length).any fun t =>
      match r.states[s]?, r.ctx.S.terminals[t]? with
      | some st, some sym =>
        competing (proposals r.ctx st sym) && decide (r.tables.act s t = some (.reduce 3))
      | _, _ => false) = some true := by
  decide +kernel

/-- the `-zip` round trip on a generated table, evaluated -/
example : (genParser synSR ["n", "p"]).toOption.map (fun r =>
    decide ((zipTables r.tables).action = r.tables.action ∧ (zipTables r.tables).goto_ = r.tables.goto_)) =
      some true :=
  toOption_map_of runSR (·.2.2.1)

end C05GenEx

end Gocc
