import Gocc.Proofs.LoopsTerminateLR
import Gocc.Proofs.LoopsTerminateLex
import Gocc.Props.C02Gen
import Gocc.Props.C09Emoves
/-
C09 — gocc always terminates: the two UNBOUNDED item-set loops, and the inner work-list loops of the
lexer generator.

  parser  `GetItemSets`        internal/parser/lr1/items/itemsets.go   model `lrLoop`  (fuel 4096)
  lexer   `ItemSets.Closure`   internal/lexer/items/itemsets.go        model `lexLoop` (fuel 100000)

The lexer's Go loop is `for i := 0; i < len(sets); i++ { … sets = append(sets, newSet) … }`; the
parser's is `for again { for i, I := range S.sets { if i > included { … append …; included = i } } }`
— passes over the collection that skip the states already expanded, which visits the states in
the same order.  In both, state `i` is expanded: every successor set that is not yet in the
collection (Go `Equal`: same length and every item of the stored set occurs in the new one —
`sameItems` / `sameLItems`) is appended.  The model runs them on fuel; the fuel is the number of
states that are expanded.

What is proved (Proofs/LRLoop.lean, Proofs/LoopsTerminate{Count,LR,LexItems,Lex}.lean):

* every state is a duplicate-free list over a finite universe `U` of items, and an earlier state
  never passes the `Equal` test against a later one; hence (counting lemma
  `LoopsT.length_le_two_pow`: characteristic vectors over `U`) the collection never has more than
  `2 ^ |U|` states — for EVERY fuel;
* consequently for every `fuel ≥ 2 ^ |U|` the loop has left through its own exit condition
  `i = len(sets)`: more fuel gives the same result, every state has been expanded; the result of
  the unbounded Go loop exists, has `n ≤ 2 ^ |U|` states and is reached with exactly `n` units of
  fuel (`…_result`);
* the model's constants: `2 ^ |U|` is astronomically larger than 4096 / 100000, so the model's fuel
  does NOT cover every grammar, and the generator-level theorems keep their hypothesis
  `r.states.size ≤ 4096`.  That hypothesis is exactly what is needed: whenever the model's result
  has at most `fuel` states, it IS the result of the unbounded loop
  (`C09_lrLoop_model_fuel`, `C09_genParser_states_final`, `C09_genLexer_final`).

Parser universe: `⟨0,0,"␚"⟩` and all `(p, d, la)` with `p < |prods|`, `d ≤ Len(p)`, `la` a symbol of
the table or "empty"; `|U| ≤ maxItems` (the fuel constant of the model's `closure`).
Lexer universe: all dotted positions of the pattern trees of all lexical productions
(`EmovesU.univ`); `|U| + 8 ≤ C.fuel`.

No hypothesis on the grammar: the parser theorems need only `newSymbols (augment syn) = .ok S0`
(otherwise gocc has already panicked), the lexer theorems only `newLState C (itemsSet0 C) = .ok s0`
(otherwise `ItemsSet0`'s closure has panicked with "Unknown production"); a panic inside the lexer
loop is an outcome like any other and is fuel-independent as well (`lexLoop_error_stable`).

The inner work-list loops of the lexer generator are covered as well: `emoves` by
Props/C09Emoves.lean; `closureL` (`ItemList.Closure`) exhausts its work list and is idempotent
(`C09_closureL_exhausted`, `C09_closureL_idempotent`) — idempotence is what makes the new set
`items.Closure()` pass the `Equal` test against the `items` it was looked up with;
`depClosure` (`ItemSet.dependentsClosure`) exhausts its work list (`C09_depClosure_exhausted`; its
hypothesis that the current set consists of good items holds for every set of every run,
`C09_lexLoop_items_good`, and is not used by the proof: what `depClosure` adds lies in
`prev ++ lexUniv C` for any `prev`).
-/
namespace Gocc

/-! ## parser: `GetItemSets` -/

/-- the context `genParser` has built when it enters the loop -/
def C09_lrCtx (syn : List SProd) (ids : List String) (S0 : PSymbols) : LRCtx :=
  { prods := (augment syn).toArray, S := S0.addTokens ids,
    fs := firstSets (S0.addTokens ids) (augment syn) }

/-- the initial collection `{ closure {S' : •S, ␚} }` -/
def C09_lrInit (C : LRCtx) : Array LRState := #[{ items := closure C [⟨0, 0, "␚"⟩] }]

def C09_lrUniv (C : LRCtx) : List Item := LoopsT.stateUniv C [⟨0, 0, "␚"⟩]

def C09_lrBound (C : LRCtx) : Nat := 2 ^ (C09_lrUniv C).length

theorem C09_lrUniv_mem {C : LRCtx} {x : Item} :
    x ∈ C09_lrUniv C ↔
      x = ⟨0, 0, "␚"⟩ ∨ (x.p < C.prods.size ∧ x.d ≤ C.len x ∧ x.la ∈ firstU C.S) := by
  unfold C09_lrUniv LoopsT.stateUniv
  rw [List.mem_append, LoopsT.mem_itemUniv]
  simp

/-- `|U| ≤ maxItems`, the fuel constant of the model's `closure` (`LoopsT.itemUniv_length_lt`) -/
theorem C09_lrBound_le (C : LRCtx) : C09_lrBound C ≤ 2 ^ C.maxItems := by
  have := LoopsT.lrBound_le C [⟨0, 0, "␚"⟩]
  rwa [List.length_singleton, Nat.add_sub_cancel_left] at this

/-- for the context of `genParser`: whatever the fuel, the collection has at most
    `C09_lrBound C = 2 ^ |U|` states; each is a duplicate-free list over `U`; different states are
    different as SETS of items. -/
theorem C09_lrLoop_bounded {syn : List SProd} {ids : List String} {S0 : PSymbols}
    (h : newSymbols (augment syn) = .ok S0) (fuel : Nat) :
    (lrLoop (C09_lrCtx syn ids S0) fuel 0 (C09_lrInit (C09_lrCtx syn ids S0))).size ≤
      C09_lrBound (C09_lrCtx syn ids S0) ∧
    (∀ (j : Nat) (st : LRState),
      (lrLoop (C09_lrCtx syn ids S0) fuel 0 (C09_lrInit (C09_lrCtx syn ids S0)))[j]? = some st →
      st.items.Nodup ∧ ∀ x ∈ st.items, x ∈ C09_lrUniv (C09_lrCtx syn ids S0)) ∧
    (∀ (j k : Nat) (sj sk : LRState), j ≠ k →
      (lrLoop (C09_lrCtx syn ids S0) fuel 0 (C09_lrInit (C09_lrCtx syn ids S0)))[j]? = some sj →
      (lrLoop (C09_lrCtx syn ids S0) fuel 0 (C09_lrInit (C09_lrCtx syn ids S0)))[k]? = some sk →
      ¬ ∀ x, x ∈ sj.items ↔ x ∈ sk.items) := by
  have ⟨h1, h2⟩ := LoopsT.lrLoop_bounded (C09_genParser_init_WFc ids h) fuel
  exact ⟨h2, h1.good, fun _ _ _ _ hjk hj hk => h1.ne_of_ne (fun _ hg => hg.1) hjk hj hk⟩

/-- for every `fuel ≥ C09_lrBound C` the loop has stopped by itself: more fuel gives the same
    array, and every state `j` has been expanded (`LoopsT.Done`: for every symbol `X` with a
    non-empty `goto` set the transition `(X, idx)` is recorded and state `idx` holds that set).
    This is the result of the unbounded Go loop. -/
theorem C09_lrLoop_terminates {syn : List SProd} {ids : List String} {S0 : PSymbols}
    (h : newSymbols (augment syn) = .ok S0) (fuel : Nat)
    (hf : C09_lrBound (C09_lrCtx syn ids S0) ≤ fuel) :
    (∀ k, lrLoop (C09_lrCtx syn ids S0) (fuel + k) 0 (C09_lrInit (C09_lrCtx syn ids S0)) =
      lrLoop (C09_lrCtx syn ids S0) fuel 0 (C09_lrInit (C09_lrCtx syn ids S0))) ∧
    (∀ j, j < (lrLoop (C09_lrCtx syn ids S0) fuel 0 (C09_lrInit (C09_lrCtx syn ids S0))).size →
      LoopsT.Done (C09_lrCtx syn ids S0)
        (lrLoop (C09_lrCtx syn ids S0) fuel 0 (C09_lrInit (C09_lrCtx syn ids S0))) j) := by
  have hb := (C09_lrLoop_bounded (ids := ids) h fuel).1
  exact LoopsT.lrLoop_fixed _ _ fuel (by omega)

/-- the result `R` of the unbounded loop: at most `C09_lrBound C` states, reached with exactly
    `R.size` units of fuel (one per expanded state) and with any larger fuel; all states expanded -/
theorem C09_lrLoop_result {syn : List SProd} {ids : List String} {S0 : PSymbols}
    (h : newSymbols (augment syn) = .ok S0) :
    ∃ R : Array LRState, R.size ≤ C09_lrBound (C09_lrCtx syn ids S0) ∧
      (∀ fuel, R.size ≤ fuel →
        lrLoop (C09_lrCtx syn ids S0) fuel 0 (C09_lrInit (C09_lrCtx syn ids S0)) = R) ∧
      (∀ j, j < R.size → LoopsT.Done (C09_lrCtx syn ids S0) R j) := by
  have hb := (C09_lrLoop_bounded (ids := ids) h (C09_lrBound (C09_lrCtx syn ids S0))).1
  exact ⟨_, hb, LoopsT.lrLoop_sharp _ _ _ hb,
    (C09_lrLoop_terminates h _ (Nat.le_refl _)).2⟩

/-- THE MODEL'S CONSTANT.  For any context and initial collection: if the result computed with
    `fuel` has at most `fuel` states, the fuel was not exhausted — any larger fuel gives the same
    result and every state is expanded.  (`genParser` uses `fuel = 4096`.) -/
theorem C09_lrLoop_model_fuel (C : LRCtx) (init : Array LRState) (fuel : Nat)
    (hsz : (lrLoop C fuel 0 init).size ≤ fuel) :
    (∀ k, lrLoop C (fuel + k) 0 init = lrLoop C fuel 0 init) ∧
    (∀ j, j < (lrLoop C fuel 0 init).size → LoopsT.Done C (lrLoop C fuel 0 init) j) :=
  LoopsT.lrLoop_fixed C init fuel hsz

/-- every successful run of the generator model: the number of states is below the bound; and if it
    is at most 4096 (the hypothesis of the generator-level theorems C02/C03/C06/C07), the states
    ARE the result of the unbounded loop of `GetItemSets` — no `NamesOk` needed -/
theorem C09_genParser_states_final {syn : List SProd} {ids : List String} {r : LRResult}
    (h : genParser syn ids = .ok r) :
    r.states.size ≤ C09_lrBound r.ctx ∧
    (r.states.size ≤ 4096 →
      (∀ fuel, r.states.size ≤ fuel → lrLoop r.ctx fuel 0 (C09_lrInit r.ctx) = r.states) ∧
      (∀ j, j < r.states.size → LoopsT.Done r.ctx r.states j)) := by
  obtain ⟨S0, hS0, hctx, hst⟩ := genParser_shape h
  refine ⟨?_, fun hsz => ?_⟩
  · rw [hst, hctx]; exact (C09_lrLoop_bounded hS0 4096).1
  · rw [hst] at hsz ⊢
    exact ⟨LoopsT.lrLoop_sharp _ _ 4096 hsz,
      (C09_lrLoop_model_fuel _ _ 4096 hsz).2⟩

/-! ### Non-vacuity: `S : a S b | c` (`C02GenEx`, 10 states) -/

/-- the universe has 65 items (= `maxItems`), the bound is `2 ^ 65`; the collection grows
    1, 4, 4, 7, 7, 8, 9, 9, 9, 10, 10 with fuel 0 … 10 -/
theorem C09_lrLoop_example_numbers : (genParser C02GenEx.syn C02GenEx.ids).toOption.map (fun r =>
    ((C09_lrUniv r.ctx).length, r.ctx.maxItems,
     (List.range 11).map fun f => (lrLoop r.ctx f 0 (C09_lrInit r.ctx)).size)) =
    some (65, 65, [1, 4, 4, 7, 7, 8, 9, 9, 9, 10, 10]) := by
  decide +kernel

/-- instance of the theorems: 10 states `≤ 2 ^ 65`; with every fuel `≥ 10` the loop returns these
    10 states; all are expanded -/
theorem C09_lrLoop_example (r : LRResult) (h : genParser C02GenEx.syn C02GenEx.ids = .ok r) :
    r.states.size = 10 ∧ C09_lrBound r.ctx = 2 ^ 65 ∧
    (∀ fuel, 10 ≤ fuel → lrLoop r.ctx fuel 0 (C09_lrInit r.ctx) = r.states) ∧
    (∀ j, j < 10 → LoopsT.Done r.ctx r.states j) := by
  have hsz := (C02GenEx.run_summary h).1
  have hnum := of_toOption_map C09_lrLoop_example_numbers h
  replace hnum := (Prod.mk.inj hnum).1
  obtain ⟨h1, h2⟩ := (C09_genParser_states_final h).2 (by omega)
  refine ⟨hsz, by unfold C09_lrBound; rw [hnum], ?_, ?_⟩
  · intro fuel hf; exact h1 fuel (by omega)
  · intro j hj; exact h2 j (by omega)

/-- the fixed-point statement is not trivial: with fuel 5 the loop is cut (8 states, state 5 … not
    expanded), with fuel 10 it is complete -/
example (r : LRResult) (h : genParser C02GenEx.syn C02GenEx.ids = .ok r) :
    lrLoop r.ctx 5 0 (C09_lrInit r.ctx) ≠ lrLoop r.ctx 10 0 (C09_lrInit r.ctx) := by
  have hnum := of_toOption_map C09_lrLoop_example_numbers h
  replace hnum := (Prod.mk.inj (Prod.mk.inj hnum).2).2
  intro heq
  have h5 : (lrLoop r.ctx 5 0 (C09_lrInit r.ctx)).size = 8 := by
    have := congrArg (fun l => l[5]?) hnum
    simpa using this
  have h10 : (lrLoop r.ctx 10 0 (C09_lrInit r.ctx)).size = 10 := by
    have := congrArg (fun l => l[10]?) hnum
    simpa using this
  rw [heq] at h5
  omega

/-! ## lexer: `ItemSets.Closure` -/

/-- the universe of lexer items: all dotted positions of all lexical productions
    (`LoopsT.lexUniv`, under the name the statements of this file use) -/
def C09_lexUniv (C : LexCtx) : List LItem := LoopsT.lexUniv C

/-- the bound on the number of lexer item sets (`LoopsT.lexBound`) -/
def C09_lexBound (C : LexCtx) : Nat := 2 ^ (C09_lexUniv C).length

/-- `|U| + 8 ≤ C.fuel` (`C.fuel` = `Σ (4 * size(pattern) + 4) + 8`) -/
theorem C09_lexUniv_length_le (C : LexCtx) : (C09_lexUniv C).length + 8 ≤ C.fuel :=
  Nat.le_trans (Nat.add_le_add_right (Nat.le_add_right _ _) 8) (LexGenC.lexUniv_length C)

/-- membership: proper dotted positions (`EmovesU.GoodPath`) of existing productions -/
theorem C09_lexUniv_mem {C : LexCtx} {x : LItem} {P : LProd} (hP : C.prods[x.prod]? = some P)
    (hg : EmovesU.GoodPath (.pat P.pat) x.path) : x ∈ C09_lexUniv C :=
  LexGenC.pos_mem_lexUniv ⟨P, hP, hg⟩

/-- `genLexer` with the fuel of the set loop as a parameter -/
def C09_genLexerFuel (fuel : Nat) (prods : List LProd) : Except String (Array LState) := do
  let C : LexCtx := { prods := prods.toArray }
  let s0 ← newLState C (itemsSet0 C)
  lexLoop C fuel 0 #[s0]

/-- `ItemList.Closure` exhausts its work list (its fuel `|l| + C.fuel² + 8` is never exhausted):
    the result contains `l`, and every item expecting a regular definition `r` either has a shift
    item of `r` in the ORIGINAL list (Go: `this.ContainShift`) or `NewItem(r).Emoves()` is in the
    result -/
theorem C09_closureL_exhausted {C : LexCtx} {l r : List LItem} (h : closureL C l = .ok r) :
    (∀ x ∈ l, x ∈ r) ∧ ∀ i ∈ r, ∀ ref, C.expected i = some (.ref ref) →
      containShift C l ref = true ∨
      ∃ init, initialItems C ref = .ok init ∧ ∀ y ∈ init, y ∈ r :=
  LoopsT.closureL_spec h

/-- `ItemList.Closure` is idempotent — for every list, not only for good ones -/
theorem C09_closureL_idempotent {C : LexCtx} {l r : List LItem} (h : closureL C l = .ok r) :
    closureL C r = .ok r :=
  LoopsT.closureL_idem h

/-- whatever the fuel: a result of the set loop has at most `C09_lexBound C = 2 ^ |U|` sets;
    each is a duplicate-free list over `U`; different sets are different as SETS of items -/
theorem C09_lexLoop_bounded {C : LexCtx} {s0 : LState} (h0 : newLState C (itemsSet0 C) = .ok s0)
    {fuel : Nat} {R : Array LState} (h : lexLoop C fuel 0 #[s0] = .ok R) :
    R.size ≤ C09_lexBound C ∧
    (∀ (j : Nat) (st : LState), R[j]? = some st →
      st.items.Nodup ∧ ∀ x ∈ st.items, x ∈ C09_lexUniv C) ∧
    (∀ (j k : Nat) (sj sk : LState), j ≠ k → R[j]? = some sj → R[k]? = some sk →
      ¬ ∀ x, x ∈ sj.items ↔ x ∈ sk.items) :=
  have ⟨h1, h2⟩ := LoopsT.lexLoop_bounded h0 h
  ⟨h2, fun j st hj => LoopsT.goodL_univ _ (h1.good j st hj),
    fun _ _ _ _ hjk hj hk => h1.ne_of_ne (fun _ hg => hg.1) hjk hj hk⟩

/-- every item of every set of a run is a proper dotted position of an existing production -/
theorem C09_lexLoop_items_good {C : LexCtx} {s0 : LState} (h0 : newLState C (itemsSet0 C) = .ok s0)
    {fuel : Nat} {R : Array LState} (h : lexLoop C fuel 0 #[s0] = .ok R) :
    ∀ (j : Nat) (st : LState), R[j]? = some st → ∀ x ∈ st.items, LoopsT.LGood C x :=
  fun j st hj x hx => LexGenC.lGood_iff_pos.2 (((LoopsT.lexLoop_bounded h0 h).1.good j st hj).2 x hx)

/-- `ItemSet.dependentsClosure` exhausts its work list (its fuel `|items| + |prev| + C.fuel² + 8`
    is never exhausted; `hp` is not needed for it): the result contains
    `items`, and processing any item `it` of the result adds nothing new (`LoopsT.DepNew C prev it y`:
    `y` is `thisItem ∈ prev` expecting the regular definition `it.Id`, or — if `it` is a reduce
    item — one of the items `thisItem.MoveRegDefId(it.Id)`) -/
theorem C09_depClosure_exhausted {C : LexCtx} {prev : List LItem}
    (hp : ∀ x ∈ prev, LoopsT.LGood C x) (items : List LItem) :
    (∀ x ∈ items, x ∈ depClosure C prev items) ∧
    ∀ it ∈ depClosure C prev items, ∀ y, LoopsT.DepNew C prev it y → y ∈ depClosure C prev items :=
  LoopsT.depClosure_spec C prev items

/-- for every `fuel ≥ C09_lexBound C` the outcome of the loop — the collection of sets, or the
    panic "Unknown production" — does not depend on the fuel any more: this is the outcome of the
    unbounded Go loop -/
theorem C09_lexLoop_terminates {C : LexCtx} {s0 : LState}
    (h0 : newLState C (itemsSet0 C) = .ok s0) (fuel : Nat) (hf : C09_lexBound C ≤ fuel) (k : Nat) :
    lexLoop C (fuel + k) 0 #[s0] = lexLoop C fuel 0 #[s0] :=
  LoopsT.lexLoop_fixed h0 fuel hf k

/-- the outcome of the unbounded loop: a panic, or a collection `R` of at most `C09_lexBound C`
    sets that is reached with exactly `R.size` units of fuel (one per expanded set) and with any
    larger fuel -/
theorem C09_lexLoop_result {C : LexCtx} {s0 : LState} (h0 : newLState C (itemsSet0 C) = .ok s0) :
    (∃ e, ∀ fuel, C09_lexBound C ≤ fuel → lexLoop C fuel 0 #[s0] = .error e) ∨
    (∃ R : Array LState, R.size ≤ C09_lexBound C ∧
      ∀ fuel, R.size ≤ fuel → lexLoop C fuel 0 #[s0] = .ok R) := by
  cases h : lexLoop C (C09_lexBound C) 0 #[s0] with
  | error e =>
    left
    refine ⟨e, fun fuel hf => ?_⟩
    obtain ⟨k, rfl⟩ : ∃ k, fuel = C09_lexBound C + k := ⟨fuel - C09_lexBound C, by omega⟩
    exact LoopsT.lexLoop_error_stable C _ 0 _ e h k
  | ok R =>
    right
    have hb := (C09_lexLoop_bounded h0 h).1
    exact ⟨R, hb, LoopsT.lexLoop_sharp C _ R _ h hb⟩

/-- THE MODEL'S CONSTANT.  If the result computed with `fuel` has at most `fuel` sets, the fuel was
    not exhausted: every fuel `≥ R.size` gives the same result.  A panic is reached with every
    larger fuel as well.  (`genLexer` uses `fuel = 100000`.) -/
theorem C09_lexLoop_model_fuel (C : LexCtx) (init : Array LState) (fuel : Nat) :
    (∀ R, lexLoop C fuel 0 init = .ok R → R.size ≤ fuel →
      ∀ fuel', R.size ≤ fuel' → lexLoop C fuel' 0 init = .ok R) ∧
    (∀ e, lexLoop C fuel 0 init = .error e → ∀ k, lexLoop C (fuel + k) 0 init = .error e) :=
  ⟨fun R h hsz => LoopsT.lexLoop_sharp C init R fuel h hsz,
   fun e h => LoopsT.lexLoop_error_stable C fuel 0 init e h⟩

/-- every run of the lexer-generator model: a result has at most `C09_lexBound` sets; if it has at
    most 100000 sets it IS the result of the unbounded loop; a panic is a panic for every larger
    fuel; and from `fuel = C09_lexBound` on nothing depends on the fuel -/
theorem C09_genLexer_final (prods : List LProd) :
    (∀ R, genLexer prods = .ok R → R.size ≤ C09_lexBound { prods := prods.toArray } ∧
      (R.size ≤ 100000 → ∀ fuel, R.size ≤ fuel → C09_genLexerFuel fuel prods = .ok R)) ∧
    (∀ e, genLexer prods = .error e → ∀ k, C09_genLexerFuel (100000 + k) prods = .error e) ∧
    (∀ fuel, C09_lexBound { prods := prods.toArray } ≤ fuel → ∀ k,
      C09_genLexerFuel (fuel + k) prods = C09_genLexerFuel fuel prods) := by
  unfold genLexer C09_genLexerFuel
  simp only [bind, Except.bind]
  cases h0 : newLState { prods := prods.toArray } (itemsSet0 { prods := prods.toArray }) with
  | error e0 =>
    refine ⟨fun R h => (by cases h), fun e h k => h, fun _ _ _ => rfl⟩
  | ok s0 =>
    dsimp only
    refine ⟨fun R h => ⟨(C09_lexLoop_bounded h0 h).1, fun hsz =>
        (C09_lexLoop_model_fuel _ _ 100000).1 R h hsz⟩,
      fun e h => (C09_lexLoop_model_fuel _ _ 100000).2 e h,
      fun fuel hf k => C09_lexLoop_terminates h0 fuel hf k⟩

/-! ### Non-vacuity: the lexer `c09eLexC` of Props/C09Emoves.lean
```
u  : 'x' ( 'a' | { [ 'b' | ( 'c' | _r ) ] 'e' | [ 'f' ] } ) [ 'z' ] | . ;
_r : 'q' { 'q' } ;
```
(nesting depth 4, a reference to a regular definition — `closureL` and `depClosure` are not the
identity) -/

/-- 7 sets; the universe has 55 positions (`C.fuel = 180`); the collection grows with the fuel -/
theorem C09_lexLoop_example_numbers :
    ((genLexer c09eLexC.prods.toList).toOption.map (·.size),
     (C09_lexUniv c09eLexC).length, c09eLexC.fuel,
     (List.range 9).map fun f => (C09_genLexerFuel f c09eLexC.prods.toList).toOption.map (·.size)) =
    (some 7, 55, 180, [some 1, some 3, some 7, some 7, some 7, some 7, some 7, some 7, some 7]) := by
  decide +kernel

/-- instance of the theorems: `7 ≤ 2 ^ 55` sets, and every fuel `≥ 7` returns exactly these sets -/
theorem C09_lexLoop_example (R : Array LState) (h : genLexer c09eLexC.prods.toList = .ok R) :
    R.size = 7 ∧ C09_lexBound c09eLexC = 2 ^ 55 ∧
    ∀ fuel, 7 ≤ fuel → C09_genLexerFuel fuel c09eLexC.prods.toList = .ok R := by
  have hnum := C09_lexLoop_example_numbers
  rw [h] at hnum
  simp only [Except.toOption, Option.map_some, Prod.mk.injEq, Option.some.injEq] at hnum
  obtain ⟨h1, h2⟩ := (C09_genLexer_final c09eLexC.prods.toList).1 R h
  refine ⟨hnum.1, by unfold C09_lexBound; rw [hnum.2.1], ?_⟩
  intro fuel hf
  exact h2 (by omega) fuel (by omega)

/-- a panic inside the loop: `t : 'a' _x ;` with `_x` undefined — the initial set `{ t : •'a' _x }`
    is built, expanding it computes `{ t : 'a' •_x }.Closure()`, which panics; the outcome is the
    same for every fuel `≥ 1` -/
def c09PanicProds : List LProd :=
  [{ kind := .tok, id := "t", pat := .mk [.mk [.lit 97, .ref "_x"]] }]

/-- the outcome as a decidable value: number of sets, or the panic message -/
def c09Outcome (r : Except String (Array LState)) : Nat ⊕ String :=
  match r with
  | .ok R => .inl R.size
  | .error e => .inr e

theorem c09Panic_run : c09Outcome (C09_genLexerFuel 0 c09PanicProds) = .inl 1 ∧
    c09Outcome (C09_genLexerFuel 1 c09PanicProds) = .inr "Unknown production: _x" ∧
    c09Outcome (genLexer c09PanicProds) = .inr "Unknown production: _x" := by
  decide +kernel

example (k : Nat) :
    C09_genLexerFuel (100000 + k) c09PanicProds = .error "Unknown production: _x" := by
  have h := c09Panic_run.2.2
  cases hg : genLexer c09PanicProds with
  | ok R => rw [hg] at h; cases h
  | error e =>
    rw [hg] at h
    simp only [c09Outcome, Sum.inr.injEq] at h
    subst h
    exact (C09_genLexer_final c09PanicProds).2.1 _ hg k

end Gocc
