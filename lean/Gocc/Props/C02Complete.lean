import Gocc.Proofs.ValidateC
import Gocc.Props.C02
/-
C02 (completeness half) — a parser whose tables pass the completeness validator accepts every
sentence.

Quantifiers: every numbered grammar `G`, every `T : PTables`, every nullable/FIRST certificate
`fc` with `firstOk G fc = true`, every LR(1) certificate `c` (items with look-aheads per state)
with `complete G T fc c = true` (Model/ValidateC.lean), every harness configuration `cfg` over
these tables whose semantic actions never fail or panic (`ActsOk cfg`), every token-type sequence
`w`, every previous parser state `old`:

      w is a sentence of G   ⟹   for some fuel, Parse accepts w.

Hypotheses the theorem does without:
  * no hypothesis `∀ s, T.canRecover[s]?.getD false = false`: along the run of a sentence the
    action entry is never missing, so `Error` is never called, whatever the recovery table says;
  * no hypothesis `1 ∉ w` (nor `0 ∉ w`): the run follows the derivation; a token of type 1 inside
    `w` is treated like any other terminal of the grammar.
`C02_accept_iff_sentence` combines both validators under the union of the hypotheses.

`complete` checks, besides (K0)–(K3) and "production table = grammar":
  * no action row is wider than `T.numSymbols` (this, not the range of the terminals of `G`, is
    what rules out the "index out of range (token type)" panic: an existing entry has an index
    inside its row); `T.numSymbols > 1` and "terminals of `G` are `< T.numSymbols`" are checked
    too, but the proof does not use them;
  * `S'` (the head of production 0) occurs in no body — otherwise (K3) would demand `accept`
    where a reduce by production 0 is needed.
-/
namespace Gocc

/-- (C02-complete) every sentence is accepted -/
theorem C02_sentence_accepted {G : NGrammar} {T : PTables} {fc : FirstCert} {c : CertLA}
    (hf : firstOk G fc = true) (hc : complete G T fc c = true)
    {cfg : PCfg} (hA : ActsOk cfg) (hT : cfg.T = T)
    {w : List Nat} (hs : NSentence G w) (old : PState) :
    ∃ fuel r, (parse cfg w fuel old).1 = Outcome.accept r :=
  parse_accepts hf (hT ▸ hc) hA hs old

/-- more fuel does not change the verdict: acceptance with `fuel` is acceptance with any larger
    fuel (so "for some fuel" is "for all sufficiently large fuel") -/
theorem C02_accept_fuel_mono {cfg : PCfg} {w : List Nat} {fuel : Nat} {old : PState} {r : Attr}
    (h : (parse cfg w fuel old).1 = Outcome.accept r) (k : Nat) :
    (parse cfg w (fuel + k) old).1 = Outcome.accept r := by
  unfold parse at h ⊢
  rw [parseLoop_fuel_mono (by rw [h]; intro h'; cases h') k]
  exact h

/-- (FIRST lemma) a closed nullable/FIRST certificate is sound for look-ahead computation: if
    `β` derives `v`, then the token following in `v post` (1 = end of input when there is none)
    is in `firstOfSeq fc β a`, where `a` is the token following in `post` -/
theorem C02_firstOfSeq_sound {G : NGrammar} {fc : FirstCert} (hf : firstOk G fc = true)
    {β : List Sym} {v : List Nat} (hd : NDerives G β v) (post : List Nat) :
    (v ++ post).head?.getD 1 ∈ firstOfSeq fc β (post.head?.getD 1) :=
  mem_firstOfSeq_of_derives hf hd post

/-- `ActsOk` is satisfiable: it follows from a decidable condition on the production kinds -/
theorem C02_actsOk_of_kindsTotal {cfg : PCfg} (h0 : cfg.failAt = 0)
    (hk : kindsTotal cfg.T = true) : ActsOk cfg := by
  refine ⟨h0, fun p n hn X hX => ?_⟩
  have hp : p < cfg.T.prodLen.size := (Array.getElem?_eq_some_iff.mp hn).1
  simp only [kindsTotal, List.all_eq_true, List.mem_range] at hk
  have := hk p hp
  rw [hn] at this
  generalize cfg.T.prodKind[p]?.getD .dflt = kd at this ⊢
  rcases kd with _ | _ | ⟨shape, id⟩
  · simp only [Option.getD_some, bne_iff_ne, ne_eq] at this
    simp only [kindOk]
    intro hX'
    subst hX'
    exact this hX.symm
  · trivial
  · simp only [Option.getD_some, Bool.or_eq_true, Bool.and_eq_true, beq_iff_eq, bne_iff_ne,
      ne_eq] at this
    simp only [kindOk]
    rcases this with ((rfl | rfl) | rfl) | ⟨rfl | rfl, hn0⟩
    · exact ⟨_, rfl⟩
    · exact ⟨_, rfl⟩
    · exact ⟨_, rfl⟩
    · rcases X with _ | ⟨x, X⟩
      · exact absurd hX.symm hn0
      · exact ⟨_, rfl⟩
    · rcases hl : X.getLast? with _ | x
      · rw [List.getLast?_eq_none_iff] at hl
        subst hl
        exact absurd hX.symm hn0
      · exact ⟨.node id [x], by simp [userAction, hl]⟩

/-- both validators together: Parse decides membership -/
theorem C02_accept_iff_sentence {G : NGrammar} {T : PTables} {cert : Cert} {fc : FirstCert}
    {c : CertLA} (hs : safe G T cert = true) (he : safeEnds T cert = true)
    (hf : firstOk G fc = true) (hc : complete G T fc c = true)
    (hr : ∀ s : Nat, T.canRecover[s]?.getD false = false)
    {cfg : PCfg} (hA : ActsOk cfg) (hT : cfg.T = T) {w : List Nat} (hw : 1 ∉ w) (old : PState) :
    (∃ fuel r, (parse cfg w fuel old).1 = Outcome.accept r) ↔ NSentence G w :=
  ⟨fun ⟨_, _, h⟩ => C02_accept_sound hs he hr hw hT h,
   fun h => C02_sentence_accepted hf hc hA hT h old⟩

/-! ### Non-vacuity: `S' : S ;  S : a S | b` (grammar, tables and `cfg` of `C02Ex`) -/
namespace C02Ex

/-- LR(1) item sets of the five states, look-ahead 1 (end of input) everywhere -/
def certLA : CertLA :=
  #[[(0, 0, 1), (1, 0, 1), (2, 0, 1)], [(1, 1, 1), (1, 0, 1), (2, 0, 1)], [(2, 1, 1)],
    [(0, 1, 1)], [(1, 2, 1)]]

/-- nothing is nullable; FIRST(S') = FIRST(S) = {a, b} -/
def fc : FirstCert := { nullable := [], first := [(0, 2), (0, 3), (1, 2), (1, 3)] }

theorem firstOk_ok : firstOk G fc = true := by decide +kernel
theorem complete_ok : complete G T fc certLA = true := by decide +kernel

/-- the actions of `cfg` never fail: production 0 has the default action on a body of length 1,
    the others `Mk` actions -/
theorem actsOk : ActsOk cfg := C02_actsOk_of_kindsTotal rfl (by decide +kernel)

/-- the same tables with an `Mk` action (`RKind.user 1 _`) on every production -/
def cfgU : PCfg :=
  { T := { T with prodKind := #[.user 1 9, .user 1 10, .user 1 11] }, errTerm := 0, failAt := 0 }

theorem actsOkU : ActsOk cfgU := C02_actsOk_of_kindsTotal rfl (by decide +kernel)

/-- `a a b` is a sentence (by a derivation, not by running the parser) -/
theorem sentence_aab : NSentence G [2, 2, 3] := by
  have hb : NDerives G [Sym.nt 1] [3] := .of_body (p := 2) (by decide) (.term .nil)
  have hab : NDerives G [Sym.nt 1] [2, 3] := .of_body (p := 1) (by decide) (.term hb)
  exact .of_body (p := 1) (by decide) (.term hab)

/-- hence, through the theorem, `a a b` is accepted -/
theorem accepted_aab (old : PState) :
    ∃ fuel r, (parse cfg [2, 2, 3] fuel old).1 = Outcome.accept r :=
  C02_sentence_accepted firstOk_ok complete_ok actsOk rfl sentence_aab old

/-- … also with user actions everywhere (the checks do not look at `prodKind`) -/
example (old : PState) : ∃ fuel r, (parse cfgU [2, 2, 3] fuel old).1 = Outcome.accept r :=
  C02_sentence_accepted (T := cfgU.T) (c := certLA) firstOk_ok (by decide +kernel) actsOkU rfl
    sentence_aab old

/-- for this grammar Parse decides membership, for every input without an end-of-input token -/
theorem decides {w : List Nat} (hw : 1 ∉ w) (old : PState) :
    (∃ fuel r, (parse cfg w fuel old).1 = Outcome.accept r) ↔ NSentence G w :=
  C02_accept_iff_sentence safe_ok safeEnds_ok firstOk_ok complete_ok noRecovery actsOk rfl hw old

/-- the validator rejects incomplete tables: without the reduce entry of state 2 … -/
def Tbad : PTables :=
  { T with action := #[
      #[none, none, some (.shift 1), some (.shift 2)],
      #[none, none, some (.shift 1), some (.shift 2)],
      #[none, none, none, none],
      #[none, some .accept, none, none],
      #[none, some (.reduce 1), none, none]] }
example : complete G Tbad fc certLA = false := by decide +kernel
/-- … and a FIRST certificate that is not closed is rejected -/
example : firstOk G { nullable := [], first := [(1, 2), (1, 3)] } = false := by decide +kernel

end C02Ex

end Gocc
