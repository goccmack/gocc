import Gocc.Model.Scan
/-
C17 — independent lexer/parser instances used concurrently.

Abstract memory model: thread `i` owns a private state `st i` (its lexer cursor / parser stack);
all threads read a shared store `sh` (the generated tables `TransTab`, `ActTab`, `actionTab`,
`gotoTab`, `productionsTable`, `TokMap`) that NO step writes.  A schedule is any list of thread
ids; `runSched` performs one step of the scheduled thread at a time.  Whatever the interleaving,
every thread ends in the state its solo run of the same number of steps reaches.  The two theorems
hold for any step function; the instance spelled out is the lexer (`C17_lexers`).

The premise "no step writes the shared store" is not a Lean fact: it is re-extracted on every run
from the generated packages (assignments to package-level variables outside init()), and the Go
memory model (data-race-free programs are sequentially consistent) is trusted.
-/
namespace Gocc

/-- `iterN f n x` = `f` applied `n` times to `x` (the solo run of one thread) -/
def iterN {σ : Type} (f : σ → σ) : Nat → σ → σ
  | 0, x => x
  | n + 1, x => iterN f n (f x)

def updAt {σ : Type} (st : Nat → σ) (i : Nat) (v : σ) : Nat → σ := fun j => if j = i then v else st j

/-- interleaved execution: `step i sh` is thread i's step function over the read-only store `sh` -/
def runSched {S σ : Type} (step : Nat → S → σ → σ) (sh : S) : List Nat → (Nat → σ) → (Nat → σ)
  | [], st => st
  | i :: rest, st => runSched step sh rest (updAt st i (step i sh (st i)))

theorem C17_interleaving_projects {S σ : Type} (step : Nat → S → σ → σ) (sh : S) (sched : List Nat)
    (st : Nat → σ) (i : Nat) :
    runSched step sh sched st i = iterN (step i sh) (sched.count i) (st i) := by
  induction sched generalizing st with
  | nil => rfl
  | cons j rest ih =>
    rw [runSched, ih]
    by_cases h : j = i
    · subst h
      rw [List.count_cons_self, iterN, updAt, if_pos rfl]
    · rw [List.count_cons_of_ne h, updAt, if_neg (Ne.symm h)]

/-- two schedules that give every thread the same number of steps leave every thread in the same state -/
theorem C17_schedule_irrelevant {S σ : Type} (step : Nat → S → σ → σ) (sh : S) (s1 s2 : List Nat)
    (st : Nat → σ) (h : ∀ i, s1.count i = s2.count i) (i : Nat) :
    runSched step sh s1 st i = runSched step sh s2 st i := by
  rw [C17_interleaving_projects, C17_interleaving_projects, h]

/-- instance: goroutine `i` scans its own source `srcs i` with its own lexer over the shared tables `T`:
    under any interleaving its cursor is the one reached by as many solo `Scan` calls as the schedule
    gives it -/
theorem C17_lexers (T : LexTables) (srcs : Nat → List Nat) (sched : List Nat) (i : Nat) :
    runSched (fun j T st => (scan T (srcs j) st).2) T sched (fun _ => newLexer) i
      = iterN (fun st => (scan T (srcs i) st).2) (sched.count i) newLexer :=
  C17_interleaving_projects _ T sched _ i

-- non-vacuity: two threads, an actual interleaving
example : runSched (fun (j : Nat) (sh : Nat) (x : Nat) => x + sh + j) 10 [0, 1, 1, 0, 1] (fun _ => 0) 1 = 33 := by decide

end Gocc
