import Gocc.Proofs.ValidateV
import Gocc.Props.C02Complete
/-
C06 — error reporting of the generated parser.  For a conflict-free grammar without error
alternatives whose non-terminals are all productive: when `Parse` fails with a syntax error, the
error identifies the FIRST input token `t_i` such that `t_1 … t_i` is not a prefix of any sentence,
and the error's expected-token list is EXACTLY the set of terminals (or end of input) `a` for which
`t_1 … t_(i-1) a` is a prefix of a sentence.

Quantifiers: every numbered grammar `G`, every `T : PTables`, every nullable/FIRST certificate
`fc` with `firstOk G fc`, every LR(1) certificate `c` with `complete G T fc c` (Model/ValidateC),
every derivation certificate `vc` with `validItems G T c vc` (Model/ValidateV: the tables contain
no action that is not justified by a derivation; all non-terminals productive; terminals 0 and 1
occur in no body), no recovery state (`hr`: the grammar has no error alternative), every harness
configuration `cfg` over these tables whose semantic actions never fail (`ActsOk cfg`), every
token-type sequence `w`, every fuel, every previous parser state `old`.

  (A) `C06_action_implies_viable`   in every configuration the parser reaches on `w`, having
        consumed `w.take k`: the consumed input is a prefix of a sentence, and an action entry of
        the top state on ANY terminal `a` implies that `w.take k ++ [a]` is a prefix of a sentence
        (that `w.take k` is a sentence, for `a` = 1 = end of input);
  (B) `C06_error_token_is_first_offending`   the reported token is token `i` of the input (end of
        input when `i = |w|`), `w.take i` is a prefix of a sentence, `w.take (i+1)` is not;
  (C) `C06_expected_set_exact`   the expected list is strictly increasing and contains exactly the
        terminals that can continue `w.take i`;
  (D) `C06_no_reduction_on_bad_lookahead`   the parser made no move (in particular no reduction,
        no action call) with the offending token as look-ahead: the input `w.take i ++ [INVALID]`
        ends in exactly the same configuration (same stack, attributes, call log, call count), with
        the same error except for the reported token type.

Hypotheses the theorems do without, and where they say more than the property text:
  * no hypotheses `safe G T cert`, `safeEnds T cert`: the symbol-stack invariant needs only the
    edge checks of `validItems` (which include "no edge enters state 0");
  * no hypothesis `1 ∉ w` (nor `0 ∉ w`): a token of type 1 inside `w` is reported like end of input
    (`typ = 1`), and the statements remain true as written;
  * (A) is stated for every terminal `a`, not only for the current look-ahead;
  * (A), (B)(i), (B)(ii) and the direction "expected ⟹ viable" of (C) do not need `firstOk`,
    `ActsOk`; they are proved under the full hypotheses only where stated.
-/
namespace Gocc

/-- (A) along any run of the parser on `w` from the initial configuration: `k` tokens have been
    consumed, they are a prefix of a sentence, the look-ahead is token `k`, and every existing
    action of the top state is justified by a sentence -/
theorem C06_action_implies_viable {G : NGrammar} {T : PTables} {fc : FirstCert} {c : CertLA}
    {vc : VCert} (hc : complete G T fc c = true) (hv : validItems G T c vc = true)
    (hr : ∀ s : Nat, T.canRecover[s]?.getD false = false) {cfg : PCfg} (hT : cfg.T = T)
    {w : List Nat} {ps : PState} (hrun : Steps cfg w (initPS w) ps)
    {top : Nat} {rest : List Nat} (hst : ps.states = top :: rest) :
    ∃ k, k ≤ w.length ∧ ps.ntok = k + 1 ∧ ps.next = scanTok w k ∧ NViablePrefix G (w.take k) ∧
      ∀ a act, T.act top a = some act →
        (a ≠ 1 → ∃ v, NSentence G (w.take k ++ a :: v)) ∧ (a = 1 → NSentence G (w.take k)) := by
  subst hT
  have VF := validFacts_of hv
  obtain ⟨γ, m, hS, hu, hnt, hnx, hle, hvp⟩ :=
    hrun.vinv VF (completeFacts_of hc) hr (vinv_init VF w)
  rw [hst] at hS
  exact ⟨m, hle, hnt, hnx, hvp, fun a act ha => act_viable VF hS hu ha⟩

/-- the runs of (A) are the runs of `Parse`: `Parse` starts in `initPS w`, and a run of `n` loop
    iterations can be cut off any `parseLoop` -/
theorem C06_parse_run (cfg : PCfg) (w : List Nat) (fuel : Nat) (old : PState) :
    parse cfg w fuel old = parseLoop cfg w fuel (initPS w) := parse_eq cfg w fuel old

/-- (B) the reported token is the first one that cannot continue a sentence -/
theorem C06_error_token_is_first_offending {G : NGrammar} {T : PTables} {fc : FirstCert}
    {c : CertLA} {vc : VCert} (hf : firstOk G fc = true) (hc : complete G T fc c = true)
    (hv : validItems G T c vc = true) (hr : ∀ s : Nat, T.canRecover[s]?.getD false = false)
    {cfg : PCfg} (hA : ActsOk cfg) (hT : cfg.T = T) {w : List Nat} {fuel : Nat} {old : PState}
    {i typ : Nat} {exp : List Nat} {top : Nat}
    (h : (parse cfg w fuel old).1 = Outcome.synErr i typ exp top) :
    NViablePrefix G (w.take i) ∧ i ≤ w.length ∧ typ = (w[i]?).getD 1 ∧
    (typ ≠ 1 → ¬ ∃ v, NSentence G (w.take i ++ typ :: v)) ∧
    (typ = 1 → ¬ NSentence G (w.take i)) := by
  subst hT
  have VF := validFacts_of hv
  obtain ⟨ps, rest, γ, -, hrun, hst, ha, hnx, hty, -, -, -, hnt, hle, hvp⟩ :=
    synErr_state VF (completeFacts_of hc) hr h
  refine ⟨hvp, hle, by rw [← hty, hnx, scanTok_eq], ?_, ?_⟩
  · rintro - ⟨v, hv'⟩
    exact stuck_ext hf hc hr hA hrun hst ha hnt hnx hle (x := typ :: v) (by simp [hty]) hv'
  · intro h1 hs
    exact stuck_ext hf hc hr hA hrun hst ha hnt hnx hle (x := []) (by simp [hty, h1])
      (by simpa using hs)

/-- (C) the expected-token list is exactly the set of terminals (1 = end of input) that can
    follow the consumed input in a sentence, in strictly increasing order -/
theorem C06_expected_set_exact {G : NGrammar} {T : PTables} {fc : FirstCert}
    {c : CertLA} {vc : VCert} (hf : firstOk G fc = true) (hc : complete G T fc c = true)
    (hv : validItems G T c vc = true) (hr : ∀ s : Nat, T.canRecover[s]?.getD false = false)
    {cfg : PCfg} (hA : ActsOk cfg) (hT : cfg.T = T) {w : List Nat} {fuel : Nat} {old : PState}
    {i typ : Nat} {exp : List Nat} {top : Nat}
    (h : (parse cfg w fuel old).1 = Outcome.synErr i typ exp top) :
    (∀ a, a ∈ exp ↔
      (a ≠ 1 ∧ ∃ v, NSentence G (w.take i ++ a :: v)) ∨ (a = 1 ∧ NSentence G (w.take i))) ∧
    exp.Pairwise (· < ·) := by
  subst hT
  have VF := validFacts_of hv
  obtain ⟨ps, rest, γ, -, hrun, hst, ha', hnx', -, hexp, hS, hu, hnt, hle, -⟩ :=
    synErr_state VF (completeFacts_of hc) hr h
  subst hexp
  refine ⟨fun a => ⟨fun hm => ?_, fun hs => ?_⟩, rowExpected_sorted cfg.T top⟩
  · -- an existing action is justified
    rcases hact : cfg.T.act top a with _ | act
    · rw [mem_rowExpected, hact] at hm; cases hm
    · have := act_viable VF hS hu hact
      by_cases h1 : a = 1
      · exact .inr ⟨h1, this.2 h1⟩
      · exact .inl ⟨h1, this.1 h1⟩
  · -- a possible continuation has its action: the same stack is reached on the continuation
    obtain ⟨x, hx, hsx⟩ : ∃ x : List Nat, x.head?.getD 1 = a ∧ NSentence G (w.take i ++ x) := by
      rcases hs with ⟨-, v, hv'⟩ | ⟨h1, hs⟩
      · exact ⟨a :: v, rfl, hv'⟩
      · exact ⟨[], by simp [h1], by simpa using hs⟩
    have hrun' := err_state_fresh VF hf hc hr hA hrun hst ha' hnt hnx' hle (w.take i ++ x)
      (fun j hj => scanTok_take_append x hj hle)
    rw [scanTok_take_at x hle, hx] at hrun'
    rw [mem_rowExpected]
    rcases hact : cfg.T.act top a with _ | act
    · exact absurd hsx (stuck_not_sentence hf hc hr hA hrun' (top := top) (rest := rest) hst hact)
    · rfl

/-- (D) no move is made with the offending token as look-ahead: on `w.take i ++ [0]` (token type
    0 = INVALID, which has no action anywhere) `Parse` ends in exactly the same configuration —
    same stack, attributes, call log and call count — reporting the same error with token type 0 -/
theorem C06_no_reduction_on_bad_lookahead {G : NGrammar} {T : PTables} {fc : FirstCert}
    {c : CertLA} {vc : VCert} (hf : firstOk G fc = true) (hc : complete G T fc c = true)
    (hv : validItems G T c vc = true) (hr : ∀ s : Nat, T.canRecover[s]?.getD false = false)
    {cfg : PCfg} (hA : ActsOk cfg) (hT : cfg.T = T) {w : List Nat} {fuel : Nat} {old : PState}
    {i typ : Nat} {exp : List Nat} {top : Nat}
    (h : (parse cfg w fuel old).1 = Outcome.synErr i typ exp top) :
    ∃ fuel', parse cfg (w.take i ++ [0]) fuel' old =
      (Outcome.synErr i 0 exp top, { (parse cfg w fuel old).2 with next := (i, 0) }) := by
  subst hT
  have VF := validFacts_of hv
  obtain ⟨ps, rest, γ, hps, hrun, hst, ha', hnx', -, hexp, hS, hu, hnt, hle, -⟩ :=
    synErr_state VF (completeFacts_of hc) hr h
  have hrun' := err_state_fresh VF hf hc hr hA hrun hst ha' hnt hnx' hle (w.take i ++ [0])
    (fun j hj => scanTok_take_append [0] hj hle)
  rw [scanTok_take_at [0] hle] at hrun'
  simp only [List.head?_cons, Option.getD_some] at hrun'
  -- INVALID has no action
  have h0 : cfg.T.act top 0 = none := by
    rcases hact : cfg.T.act top 0 with _ | act
    · rfl
    · obtain ⟨v, hv'⟩ := (act_viable VF hS hu hact).1 (by omega)
      exact absurd (by simp) (sentence_no_eof VF (.inl rfl) hv')
  have hlt : (0 : Nat) < cfg.T.numSymbols := by have := complete_numSymbols hc; omega
  have hstep := step_noact hr (w.take i ++ [0]) (ps := { ps with next := (i, 0) }) hst hlt h0
  obtain ⟨n, hn⟩ := steps_done hrun' hstep
  exact ⟨n, by rw [parse_eq, hn n (Nat.le_refl _), ← hps, hexp]⟩

/-! ### Non-vacuity: `S' : S ;  S : a S | b` (grammar, tables, `cfg`, `certLA`, `fc` of `C02Ex`) -/
namespace C06Ex
open C02Ex

/-- derivation certificate: `S'` is productive by production 0 because `S` (later in the list) is,
    by production 2 (`S : b`); nothing is nullable; FIRST(S') ∋ a, b by production 0 position 0
    because FIRST(S) ∋ a (production 1, position 0), b (production 2, position 0) -/
def vc : VCert :=
  { prod := [(0, 0), (1, 2)], null := [],
    first := [(0, 2, 0, 0), (0, 3, 0, 0), (1, 2, 1, 0), (1, 3, 2, 0)] }

theorem validItems_ok : validItems G T certLA vc = true := by decide +kernel

/-- `a a`: error at end of input (token index 2, type 1), expected `a` or `b`, in state 1 -/
theorem err_aa : (parse cfg [2, 2] 20 default).1 = Outcome.synErr 2 1 [2, 3] 1 := rfl

/-- `b b`: the second `b` (token index 1, type 3) is reported, expected end of input, in state 2 -/
theorem err_bb : (parse cfg [3, 3] 20 default).1 = Outcome.synErr 1 3 [1] 2 := rfl

/-- (B) on `a a`: `a a` is a prefix of a sentence but not a sentence -/
example : NViablePrefix G [2, 2] ∧ ¬ NSentence G [2, 2] := by
  have := C06_error_token_is_first_offending firstOk_ok complete_ok validItems_ok noRecovery
    actsOk rfl err_aa
  exact ⟨this.1, this.2.2.2.2 rfl⟩

/-- (C) on `a a`: `a a a …` and `a a b …` are prefixes of sentences, nothing else is -/
example : (∃ v, NSentence G (2 :: 2 :: 2 :: v)) ∧ (∃ v, NSentence G (2 :: 2 :: 3 :: v)) ∧
    ∀ a, a ≠ 2 → a ≠ 3 → a ≠ 1 → ¬ ∃ v, NSentence G (2 :: 2 :: a :: v) := by
  have := (C06_expected_set_exact firstOk_ok complete_ok validItems_ok noRecovery actsOk rfl
    err_aa).1
  refine ⟨?_, ?_, ?_⟩
  · rcases (this 2).1 (by simp) with ⟨-, h⟩ | ⟨h, -⟩
    · exact h
    · cases h
  · rcases (this 3).1 (by simp) with ⟨-, h⟩ | ⟨h, -⟩
    · exact h
    · cases h
  · intro a h2 h3 h1 hv
    have := (this a).2 (.inl ⟨h1, hv⟩)
    simp at this
    omega

/-- (B) on `b b`: `b` is a prefix of a sentence, `b b …` is not -/
example : NViablePrefix G [3] ∧ ¬ ∃ v, NSentence G (3 :: 3 :: v) := by
  have := C06_error_token_is_first_offending firstOk_ok complete_ok validItems_ok noRecovery
    actsOk rfl err_bb
  exact ⟨this.1, this.2.2.2.1 (by decide)⟩

/-- (C) on `b b`: after `b` only end of input is possible — `b` is a sentence, `b a …` is not -/
example : NSentence G [3] ∧ ¬ ∃ v, NSentence G (3 :: 2 :: v) := by
  have := (C06_expected_set_exact firstOk_ok complete_ok validItems_ok noRecovery actsOk rfl
    err_bb).1
  constructor
  · rcases (this 1).1 (by simp) with ⟨h, -⟩ | ⟨-, h⟩
    · exact absurd rfl h
    · exact h
  · intro hv
    have := (this 2).2 (.inl ⟨by decide, hv⟩)
    simp at this

/-- (A) on the run of `a a` that ends in the error state: the action `shift` on `b` of state 1
    is justified by a sentence `a a b …` -/
example : ∃ v, NSentence G (2 :: 2 :: 3 :: v) := by
  have hrun : Steps cfg [2, 2] (initPS [2, 2])
      { states := [1, 1, 0], attrs := [.tok 1 2, .tok 0 2, .nil], next := (2, 1), ntok := 3,
        log := [], calls := 0 } :=
    .head (ps1 := { states := [1, 0], attrs := [.tok 0 2, .nil], next := (1, 2), ntok := 2,
                    log := [], calls := 0 }) rfl (.head rfl (.refl _))
  obtain ⟨k, -, hk, -, -, hact⟩ :=
    C06_action_implies_viable complete_ok validItems_ok noRecovery (cfg := cfg) rfl hrun
      (top := 1) (rest := [1, 0]) rfl
  have : k = 2 := by simpa using hk.symm
  subst this
  exact (hact 3 (.shift 2) rfl).1 (by decide)

/-- (D) on `a a`: with INVALID instead of end of input the parser stops in the same configuration -/
example : ∃ fuel', parse cfg [2, 2, 0] fuel' default =
    (Outcome.synErr 2 0 [2, 3] 1, { (parse cfg [2, 2] 20 default).2 with next := (2, 0) }) :=
  C06_no_reduction_on_bad_lookahead firstOk_ok complete_ok validItems_ok noRecovery actsOk rfl
    err_aa

/-- the validator rejects an unjustified action: state 2 (`S : b •`, look-ahead end of input)
    with an extra reduce on `a` … -/
def Tbad : PTables :=
  { T with action := #[
      #[none, none, some (.shift 1), some (.shift 2)],
      #[none, none, some (.shift 1), some (.shift 2)],
      #[none, some (.reduce 2), some (.reduce 2), none],
      #[none, some .accept, none, none],
      #[none, some (.reduce 1), none, none]] }
example : validItems G Tbad certLA vc = false := by decide +kernel
/-- … also when the certificate claims the item `(S : b •, a)`: it has no justified predecessor -/
example : validItems G Tbad
    #[[(0, 0, 1), (1, 0, 1), (2, 0, 1)], [(1, 1, 1), (1, 0, 1), (2, 0, 1)], [(2, 1, 1), (2, 1, 2)],
      [(0, 1, 1)], [(1, 2, 1)]] vc = false := by decide +kernel
/-- … and with the predecessors `(S : • b, a)` added: their look-ahead `a` is not in the exact
    FIRST set of what follows `S` in `S' : • S` / `S : a • S` -/
example : validItems G Tbad
    #[[(0, 0, 1), (1, 0, 1), (2, 0, 1), (2, 0, 2)], [(1, 1, 1), (1, 0, 1), (2, 0, 1), (2, 0, 2)],
      [(2, 1, 1), (2, 1, 2)], [(0, 1, 1)], [(1, 2, 1)]] vc = false := by decide +kernel
/-- … and a FIRST claim without derivation (`a ∈ FIRST(S)` "because" `S : b`) is rejected -/
example : validItems G T certLA { vc with first := (1, 2, 2, 0) :: vc.first } = false := by decide +kernel
/-- the order of the item lists matters: a closure item must come after the item it stems from -/
example : validItems G T
    #[[(0, 0, 1), (1, 0, 1), (2, 0, 1)], [(2, 0, 1), (1, 0, 1), (1, 1, 1)], [(2, 1, 1)],
      [(0, 1, 1)], [(1, 2, 1)]] vc = false := by decide +kernel

end C06Ex

end Gocc
