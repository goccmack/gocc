import Gocc.Spec.SemWF
import Gocc.Proofs.SemCheck
import Gocc.Proofs.ActionFold  -- `DecidableEq (Except _ _)`, for the examples
/-
C14, semantic half — "uses an undefined syntax production or regular definition, defines a token,
ignored token or regular definition twice, or leaves an alternative empty".

Object: `semCheck` (Model/SemCheck.lean), the model of NewLexProdMap/NewLexPart, `consistent` and
`UndefinedRegDef`.  Spec: `SemWF` (Spec/SemWF.lean), the four clauses of the property read literally,
independently of the code (its executable form `semWFb` is the oracle of the C14 check).
Theorem: the checks pass exactly on the well-formed grammars, for every grammar value the front end can
produce (`KindsOk`); and each error names a real culprit.
Tie: the C14 check mutates grammar VALUES (reference renaming — also to names with a non-ASCII capital —,
definition duplication, harmless twins), lets spec and model give their verdicts and compares both with gocc.

The spec takes "is a production name" from the front end's classification (`SSym.kind`), not from the code's own
test on the spelling: stated with the latter the theorem is true as well and hides defect D14 (`S : a Äb ;` with
`Äb` undefined exits 0); the model follows the fixed code.
-/
namespace Gocc

theorem semCheck_error {g : Grammar} {im : List String} {e : SemErr} (h : semCheck g im = .error e) :
    (∃ id, firstDup (g.lex.map (·.id)) = some id ∧ e = .dupDef id) ∨
    (∃ p, g.syn.find? (fun p => p.body.isEmpty) = some p ∧ e = .emptyAlt p.head) ∨
    (∃ n, reservedUse g = some n ∧ e = .reserved n) ∨
    (∃ n, reservedTok g = some n ∧ e = .reserved n) ∨
    (∃ s, (g.syn.flatMap (·.body)).find? (undefinedUse g) = some s ∧ e = .undefinedProd s.name) ∨
    ∃ x, (g.lex.flatMap fun p => p.pat.refs.map fun r => (r, p.id)).find?
      (fun x => !(regDefIds g).contains x.1 && !im.contains x.1) = some x ∧ e = .undefinedRegDef x.1 x.2 := by
  revert h
  refine semCheck_cases g im ?_ ?_ ?_ ?_ ?_ ?_ nofun
  · rintro id hd ⟨⟩; exact .inl ⟨id, hd, rfl⟩
  · rintro p he ⟨⟩; exact .inr (.inl ⟨p, he, rfl⟩)
  · rintro n hn ⟨⟩; exact .inr (.inr (.inl ⟨n, hn, rfl⟩))
  · rintro n hn ⟨⟩; exact .inr (.inr (.inr (.inl ⟨n, hn, rfl⟩)))
  · rintro s hu ⟨⟩; exact .inr (.inr (.inr (.inr (.inl ⟨s, hu, rfl⟩))))
  · rintro x hr ⟨⟩; exact .inr (.inr (.inr (.inr (.inr ⟨x, hr, rfl⟩))))

/-- the semantic checks pass exactly on the grammars that satisfy the property's clauses -/
theorem C14_semCheck_iff (g : Grammar) (imports : List String) (hk : KindsOk g) (hres : NoReserved g) :
    semCheck g imports = .ok () ↔ SemWF g imports := by
  have hE : g.syn.find? (fun p => p.body.isEmpty) = none ↔ ∀ p ∈ g.syn, p.body ≠ [] := by
    simp only [List.find?_eq_none, List.isEmpty_iff]
  have hR : (g.lex.flatMap fun p => p.pat.refs.map fun r => (r, p.id)).find?
      (fun x => !(regDefIds g).contains x.1 && !imports.contains x.1) = none ↔
      ∀ p ∈ g.lex, ∀ r ∈ p.pat.refs, r ∈ regDefIds g ∨ r ∈ imports := by
    simp only [List.find?_eq_none, List.mem_flatMap, List.mem_map, forall_exists_index, and_imp]
    constructor
    · intro h p hp r hr
      simpa [Decidable.or_iff_not_imp_left] using h (r, p.id) p hp r hr rfl
    · rintro h _ p hp r hr rfl
      simpa [Decidable.or_iff_not_imp_left] using h p hp r hr
  refine semCheck_cases g imports ?_ ?_ ?_ ?_ ?_ ?_ ?_
  · exact fun id hd => ⟨nofun, fun w => by rw [firstDup_none.2 w.noDup] at hd; cases hd⟩
  · exact fun p he => ⟨nofun, fun w => by rw [hE.2 w.noEmpty] at he; cases he⟩
  · exact fun n hn => by rw [hres.1] at hn; cases hn
  · exact fun n hn => by rw [hres.2] at hn; cases hn
  · exact fun s hu => ⟨nofun, fun w => by rw [(undefinedUse_none_iff hk).2 w.prodsDefined] at hu; cases hu⟩
  · exact fun x hr => ⟨nofun, fun w => by rw [hR.2 w.regDefsDefined] at hr; cases hr⟩
  · exact fun hd he _ _ hu hr => ⟨fun _ => ⟨firstDup_none.1 hd, hE.1 he, (undefinedUse_none_iff hk).1 hu, hR.1 hr⟩, fun _ => rfl⟩

/-- the executable oracle of the check agrees with the model on everything the front end can produce -/
theorem C14_semCheck_iff_oracle (g : Grammar) (imports : List String) (hk : KindsOk g) (hres : NoReserved g) :
    semCheck g imports = .ok () ↔ semWFb g imports = true :=
  (C14_semCheck_iff g imports hk hres).trans (semWFb_iff g imports).symm

/-- a reserved-name clash is always refused (whatever else is wrong with the file, something is reported) -/
theorem C14_semCheck_reserved (g : Grammar) (imports : List String) (h : ¬ NoReserved g) :
    semCheck g imports ≠ .ok () :=
  semCheck_cases g imports (fun _ _ => nofun) (fun _ _ => nofun) (fun _ _ => nofun) (fun _ _ => nofun)
    (fun _ _ => nofun) (fun _ _ => nofun) (fun _ _ h3 h4 _ _ _ => h ⟨h3, h4⟩)

/-- each reported error has a culprit in the grammar -/
theorem C14_semCheck_culprit {g : Grammar} {im : List String} {e : SemErr}
    (h : semCheck g im = .error e) :
    match e with
    | .dupDef id => 2 ≤ (g.lex.map (·.id)).count id
    | .emptyAlt hd => ∃ p ∈ g.syn, p.head = hd ∧ p.body = []
    | .undefinedProd s => ∃ p ∈ g.syn, ∃ x ∈ p.body, x.kind = .prodId ∧ x.name = s ∧ s ∉ g.syn.map (·.head)
    | .undefinedRegDef r user => ∃ p ∈ g.lex, p.id = user ∧ r ∈ p.pat.refs ∧ r ∉ regDefIds g ∧ r ∉ im
    | .reserved _ => ¬ NoReserved g := by
  rcases semCheck_error h with ⟨id, hd, rfl⟩ | ⟨p, he, rfl⟩ | ⟨n, hn, rfl⟩ | ⟨n, hn, rfl⟩ | ⟨s, hu, rfl⟩ |
    ⟨x, hr, rfl⟩
  · exact firstDup_some hd
  · exact ⟨p, List.mem_of_find?_eq_some he, rfl, List.isEmpty_iff.1 (List.find?_some (p := fun p : SProd => p.body.isEmpty) he)⟩
  · intro h'; rw [h'.1] at hn; cases hn
  · intro h'; rw [h'.2] at hn; cases hn
  · obtain ⟨p, hp, hs⟩ := List.mem_flatMap.1 (List.mem_of_find?_eq_some hu)
    obtain ⟨hkd, hn, _⟩ := undefinedUse_iff.1 (List.find?_some hu)
    exact ⟨p, hp, s, hs, hkd, rfl, fun h => hn (List.mem_append_right _ h)⟩
  · obtain ⟨p, hp, hx⟩ := List.mem_flatMap.1 (List.mem_of_find?_eq_some hr)
    obtain ⟨r, hr', rfl⟩ := List.mem_map.1 hx
    have := List.find?_some hr
    simp only [Bool.and_eq_true, Bool.not_eq_true', ← Bool.not_eq_true, List.contains_iff_mem] at this
    exact ⟨p, hp, rfl, hr', this⟩

/-! ### Non-vacuity -/
namespace C14SemEx
def lex : List LProd := [
  { kind := .reg, id := "_d", pat := .mk [.mk [.rng 48 57]] },
  { kind := .tok, id := "num", pat := .mk [.mk [.ref "_d", .rep (.mk [.mk [.ref "_d"]])]] },
  { kind := .ign, id := "!ws", pat := .mk [.mk [.lit 32]] } ]
def syn : List SProd := [
  { head := "E", body := [⟨.prodId, "E"⟩, ⟨.strLit, "+"⟩, ⟨.tokId, "num"⟩] },
  { head := "E", body := [⟨.tokId, "num"⟩] },
  { head := "E", body := [⟨.tokId, "undeclared_token"⟩] } ]   -- a warning only, as in gocc
def good : Grammar := { lex := lex, syn := syn }
example : KindsOk good := by decide +kernel
example : semCheck good = .ok () := by decide +kernel
example : NoReserved good := by decide +kernel
example : SemWF good [] := (C14_semCheck_iff good [] (by decide +kernel) (by decide +kernel)).1 (by decide +kernel)
/-- reference renaming, also to a name whose capital is not ASCII (defect D14) -/
example : semCheck { good with syn := syn ++ [{ head := "E", body := [⟨.prodId, "Undefined9"⟩] }] }
    = .error (.undefinedProd "Undefined9") := by decide +kernel
example : semCheck { good with syn := syn ++ [{ head := "E", body := [⟨.prodId, "Äb"⟩] }] }
    = .error (.undefinedProd "Äb") := by decide +kernel
example : semWFb { good with syn := syn ++ [{ head := "E", body := [⟨.prodId, "Äb"⟩] }] } = false := by decide +kernel
example : semCheck { good with lex := lex ++ [{ kind := .tok, id := "x", pat := .mk [.mk [.opt (.mk [.mk [.ref "_u"]])]] }] }
    = .error (.undefinedRegDef "_u" "x") := by decide +kernel
/-- … unless imported -/
example : semCheck { good with lex := lex ++ [{ kind := .tok, id := "x", pat := .mk [.mk [.ref "_u"]] }] } ["_u"]
    = .ok () := by decide +kernel
/-- definition duplication, of each kind -/
example : semCheck { good with lex := lex ++ [lex[0]!] } = .error (.dupDef "_d") := by decide +kernel
example : semCheck { good with lex := lex ++ [lex[1]!] } = .error (.dupDef "num") := by decide +kernel
example : semCheck { good with lex := lex ++ [lex[2]!] } = .error (.dupDef "!ws") := by decide +kernel
/-- reserved spellings (fix D15): refused with their own error -/
example : semCheck { good with syn := syn ++ [{ head := "E", body := [⟨.strLit, "INVALID"⟩] }] } = .error (.reserved "INVALID") := by decide +kernel
example : semCheck { good with syn := syn ++ [{ head := "E", body := [⟨.strLit, "␚"⟩, ⟨.tokId, "num"⟩] }] } = .error (.reserved "␚") := by decide +kernel
example : semCheck { good with syn := syn ++ [{ head := "INVALID", body := [⟨.tokId, "num"⟩] }] } = .error (.reserved "INVALID") := by decide +kernel
/-- a string literal spelled like a production declared LATER -/
example : semCheck { good with syn := [{ head := "A", body := [⟨.strLit, "B"⟩, ⟨.prodId, "B"⟩] }, { head := "B", body := [⟨.tokId, "num"⟩] }] }
    = .error (.reserved "B") := by decide +kernel
example : semCheck { good with syn := syn ++ [{ head := "E", body := [⟨.tokId, "num"⟩, ⟨.tokId, "empty"⟩] }] } = .error (.reserved "empty") := by decide +kernel
/-- `empty` alone, and the string literals "empty" / "error" (gocc's own grammar uses them), are not refused -/
example : semCheck { good with syn := syn ++ [{ head := "E", body := [⟨.tokId, "empty"⟩] }, { head := "E", body := [⟨.strLit, "error"⟩, ⟨.strLit, "empty"⟩] }] } = .ok () := by decide +kernel
/-- a string literal spelled like a token id, a lexical production called `error` (fix D22) -/
example : semCheck { good with syn := syn ++ [{ head := "E", body := [⟨.strLit, "num"⟩] }] } = .error (.reserved "num") := by decide +kernel
example : semCheck { good with lex := lex ++ [{ kind := .tok, id := "error", pat := .mk [.mk [.lit 101]] }] } = .error (.reserved "error") := by decide +kernel
/-- emptied alternative -/
example : semCheck { good with syn := syn ++ [{ head := "E", body := [] }] } = .error (.emptyAlt "E") := by decide +kernel
/-- `KindsOk` is needed: a "production name" spelled like a token id is found among `defs` by `consistent` -/
example : semCheck { good with syn := syn ++ [{ head := "E", body := [⟨.prodId, "num"⟩] }] } = .ok () ∧
    semWFb { good with syn := syn ++ [{ head := "E", body := [⟨.prodId, "num"⟩] }] } = false := by decide +kernel
end C14SemEx

end Gocc
