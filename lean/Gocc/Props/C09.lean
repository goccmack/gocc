import Gocc.Proofs.ClosureEval
import Gocc.Proofs.Termination
import Gocc.Proofs.Emoves
/-
C09 — gocc always terminates: fuel adequacy of the two unbounded fixed-point loops of the parser
generator, and (last section) of the lexer generator's `emoves` relative to a supplied universe.
The item-set loops of both generators: Props/C09Loops.lean.

The Go loops `for again := true; again; { … }` in `first.GetFirstSets` and in
`items.ItemSet.Closure` have no iteration bound; the model (`Model/LR1.lean`) runs them on fuel
(`firstSets`: `|ntList| * (|typeMap| + 2) + 2` passes, `closure`: `maxItems + |items| + 1` steps).
The theorems below show that the fuel is never exhausted: both loops reach their own exit
condition, because a bounded measure strictly increases (FIRST: number of stored
(head, terminal) pairs ≤ `|ntList| * (|typeMap| + 1)`; closure: length of the duplicate-free work
list ≤ `|items| + |prods| * (|typeMap| + 1)` ≤ `maxItems + |items|`).

Hypotheses.
* `WFp S prods`: every production head is in `S.ntList` and every body symbol in `S.typeMap`;
  established by `NewSymbols` (`C09_newSymbols_WFp`), decidable.
* `WFc C items`: body symbols, FIRST-set elements and the look-aheads of the kernel `items` are
  in `"empty" :: C.S.typeMap`; holds for every closure `genParser` computes
  (`C09_genParser_init_WFc`, `C09_goto_WFc`), decidable.  The look-ahead clause is necessary:
  `C09_closure_la_hypothesis_needed` is a kernel with 34 foreign look-aheads whose closure the
  model's fuel truncates.
-/
namespace Gocc

/-- `NewSymbols` followed by `Add(tokenIds)` yields a well-formed symbol table. -/
theorem C09_newSymbols_WFp {prods : List SProd} {S0 : PSymbols} (ids : List String)
    (h : newSymbols prods = .ok S0) : WFp (S0.addTokens ids) prods :=
  WFp_addTokens (newSymbols_WFp h) ids

/-- The result of `firstSets` is a fixed point: one more pass adds nothing, i.e. the Go loop
    `for again` has stopped by itself. -/
theorem C09_first_fixpoint {S : PSymbols} {prods : List SProd} (hW : WFp S prods) :
    (firstPass S prods (firstSets S prods)).2 = false :=
  first_fixpoint hW

/-- Sharp form: the loop makes `n ≤ |ntList| * (|typeMap| + 1)` productive passes, pass `n+1`
    adds nothing, and `firstSets` is the state after those `n` passes. -/
theorem C09_first_terminates_sharp {S : PSymbols} {prods : List SProd} (hW : WFp S prods) :
    ∃ n, n ≤ S.ntList.length * (S.typeMap.length + 1) ∧
      (∀ k, k < n → (firstPass S prods (firstPassN S prods k [])).2 = true) ∧
      (firstPass S prods (firstPassN S prods n [])).2 = false ∧
      firstSets S prods = firstPassN S prods n [] :=
  let ⟨n, h1, h2, h3, h4, _⟩ := firstSets_spec hW
  ⟨n, h1, h2, h3, h4⟩

/-- The fuel `|ntList| * (|typeMap| + 2) + 2` is never exhausted: the first `n` passes each add
    something, pass `n + 1` adds nothing, and `n + 1` is at most the fuel minus one. -/
theorem C09_first_terminates {S : PSymbols} {prods : List SProd} (hW : WFp S prods) :
    ∃ n, n ≤ S.ntList.length * (S.typeMap.length + 2) + 1 ∧
      (∀ k, k < n → (firstPass S prods (firstPassN S prods k [])).2 = true) ∧
      (firstPass S prods (firstPassN S prods n [])).2 = false ∧
      firstSets S prods = firstPassN S prods n [] := by
  obtain ⟨n, h1, h2⟩ := C09_first_terminates_sharp hW
  refine ⟨n, ?_, h2⟩
  have : S.ntList.length * (S.typeMap.length + 1) ≤ S.ntList.length * (S.typeMap.length + 2) :=
    Nat.mul_le_mul_left _ (by omega)
  omega

/-- Any larger fuel gives the same FIRST sets (the model's fuel does not truncate). -/
theorem C09_first_fuel_irrelevant {S : PSymbols} {prods : List SProd} (hW : WFp S prods)
    (extra : Nat) :
    firstSetsFuel S prods (S.ntList.length * (S.typeMap.length + 2) + 2 + extra) [] =
      firstSets S prods :=
  let ⟨_, hn, _, _, _, _, h⟩ := firstSets_spec hW
  h _ (by
    have : S.ntList.length * (S.typeMap.length + 1) ≤ S.ntList.length * (S.typeMap.length + 2) :=
      Nat.mul_le_mul_left _ (Nat.le_succ _)
    omega)

/-- Shape of the result: keys are distinct heads, each set is duplicate-free and contains only
    symbols of the table or "empty". -/
theorem C09_first_inv {S : PSymbols} {prods : List SProd} (hW : WFp S prods) :
    FInv S (firstSets S prods) := firstSets_inv hW

/-- The model's fuel `maxItems + |items| + 1` is at least the proved bound. -/
theorem C09_closure_fuel_adequate (C : LRCtx) (items : List Item) :
    closureBound C items ≤ C.maxItems + items.length :=
  closureBound_le_maxItems C items

/-- The closure returned by the model is closed under `closureStep`: the work list was exhausted,
    the fuel was sufficient. -/
theorem C09_closure_closed {C : LRCtx} {items : List Item} (hW : WFc C items) :
    ∀ i ∈ closure C items, ∀ j ∈ closureStep C i, j ∈ closure C items :=
  (closure_closedLA hW).1

/-- the closure has no duplicates (no hypothesis needed) -/
theorem C09_closure_nodup (C : LRCtx) (items : List Item) : (closure C items).Nodup :=
  closure_nodup C items

/-- the kernel is contained in its closure (no hypothesis needed) -/
theorem C09_closure_subset (C : LRCtx) (items : List Item) :
    ∀ i ∈ items, i ∈ closure C items :=
  closure_subset C items

/-- the measure: the work list never grows beyond the bound, which the model's fuel dominates -/
theorem C09_closure_length_le {C : LRCtx} {items : List Item} (hW : WFc C items) :
    (closure C items).length ≤ items.length + C.prods.size * (C.S.typeMap.length + 1) ∧
    (closure C items).length ≤ C.maxItems + items.length :=
  ⟨(closure_inv hW).length_le,
   Nat.le_trans (closure_inv hW).length_le (closureBound_le_maxItems C items)⟩

/-- every item of the closure is a kernel item or `⟨p, 0, la⟩` with `p` a production index and
    `la` a symbol of the table or "empty"; in particular all look-aheads stay in the universe -/
theorem C09_closure_universe {C : LRCtx} {items : List Item} (hW : WFc C items) :
    ∀ i ∈ closure C items,
      (i ∈ items ∨ (i.p < C.prods.size ∧ i.d = 0 ∧ i.la ∈ firstU C.S)) ∧ i.la ∈ firstU C.S := by
  intro i hi
  refine ⟨?_, (closure_inv hW).la hW i hi⟩
  rcases (closure_inv hW).univ i hi with h | h
  · exact Or.inl h
  · exact Or.inr (mem_itemU.1 h)

/-- Any fuel at least the bound gives the same closure; in particular the last unit of the
    model's fuel is never consumed. -/
theorem C09_closure_fuel_irrelevant {C : LRCtx} {items : List Item} (hW : WFc C items)
    (fuel : Nat) (hf : closureBound C items ≤ fuel) :
    closureLoop C fuel 0 (items.foldl addItem []) = closure C items := by
  unfold closure
  exact ((closureLoop_spec hW _ 0 _ (closure_init C items)
    (by have := closureBound_le_maxItems C items; omega)).2 fuel (by omega))

/-- General form: any fuel with `fuel ≥ |items| + |prods| * (|typeMap| + 1)` exhausts the work
    list — the returned list is closed under `closureStep`. -/
theorem C09_closureLoop_closed_of_fuel {C : LRCtx} {items : List Item} (hW : WFc C items)
    (fuel : Nat) (hf : closureBound C items ≤ fuel) :
    ∀ i ∈ closureLoop C fuel 0 (items.foldl addItem []),
      ∀ j ∈ closureStep C i, j ∈ closureLoop C fuel 0 (items.foldl addItem []) := by
  rw [C09_closure_fuel_irrelevant hW fuel hf]
  exact C09_closure_closed hW

/-- the context and initial kernel `[S' : •S, ␚]` of `genParser` are well-formed -/
theorem C09_genParser_init_WFc {syn : List SProd} {S0 : PSymbols} (ids : List String)
    (h : newSymbols (augment syn) = .ok S0) :
    WFc { prods := (augment syn).toArray, S := S0.addTokens ids,
          fs := firstSets (S0.addTokens ids) (augment syn) } [⟨0, 0, "␚"⟩] :=
  genParser_init_WFc ids h

/-- `goto` kernels inherit well-formedness from a set whose look-aheads are in the universe
    (e.g. a closure, by `C09_closure_universe`) -/
theorem C09_goto_WFc {C : LRCtx} {K I : List Item} (hW : WFc C K)
    (hI : ∀ i ∈ I, i.la ∈ firstU C.S) (X : String) :
    WFc C ((I.filter fun i => i.d < C.len i && C.expected i == X).map
      fun i => { i with d := i.d + 1 }) :=
  hW.of_la (goto_kernel_la X hI)

/-- every `goto` set is closed under `closureStep` and keeps its look-aheads in the universe -/
theorem C09_goto_closed {C : LRCtx} {K I : List Item} (hW : WFc C K)
    (hI : ∀ i ∈ I, i.la ∈ firstU C.S) (X : String) :
    (∀ i ∈ goto C I X, ∀ j ∈ closureStep C i, j ∈ goto C I X) ∧
    (∀ i ∈ goto C I X, i.la ∈ firstU C.S) :=
  goto_closedLA hW hI X

/-- End to end: in every successful run of the parser-generator model, every LR(1) state is closed
    under `closureStep` (no `Closure` call was cut short by its fuel) and all look-aheads are
    symbols of the table. -/
theorem C09_genParser_states_closed {syn : List SProd} {ids : List String} {r : LRResult}
    (h : genParser syn ids = .ok r) :
    ∀ st ∈ r.states, (∀ i ∈ st.items, ∀ j ∈ closureStep r.ctx i, j ∈ st.items) ∧
      (∀ i ∈ st.items, i.la ∈ firstU r.ctx.S) := by
  intro st hmem
  obtain ⟨idx, hidx, rfl⟩ := Array.mem_iff_getElem.1 hmem
  exact genParser_states_closed h idx _ (Array.getElem?_eq_getElem hidx)

/-! ### Non-vacuity: a grammar with nullable chains
    `S : A B c ;  A : empty | a ;  B : empty | b A ;` -/

def c09Syn : List SProd := [
  { head := "S", body := [⟨.prodId, "A"⟩, ⟨.prodId, "B"⟩, ⟨.tokId, "c"⟩] },
  { head := "A", body := [⟨.tokId, "empty"⟩] },
  { head := "A", body := [⟨.tokId, "a"⟩] },
  { head := "B", body := [⟨.tokId, "empty"⟩] },
  { head := "B", body := [⟨.tokId, "b"⟩, ⟨.prodId, "A"⟩] } ]

def c09Prods : List SProd := augment c09Syn

def c09S : PSymbols :=
  { typeMap := ["INVALID", "␚", "S'", "S", "A", "B", "c", "empty", "a", "b"],
    ntList := ["S'", "S", "A", "B"], strLits := [] }

def c09C : LRCtx := { prods := c09Prods.toArray, S := c09S, fs := firstSets c09S c09Prods }

/-- `c09S` is what `NewSymbols` computes -/
example : (newSymbols c09Prods).toOption.map (fun s => (s.typeMap, s.ntList, s.strLits)) =
    some (c09S.typeMap, c09S.ntList, c09S.strLits) := by decide +kernel

example : WFp c09S c09Prods := by decide +kernel

/-- three productive passes (A,B ; then S ; then S'), the fourth adds nothing; fuel is 4*12+2 -/
example : firstSets c09S c09Prods =
    [("A", ["empty", "a"]), ("B", ["empty", "b"]), ("S", ["a", "b", "c"]), ("S'", ["a", "b", "c"])] := by
  decide +kernel

example : (List.range 5).map (fun k => (firstPass c09S c09Prods (firstPassN c09S c09Prods k [])).2) =
    [true, true, true, false, false] := by decide +kernel

example : firstPassN c09S c09Prods 2 [] =
    [("A", ["empty", "a"]), ("B", ["empty", "b"]), ("S", ["a", "b", "c"])] := by decide +kernel

/-- the fixed-point check, computed … -/
example : (firstPass c09S c09Prods (firstSets c09S c09Prods)).2 = false := by decide +kernel
/-- … and as an instance of the theorem -/
example : (firstPass c09S c09Prods (firstSets c09S c09Prods)).2 = false :=
  C09_first_fixpoint (by decide +kernel)

/-- with too little fuel the loop IS truncated and the result is not a fixed point -/
example : (firstPass c09S c09Prods (firstSetsFuel c09S c09Prods 2 [])).2 = true := by decide +kernel

example : WFc c09C [⟨0, 0, "␚"⟩] := by decide +kernel

/-- closure of the initial kernel `S' : •S, ␚` (look-aheads of `A : …` are FIRST(B c) = {b, c}) -/
example : closure c09C [⟨0, 0, "␚"⟩] =
    [⟨0, 0, "␚"⟩, ⟨1, 0, "␚"⟩, ⟨2, 0, "b"⟩, ⟨2, 0, "c"⟩, ⟨3, 0, "b"⟩, ⟨3, 0, "c"⟩] := by
  rw [closure_eq_I]; decide +kernel

/-- closure of the kernel `S : A •B c, ␚` -/
example : closure c09C [⟨1, 1, "␚"⟩] = [⟨1, 1, "␚"⟩, ⟨4, 0, "c"⟩, ⟨5, 0, "c"⟩] := by
  rw [closure_eq_I]; decide +kernel

/-- closedness, computed … -/
example : ∀ i ∈ closure c09C [⟨0, 0, "␚"⟩], ∀ j ∈ closureStep c09C i,
    j ∈ closure c09C [⟨0, 0, "␚"⟩] := by
  simp only [closure_eq_I, closureStep_eq_I]; decide +kernel
/-- … and as an instance of the theorem -/
example : ∀ i ∈ closure c09C [⟨0, 0, "␚"⟩], ∀ j ∈ closureStep c09C i,
    j ∈ closure c09C [⟨0, 0, "␚"⟩] :=
  C09_closure_closed (by decide +kernel)

/-- the theorem is not trivial: with one unit of fuel the work list is cut and the result is not
    closed (`S : •A B c, ␚` is in, its successor `A : •empty, b` is not) -/
example : closureLoop c09C 1 0 [⟨0, 0, "␚"⟩] = [⟨0, 0, "␚"⟩, ⟨1, 0, "␚"⟩] ∧
    (⟨2, 0, "b"⟩ : Item) ∈ closureStep c09C ⟨1, 0, "␚"⟩ := by
  simp only [closureLoop_eq_I, closureStep_eq_I]; decide +kernel

/-- the `goto` on `A` from the initial state, closed by `C09_goto_closed` -/
example : goto c09C (closure c09C [⟨0, 0, "␚"⟩]) "A" = [⟨1, 1, "␚"⟩, ⟨4, 0, "c"⟩, ⟨5, 0, "c"⟩] := by
  unfold goto; simp only [closure_eq_I]; decide +kernel

/-! ### The look-ahead clause of `WFc` is necessary
A kernel whose look-aheads are NOT symbols of the table can have a closure larger than the model's
fuel: 34 foreign look-aheads over the chain `S' : S ; S : A ; A : B ; B : c` give 4*34 = 136 items
but only `maxItems + 34 + 1 = 100` steps; item `A : •B, x33` is never processed.  `genParser`
never builds such a kernel (`C09_genParser_init_WFc`, `C09_goto_closed`). -/

def c09CxProds : List SProd := [
  { head := "S'", body := [⟨.prodId, "S"⟩] },
  { head := "S", body := [⟨.prodId, "A"⟩] },
  { head := "A", body := [⟨.prodId, "B"⟩] },
  { head := "B", body := [⟨.tokId, "c"⟩] } ]

def c09CxS : PSymbols :=
  { typeMap := ["INVALID", "␚", "S'", "S", "A", "B", "c"], ntList := ["S'", "S", "A", "B"] }

def c09CxC : LRCtx :=
  { prods := c09CxProds.toArray, S := c09CxS, fs := firstSets c09CxS c09CxProds }

def c09CxItems : List Item :=
  ["x00", "x01", "x02", "x03", "x04", "x05", "x06", "x07", "x08", "x09", "x10", "x11", "x12", "x13", "x14", "x15", "x16", "x17", "x18", "x19", "x20", "x21", "x22", "x23", "x24", "x25", "x26", "x27", "x28", "x29", "x30", "x31", "x32", "x33"].map fun t => ⟨0, 0, t⟩

example : WFp c09CxS c09CxProds ∧ c09CxC.maxItems + c09CxItems.length + 1 = 100 := by decide +kernel

theorem C09_closure_la_hypothesis_needed :
    ¬ (∀ i ∈ closure c09CxC c09CxItems, ∀ j ∈ closureStep c09CxC i,
        j ∈ closure c09CxC c09CxItems) := by
  intro h
  have h1 : (⟨2, 0, "x33"⟩ : Item) ∈ closure c09CxC c09CxItems ∧
      (⟨3, 0, "x33"⟩ : Item) ∈ closureStep c09CxC ⟨2, 0, "x33"⟩ ∧
      (⟨3, 0, "x33"⟩ : Item) ∉ closure c09CxC c09CxItems := by
    rw [closure_eq_I, closureStep_eq_I]
    decide +kernel
  exact h1.2.2 (h _ h1.1 _ h1.2.1)

/-! ### lexer-side ε-closure `emoves`, relative to a supplied universe
Completeness of the depth-first work list relative to a finite `emoveStep`-closed universe `U` with
`1 + |U| * (D + 1) ≤ (C.fuel + 2)^2`; for a concrete lexer `U` is checked by `decide`.  The universe
for an arbitrary `LexCtx` and start item is built in Proofs/EmovesUniverse.lean, which gives the
unconditional statements of Props/C09Emoves.lean. -/

theorem C09_emoves_complete_partial {C : LexCtx} {i : LItem} {U : List LItem} {D : Nat}
    (hU : EUniv C U D) (hi : i ∈ U)
    (hfuel : 1 + U.length * (D + 1) ≤ (C.fuel + 2) * (C.fuel + 2)) :
    ∀ y, EReach C i y → C.isBasic y = true → y ∈ emoves C i :=
  emoves_complete_of_universe hU hi hfuel

/-- `t : { 'a' | [ 'b' ] } ;` — a repetition whose body has a nullable alternative (the ε-cycle
    that needs the visited set) -/
def c09LexC : LexCtx :=
  { prods := #[{ kind := .tok, id := "t",
                 pat := .mk [.mk [.rep (.mk [.mk [.lit 97], .mk [.opt (.mk [.mk [.lit 98]])]])]] }] }

def c09LexU : List LItem :=
  [⟨0, [0]⟩, ⟨0, [0, 0]⟩, ⟨0, [0, 0, 0]⟩, ⟨0, [0, 0, 0, 0]⟩, ⟨0, [0, 0, 1, 0]⟩, ⟨0, [0, 1]⟩,
   ⟨0, [0, 0, 1, 0, 0]⟩, ⟨0, [1]⟩, ⟨0, [0, 0, 1, 0, 0, 0]⟩, ⟨0, [0, 0, 1, 1]⟩, ⟨0, [0, 0, 2]⟩]

example : emoves c09LexC ⟨0, [0]⟩ = [⟨0, [1]⟩, ⟨0, [0, 0, 0, 0]⟩, ⟨0, [0, 0, 1, 0, 0, 0]⟩] := by
  decide +kernel

example : ∀ y, EReach c09LexC ⟨0, [0]⟩ y → c09LexC.isBasic y = true → y ∈ emoves c09LexC ⟨0, [0]⟩ :=
  C09_emoves_complete_partial (U := c09LexU) (D := 3) (by decide +kernel) (by decide +kernel)
    (by decide +kernel)

end Gocc
