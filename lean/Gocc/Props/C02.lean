import Gocc.Proofs.Validate
/-
C02 (soundness half) — a parser whose tables pass the validator accepts only sentences.

Quantifiers: every numbered grammar `G`, every `T : PTables`, every certificate `cert` with
`safe G T cert = true` and `safeEnds T cert = true`, no recovery state (`hr`: the grammar has no
error alternative), every token-type sequence `w` not containing end of input (type 1), every
harness configuration `cfg` over these tables (any `failAt`, any `errTerm`), every fuel, every
previous parser state `old`:

      Parse accepts w   ⟹   w is a sentence of G  (production 0's body derives it).

Reduce functions that fail or panic end in a non-accept outcome, so nothing is assumed about the
`RKind`s.

Hypothesis beyond the property text: `safeEnds T cert = true` (Gocc/Proofs/Validate.lean).
`safe` alone does NOT imply soundness; the three
counter-examples at the end of this file (each passes `safe`, each accepts a non-sentence) show
that each conjunct of `safeEnds` is needed:
  1. the start item `S' : •Start` may otherwise sit in a state other than 0   (`Bad1`),
  2. a shift/goto edge may otherwise lead back into state 0                   (`Bad2`),
  3. end of input may otherwise be shifted like an ordinary terminal          (`Bad3`).
Tables generated by gocc satisfy `safeEnds` (every goto target has an item with the dot not at
the start, state 0 has none; `S'` occurs in no body; `␚` occurs in no body).
-/
namespace Gocc

/-- (C02-sound) acceptance implies derivability -/
theorem C02_accept_sound {G : NGrammar} {T : PTables} {cert : Cert}
    (hs : safe G T cert = true) (he : safeEnds T cert = true)
    (hr : ∀ s : Nat, T.canRecover[s]?.getD false = false)
    {w : List Nat} (hw : 1 ∉ w) {cfg : PCfg} (hT : cfg.T = T)
    {fuel : Nat} {old : PState} {r : Attr}
    (h : (parse cfg w fuel old).1 = Outcome.accept r) : NSentence G w := by
  subst hT
  exact (parse_accept (safeFacts_of hs he) hr hw (ps' := (parse cfg w fuel old).2)
    (by rw [← h])).sentence

/-- without recovery states a missing action ends the parse: `Error` reports "not recovered"
    (or panics on an empty stack), for any tables -/
theorem C02_recover_no_recovery {T : PTables} (hr : ∀ s : Nat, T.canRecover[s]?.getD false = false)
    (errTerm : Nat) (w : List Nat) (ps : PState) :
    (∃ why, recover T errTerm w ps = .error why) ∨
    (∃ tok ps', recover T errTerm w ps = .ok (false, tok, ps')) := by
  rcases hst : ps.states with _ | ⟨top, rest⟩
  · exact .inl ⟨_, recover_nil hst⟩
  · exact .inr ⟨_, _, recover_hr hr errTerm w ps hst⟩

/-! ### Non-vacuity: `S' : S ;  S : a S | b` -/
namespace C02Ex

/-- terminals: 0 INVALID, 1 end of input, 2 `a`, 3 `b`; non-terminals: 0 `S'`, 1 `S` -/
def G : NGrammar := { prods := #[(0, [Sym.nt 1]), (1, [Sym.t 2, Sym.nt 1]), (1, [Sym.t 3])] }

def T : PTables :=
  { terminals := ["INVALID", "␚", "a", "b"], nts := ["S'", "S"],
    action := #[
      #[none, none, some (.shift 1), some (.shift 2)],
      #[none, none, some (.shift 1), some (.shift 2)],
      #[none, some (.reduce 2), none, none],
      #[none, some .accept, none, none],
      #[none, some (.reduce 1), none, none]],
    goto_ := #[#[-1, 3], #[-1, 4], #[-1, -1], #[-1, -1], #[-1, -1]],
    canRecover := #[false, false, false, false, false],
    prodNT := #[0, 1, 1], prodLen := #[1, 2, 1],
    prodKind := #[.dflt, .user 1 10, .user 1 11],
    conflictStates := 0, nStates := 5, numSymbols := 4 }

def cert : Cert := #[[(0, 0), (1, 0), (2, 0)], [(1, 1), (1, 0), (2, 0)], [(2, 1)], [(0, 1)], [(1, 2)]]

def cfg : PCfg := { T := T, errTerm := 0, failAt := 0 }

theorem safe_ok : safe G T cert = true := by decide +kernel
theorem safeEnds_ok : safeEnds T cert = true := by decide +kernel
theorem noRecovery : ∀ s : Nat, T.canRecover[s]?.getD false = false := noRecovery_of_all (by decide +kernel)

/-- `a a b` is accepted; value and call log as computed by the model -/
theorem accepts : parse cfg [2, 2, 3] 20 default =
    (.accept (.node 10 [.tok 0 2, .node 10 [.tok 1 2, .node 11 [.tok 2 3]]]),
      { states := [0], attrs := [.nil], next := (3, 1), ntok := 4, log := [10, 10, 11], calls := 3 }) := by
  rfl

/-- hence, through the theorem, `a a b` is a sentence -/
example : NSentence G [2, 2, 3] :=
  C02_accept_sound safe_ok safeEnds_ok noRecovery (by decide) (cfg := cfg) rfl
    (fuel := 20) (old := default) (by rw [accepts])

/-- and `a a` is not accepted -/
example : ∀ r, (parse cfg [2, 2] 20 default).1 ≠ .accept r := by
  intro r h
  have : (parse cfg [2, 2] 20 default).1 = .synErr 2 1 [2, 3] 1 := rfl
  rw [this] at h
  cases h

end C02Ex

/-! ### `safe` alone is not enough: three validated tables that accept a non-sentence -/

/-- `S' : S ; S : b`; terminals 2 `a`, 3 `b` -/
def badG : NGrammar := { prods := #[(0, [Sym.nt 1]), (1, [Sym.t 3])] }

theorem badG_not_sentence : ¬ NSentence badG [2, 3] := by
  intro h
  obtain ⟨p, hp, hh, hb⟩ := NSentence.inv (A := 1) rfl h
  have : p = 0 ∨ p = 1 := by
    have : p < 2 := hp
    omega
  rcases this with rfl | rfl
  · cases hh
  · obtain ⟨w', hw', -⟩ := NDerives.t_inv (a := 3) (α := []) hb
    cases hw'

namespace Bad1
/-- state 1 (entered on `a`) repeats the start item: `a b` is accepted with the `a` left on the stack -/
def T : PTables :=
  { terminals := ["INVALID", "␚", "a", "b"], nts := ["S'", "S"],
    action := #[
      #[none, none, some (.shift 1), none],
      #[none, none, none, some (.shift 2)],
      #[none, some (.reduce 1), none, none],
      #[none, some .accept, none, none]],
    goto_ := #[#[-1, -1], #[-1, 3], #[-1, -1], #[-1, -1]],
    canRecover := #[false, false, false, false],
    prodNT := #[0, 1], prodLen := #[1, 1], prodKind := #[.dflt, .dflt],
    conflictStates := 0, nStates := 4, numSymbols := 4 }
def cert : Cert := #[[(0, 0), (1, 0)], [(0, 0), (1, 0)], [(1, 1)], [(0, 1)]]
example : safe badG T cert = true := by decide +kernel
example : (parse { T := T, errTerm := 0, failAt := 0 } [2, 3] 20 default).1 = .accept (.tok 1 3) := rfl
example : safeEnds T cert = false := by decide +kernel
end Bad1

namespace Bad2
/-- `a` is "shifted" back into state 0 -/
def T : PTables :=
  { terminals := ["INVALID", "␚", "a", "b"], nts := ["S'", "S"],
    action := #[
      #[none, none, some (.shift 0), some (.shift 1)],
      #[none, some (.reduce 1), none, none],
      #[none, some .accept, none, none]],
    goto_ := #[#[-1, 2], #[-1, -1], #[-1, -1]],
    canRecover := #[false, false, false],
    prodNT := #[0, 1], prodLen := #[1, 1], prodKind := #[.dflt, .dflt],
    conflictStates := 0, nStates := 3, numSymbols := 4 }
def cert : Cert := #[[(0, 0), (1, 0)], [(1, 1)], [(0, 1)]]
example : safe badG T cert = true := by decide +kernel
example : (parse { T := T, errTerm := 0, failAt := 0 } [2, 3] 20 default).1 = .accept (.tok 1 3) := rfl
example : safeEnds T cert = false := by decide +kernel
end Bad2

namespace Bad3
/-- `S' : S ; S : b ␚` — end of input as a grammar symbol; `b` alone is accepted -/
def G : NGrammar := { prods := #[(0, [Sym.nt 1]), (1, [Sym.t 3, Sym.t 1])] }
def T : PTables :=
  { terminals := ["INVALID", "␚", "a", "b"], nts := ["S'", "S"],
    action := #[
      #[none, none, none, some (.shift 1)],
      #[none, some (.shift 2), none, none],
      #[none, some (.reduce 1), none, none],
      #[none, some .accept, none, none]],
    goto_ := #[#[-1, 3], #[-1, -1], #[-1, -1], #[-1, -1]],
    canRecover := #[false, false, false, false],
    prodNT := #[0, 1], prodLen := #[1, 2], prodKind := #[.dflt, .dflt],
    conflictStates := 0, nStates := 4, numSymbols := 4 }
def cert : Cert := #[[(0, 0), (1, 0)], [(1, 1)], [(1, 2)], [(0, 1)]]
example : safe G T cert = true := by decide +kernel
example : (parse { T := T, errTerm := 0, failAt := 0 } [3] 20 default).1 = .accept (.tok 0 3) := rfl
example : safeEnds T cert = false := by decide +kernel
example : ¬ NSentence G [3] := by
  intro h
  obtain ⟨p, hp, hh, hb⟩ := NSentence.inv (A := 1) rfl h
  have : p = 0 ∨ p = 1 := by
    have : p < 2 := hp
    omega
  rcases this with rfl | rfl
  · cases hh
  · obtain ⟨w', hw', h2⟩ := NDerives.t_inv (a := 3) (α := [Sym.t 1]) hb
    cases hw'
    obtain ⟨_, hw'', -⟩ := NDerives.t_inv h2
    cases hw''
end Bad3

end Gocc
