import Gocc.Proofs.LexEquiv
import Gocc.Props.C08
/-
C01 (second half) — what one call of the generated `Scan` returns.

Quantifier: all tables `T : LexTables`, all byte lists `src`, all lexer cursors `st`
(no bounds; `st` need not be a reachable cursor: the two statements about the literal carry
`Reach src st` only because they are read off `C08_tiling`, whose other clauses need it).
`scan T src st = (tok, st')` is one call of `Scan()`, `scanN T src k st` the first `k` tokens.
`ScanSpec T src p typ off e` (Gocc/Spec/ScanSpec.lean) is the declarative reading: `[p, off)` is a
sequence of complete ignored lexemes, each cut as soon as an ignore state is entered; then either
`off` is the end of the input and `typ = EOF`, or a run of the automaton from state 0 at `off`,
never entering an ignore state, stops at the first place `q` where no transition exists and
`typ` is the action of the last state entered with `e = q`, or INVALID with `e` = `q` plus the
rune that could not be matched.

The only hypothesis on the tables is `TWF T` (`Accept = -1` only for ignore states, which is how
the generator emits `ActTab`).
-/
namespace Gocc

/-- every call of `Scan` meets the specification -/
theorem C01_scan_meets_spec {T : LexTables} (hT : TWF T) (src : List Nat) (st : LexSt) :
    ScanSpec T src st.pos (scan T src st).1.typ (scan T src st).1.offset (scan T src st).2.pos :=
  (scan_done hT (Q := fun _ => True) (fun _ _ _ => trivial) trivial).spec

/-- the specification determines the token type, the token offset and the end of the
    consumed text -/
theorem C01_spec_unique {T : LexTables} {src : List Nat} {p off off' e e' : Nat} {typ typ' : Int}
    (h : ScanSpec T src p typ off e) (h' : ScanSpec T src p typ' off' e') :
    typ = typ' ∧ off = off' ∧ e = e' :=
  h.unique h'

/-- `Scan` returns *the* result the specification describes -/
theorem C01_scan_is_the_spec {T : LexTables} (hT : TWF T) (src : List Nat) (st : LexSt)
    {typ : Int} {off e : Nat} (h : ScanSpec T src st.pos typ off e) :
    (scan T src st).1.typ = typ ∧ (scan T src st).1.offset = off ∧ (scan T src st).2.pos = e :=
  (C01_scan_meets_spec hT src st).unique h

/-- ingredients of uniqueness: an ignored lexeme is not empty, lies inside the input and its end is
    determined by its start; no maximal non-ignored run starts where an ignored lexeme starts -/
theorem C01_ignLexeme {T : LexTables} {src : List Nat} {a b : Nat} (h : IgnLexeme T src a b) :
    a < b ∧ b ≤ src.length ∧ (∀ b', IgnLexeme T src a b' → b = b') ∧
    (∀ s q, Run T src 0 a s q → stepAt T src s q ≠ none) :=
  ⟨h.lt.1, h.lt.2.2, fun _ h' => h.unique h', fun _ _ hr hn => h.not_maximal hr hn⟩

theorem C01_maximal_run_unique {T : LexTables} {src : List Nat} {s p s1 p1 s2 p2 : Nat}
    (h1 : Run T src s p s1 p1) (n1 : stepAt T src s1 p1 = none)
    (h2 : Run T src s p s2 p2) (n2 : stepAt T src s2 p2 = none) : s1 = s2 ∧ p1 = p2 :=
  h1.stop_unique (.of_none n1) h2 (.of_none n2)

/-- a non-empty literal is exactly the consumed text `src[tok.offset : st'.pos]` -/
theorem C01_literal_is_consumed_text {T : LexTables} (hT : TWF T) {src : List Nat} {st : LexSt}
    (h : Reach src st) :
    (scan T src st).1.litStart < (scan T src st).1.litEnd →
      (scan T src st).1.litStart = (scan T src st).1.offset ∧
      (scan T src st).1.litEnd = (scan T src st).2.pos :=
  (C08_tiling hT h).2.2.2.1

/-- ... and when the literal is empty nothing was consumed after the skipped text (this is
    the end-of-input token) -/
theorem C01_no_literal_nothing_consumed {T : LexTables} (hT : TWF T) {src : List Nat} {st : LexSt}
    (h : Reach src st) :
    ¬ (scan T src st).1.litStart < (scan T src st).1.litEnd →
      (scan T src st).1.offset = (scan T src st).2.pos :=
  (C08_tiling hT h).2.2.2.2

theorem C01_eof_forever (T : LexTables) (src : List Nat) (st : LexSt) (h : st.pos ≥ src.length)
    (k : Nat) :
    scanN T src k st = List.replicate k ⟨tokEOF, 0, 0, st.pos, st.line, st.col⟩ :=
  C08_eof_sticky_scanN T src st h k

/-- bisimilar automata: every call of `Scan` returns the same token and leaves the same cursor -/
theorem C01_bisim_scan_eq {T1 T2 : LexTables} {R : Nat → Nat → Prop} (h : Bisim T1 T2 R)
    (src : List Nat) (st : LexSt) : scan T1 src st = scan T2 src st :=
  bisimOn_scan_eq_of (P := fun _ => True) (fun _ => trivial) (h.on _) src st

/-- ... and so the token streams are identical -/
theorem C01_bisim_scanN_eq {T1 T2 : LexTables} {R : Nat → Nat → Prop} (h : Bisim T1 T2 R)
    (src : List Nat) (k : Nat) (st : LexSt) : scanN T1 src k st = scanN T2 src k st :=
  scanN_eq_of_scan_eq (C01_bisim_scan_eq h src) k st

/-! ### Non-vacuity: the lexer `x : 'a' ; !ws : ' ' ; y : 'a' 'b' ;` (`exT` of Gocc.Props.C08) -/

/-- the specification instance that an evaluated call of `scan` witnesses -/
theorem spec_of_scan_eq {T : LexTables} (hT : TWF T) {src : List Nat} {st st' : LexSt} {tok : Tok}
    (e : scan T src st = (tok, st')) : ScanSpec T src st.pos tok.typ tok.offset st'.pos := by
  have h := C01_scan_meets_spec hT src st
  rwa [e] at h

/-- "a ab\tb" -/
def exSrc : List Nat := [97, 32, 97, 98, 9, 98]

theorem exScan_at1 : scan exT exSrc ⟨1, 1, 2⟩ = (⟨3, 2, 4, 2, 1, 3⟩, ⟨4, 1, 5⟩) := by
  rw [scan_eq_scanF]; decide +kernel

/-- at offset 0: nothing skipped, the run `a` stops at 1 (a blank has no transition from S1), type 2 -/
example : ScanSpec exT exSrc 0 2 0 1 :=
  spec_of_scan_eq exT_twf (st := ⟨0, 1, 1⟩) (tok := ⟨2, 0, 1, 0, 1, 1⟩) (st' := ⟨1, 1, 2⟩)
    (by rw [scan_eq_scanF]; decide +kernel)

/-- at offset 1: the blank `[1, 2)` is skipped, then `ab` is type 3 and ends at 4 -/
example : ScanSpec exT exSrc 1 3 2 4 :=
  spec_of_scan_eq exT_twf exScan_at1

/-- at offset 4: the tab matches nothing: INVALID, consuming the tab -/
example : ScanSpec exT exSrc 4 tokINVALID 4 5 :=
  spec_of_scan_eq exT_twf (st := ⟨4, 1, 5⟩) (tok := ⟨0, 4, 5, 4, 1, 5⟩) (st' := ⟨5, 1, 9⟩)
    (by rw [scan_eq_scanF]; decide +kernel)

/-- "ac": the run `a` stops at 1 (`c` has no transition from S1), type 2 -/
example : ScanSpec exT [97, 99] 0 2 0 1 :=
  spec_of_scan_eq exT_twf (st := ⟨0, 1, 1⟩) (tok := ⟨2, 0, 1, 0, 1, 1⟩) (st' := ⟨1, 1, 2⟩)
    (by rw [scan_eq_scanF]; decide +kernel)

/-- "a  ": trailing blanks `[1, 2)`, `[2, 3)` are skipped, then end of input at 3 -/
example : ScanSpec exT [97, 32, 32] 1 tokEOF 3 3 :=
  spec_of_scan_eq exT_twf (st := ⟨1, 1, 2⟩) (tok := ⟨1, 0, 0, 3, 1, 4⟩) (st' := ⟨3, 1, 4⟩)
    (by rw [scan_eq_scanF]; decide +kernel)

/-- the same instance built by hand from the definitions (the specification is inhabited without
    reference to `scan`): skip `[1, 2)` (step S0 → S2 on the blank), run S0 → S1 → S3 over `ab`,
    no step on the tab -/
example : ScanSpec exT exSrc 1 3 2 4 := by
  have s1 : stepAt exT exSrc 0 1 = some (2, 2) := by decide
  have s2 : stepAt exT exSrc 0 2 = some (1, 3) := by decide
  have s3 : stepAt exT exSrc 1 3 = some (3, 4) := by decide
  have s4 : stepAt exT exSrc 3 4 = none := by decide
  have i2 : IsIgn exT 2 := by unfold IsIgn; decide
  have n1 : ¬ IsIgn exT 1 := by unfold IsIgn; decide
  have n3 : ¬ IsIgn exT 3 := by unfold IsIgn; decide
  refine ⟨Skipped.cons ⟨0, 1, 2, Run.refl _ _, s1, i2⟩ (Skipped.nil _),
    Or.inr ⟨by decide, 3, 4, ?_, s4, Or.inl ⟨by decide, by decide, by decide, rfl⟩⟩⟩
  exact Run.step (Run.step (Run.refl _ _) s2 n1) s3 n3

/-- by uniqueness no other result is allowed there: e.g. stopping after `a` with type 2 does not meet
    the specification -/
example : ¬ ScanSpec exT exSrc 1 2 2 3 := by
  intro h
  have h' := C01_scan_is_the_spec exT_twf exSrc ⟨1, 1, 2⟩ h
  rw [exScan_at1] at h'
  exact absurd h'.1 (by decide)

/-! ### Non-vacuity of `Bisim`: `exT` with S1 and S3 exchanged and an extra, unreachable state S4
    (which has transitions and an action of its own) -/

def exT' : LexTables where
  trans s r :=
    if s = 0 ∧ r = 97 then 3 else if s = 0 ∧ r = 32 then 2 else if s = 3 ∧ r = 98 then 1
    else if s = 4 ∧ r = 97 then 4 else -1
  accept s := if s = 3 then 2 else if s = 2 then -1 else if s = 1 then 3 else if s = 4 then 7 else 0
  ignore s := s == 2

def exR (a b : Nat) : Prop := (a = 0 ∧ b = 0) ∨ (a = 1 ∧ b = 3) ∨ (a = 2 ∧ b = 2) ∨ (a = 3 ∧ b = 1)

/-- on any rune other than `a`, blank, `b` neither table has a transition -/
theorem exT_trans_other (s : Nat) (r : Int) (h1 : r ≠ 97) (h2 : r ≠ 32) (h3 : r ≠ 98) :
    exT.trans s r = -1 ∧ exT'.trans s r = -1 := by
  simp [exT, exT', h1, h2, h3]

theorem exT_bisim : Bisim exT exT' exR where
  start := Or.inl ⟨rfl, rfl⟩
  act := by
    intro a b h
    rcases h with ⟨rfl, rfl⟩ | ⟨rfl, rfl⟩ | ⟨rfl, rfl⟩ | ⟨rfl, rfl⟩ <;> decide
  dead := by
    intro a b r h
    by_cases h1 : r = 97
    · subst h1; rcases h with ⟨rfl, rfl⟩ | ⟨rfl, rfl⟩ | ⟨rfl, rfl⟩ | ⟨rfl, rfl⟩ <;> decide
    by_cases h2 : r = 32
    · subst h2; rcases h with ⟨rfl, rfl⟩ | ⟨rfl, rfl⟩ | ⟨rfl, rfl⟩ | ⟨rfl, rfl⟩ <;> decide
    by_cases h3 : r = 98
    · subst h3; rcases h with ⟨rfl, rfl⟩ | ⟨rfl, rfl⟩ | ⟨rfl, rfl⟩ | ⟨rfl, rfl⟩ <;> decide
    rw [(exT_trans_other a r h1 h2 h3).1, (exT_trans_other b r h1 h2 h3).2]
  live := by
    intro a b r h
    by_cases h1 : r = 97
    · subst h1
      rcases h with ⟨rfl, rfl⟩ | ⟨rfl, rfl⟩ | ⟨rfl, rfl⟩ | ⟨rfl, rfl⟩ <;> unfold exR <;> decide
    by_cases h2 : r = 32
    · subst h2
      rcases h with ⟨rfl, rfl⟩ | ⟨rfl, rfl⟩ | ⟨rfl, rfl⟩ | ⟨rfl, rfl⟩ <;> unfold exR <;> decide
    by_cases h3 : r = 98
    · subst h3
      rcases h with ⟨rfl, rfl⟩ | ⟨rfl, rfl⟩ | ⟨rfl, rfl⟩ | ⟨rfl, rfl⟩ <;> unfold exR <;> decide
    intro hne; exact absurd (exT_trans_other a r h1 h2 h3).1 hne

/-- the two tables are different functions (the relation is not the identity) ... -/
example : exT.trans 0 97 = 1 ∧ exT'.trans 0 97 = 3 ∧ exT.accept 4 = 0 ∧ exT'.accept 4 = 7 := by decide

/-- ... but produce the same tokens on every input, e.g. -/
example : scanN exT' exSrc 6 newLexer =
    [ { typ := 2, litStart := 0, litEnd := 1, offset := 0, line := 1, col := 1 },
      { typ := 3, litStart := 2, litEnd := 4, offset := 2, line := 1, col := 3 },
      { typ := 0, litStart := 4, litEnd := 5, offset := 4, line := 1, col := 5 },
      { typ := 0, litStart := 5, litEnd := 6, offset := 5, line := 1, col := 9 },
      { typ := 1, litStart := 0, litEnd := 0, offset := 6, line := 1, col := 10 },
      { typ := 1, litStart := 0, litEnd := 0, offset := 6, line := 1, col := 10 } ] := by
  rw [← C01_bisim_scanN_eq exT_bisim, scanN_eq_scanNF]; decide +kernel

example (src : List Nat) (k : Nat) : scanN exT src k newLexer = scanN exT' src k newLexer :=
  C01_bisim_scanN_eq exT_bisim src k newLexer

end Gocc
