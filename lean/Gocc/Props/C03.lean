import Gocc.Props.C02
/-
C03 — semantic actions: what a successful `Parse` returns, which actions it calls and in which
order; what happens when an action fails.

Hypotheses as in C02: validated tables (`safe`, `safeEnds`), no recovery state, no end-of-input
token inside `w`; `cfg` any harness configuration over the tables.

* `C03_result_is_tree_eval`: if Parse accepts (for ANY `failAt`; in particular `failAt = 0`),
  there is a parse tree `t` of the whole input (`t.wf G`, root = the start symbol, leaves = the
  tokens with their positions in the scanner's output) such that the returned value and the
  call log are `evalT T.prodKind t []`: post-order, kids left to right, each action once per
  node, a terminal's attribute is the token, an alternative without action yields its first
  symbol's attribute, an empty one nil (`Gocc/Spec/Eval.lean`).
* `C03_failing_action_stops` (any tables, no validator needed): with `failAt = k ≠ 0` the log
  has one entry per call, at most `k` calls are made, an action error is reported only for call
  `k` and carries the id of that call, and when `k` calls were made Parse has stopped there with
  that action error (or, for ill-formed tables only, a panic — see the next theorem).
* `C03_failing_action_is_reported` (validated tables): `k` calls were made iff the outcome is
  the action error.
* `C03_failing_run_is_prefix` (any tables): lock-step with the failure-free run — if that run
  makes at least `k` calls, the log of the failing run is exactly its first `k` entries
  (logs are most recent first, hence the reversals).
-/
namespace Gocc

/-- (C03-result) -/
theorem C03_result_is_tree_eval {G : NGrammar} {T : PTables} {cert : Cert}
    (hs : safe G T cert = true) (he : safeEnds T cert = true)
    (hr : ∀ s : Nat, T.canRecover[s]?.getD false = false)
    {w : List Nat} (hw : 1 ∉ w) {cfg : PCfg} (hT : cfg.T = T)
    {fuel : Nat} {old : PState} {r : Attr} {ps : PState}
    (h : parse cfg w fuel old = (Outcome.accept r, ps)) :
    ∃ t : PT, t.wf G ∧ G.body 0 = [t.sym G] ∧ t.yield = (List.range w.length).zip w ∧
      evalT T.prodKind t [] = some (r, ps.log) := by
  subst hT
  exact parse_accept (safeFacts_of hs he) hr hw h

/-- (C03-fail, part 1) -/
theorem C03_failing_action_stops {cfg : PCfg} {k : Nat} (hk : cfg.failAt = k) (hk0 : k ≠ 0)
    {w : List Nat} {fuel : Nat} {old : PState} {o : Outcome} {ps : PState}
    (h : parse cfg w fuel old = (o, ps)) :
    ps.log.length = ps.calls ∧ ps.calls ≤ k ∧
    (∀ id i t e s, o = Outcome.actErr id i t e s → ps.calls = k ∧ ps.log.head? = some id) ∧
    (ps.calls = k → (∃ id i t e s, o = Outcome.actErr id i t e s) ∨ ∃ why, o = Outcome.panic why) := by
  subst hk
  have := parseLoop_calls cfg w fuel (initPS w) rfl (Nat.pos_of_ne_zero hk0)
  rw [← parse_eq cfg w fuel old, h] at this
  exact this

/-- (C03-fail, validated tables) the failing call is reported as an action error -/
theorem C03_failing_action_is_reported {G : NGrammar} {T : PTables} {cert : Cert}
    (hs : safe G T cert = true) (he : safeEnds T cert = true)
    (hr : ∀ s : Nat, T.canRecover[s]?.getD false = false)
    {w : List Nat} (hw : 1 ∉ w) {cfg : PCfg} (hT : cfg.T = T) {k : Nat} (hk : cfg.failAt = k)
    (hk0 : k ≠ 0) {fuel : Nat} {old : PState} {o : Outcome} {ps : PState}
    (h : parse cfg w fuel old = (o, ps)) :
    ps.calls = k ↔ ∃ id i t e s, o = Outcome.actErr id i t e s := by
  subst hk hT
  constructor
  · intro hc
    have := parse_fail_actErr (safeFacts_of hs he) hr hw (Nat.pos_of_ne_zero hk0)
      (fuel := fuel) (old := old) (by rw [h]; exact hc)
    rwa [h] at this
  · rintro ⟨id, i, t, e, s, ho⟩
    exact ((C03_failing_action_stops rfl hk0 h).2.2.1 _ _ _ _ _ ho).1

/-- (C03-fail, part 2: lock-step) -/
theorem C03_failing_run_is_prefix (cfg : PCfg) {k : Nat} (hk0 : k ≠ 0) (w : List Nat) (fuel : Nat)
    (old : PState) (h : k ≤ (parse { cfg with failAt := 0 } w fuel old).2.calls) :
    (parse { cfg with failAt := k } w fuel old).2.log =
      (((parse { cfg with failAt := 0 } w fuel old).2.log).reverse.take k).reverse := by
  have := parseLoop_lockstep cfg k w fuel (initPS w) rfl (Nat.pos_of_ne_zero hk0) h
  simp only [parse]
  rw [List.take_reverse, List.reverse_reverse]
  exact this

/-! ### Non-vacuity (tables of `C02Ex`: `S' : S ; S : a S <<10>> | b <<11>>`) -/
namespace C03Ex
open C02Ex

/-- the tree of `a a b`, its evaluation, and the run of the model agree -/
example : ∃ t : PT, t.wf G ∧ G.body 0 = [t.sym G] ∧ t.yield = [(0, 2), (1, 2), (2, 3)] ∧
    evalT T.prodKind t [] =
      some (.node 10 [.tok 0 2, .node 10 [.tok 1 2, .node 11 [.tok 2 3]]], [10, 10, 11]) :=
  C03_result_is_tree_eval safe_ok safeEnds_ok noRecovery (w := [2, 2, 3]) (by decide) (cfg := cfg) rfl
    accepts

/-- the second call fails: action error with the id of that call, two log entries, which are the
    first two of the failure-free run (`accepts`: `[10, 10, 11]`, most recent first) -/
theorem fails : parse { cfg with failAt := 2 } [2, 2, 3] 20 default =
    (.actErr 10 3 1 [2, 3] 1,
      { states := [1, 0], attrs := [.tok 0 2, .nil], next := (3, 1), ntok := 4,
        log := [10, 11], calls := 2 }) := by
  rfl

example : (parse { cfg with failAt := 2 } [2, 2, 3] 20 default).2.log = [10, 11] :=
  (C03_failing_run_is_prefix cfg (k := 2) (by decide) [2, 2, 3] 20 default
    (by rw [show ({ cfg with failAt := 0 } : PCfg) = cfg from rfl, accepts]; decide)).trans
    (by rw [show ({ cfg with failAt := 0 } : PCfg) = cfg from rfl, accepts]; rfl)

end C03Ex

end Gocc
