import Gocc.Proofs.ParseTerm
import Gocc.Props.C06Gen
/-
C02 (termination half) — `Parse` RETURNS on every input.

The model's `parseLoop` has a fuel parameter which the Go loop (`for acc := false; !acc; { … }` of
`Parser.Parse`) does not have; the answer `Outcome.outOfFuel` stands for "the loop did not end
within `fuel` iterations".  `C02_sentence_accepted` shows that sentences are accepted with enough
fuel, `C02_accept_sound` that only sentences are accepted.  This file closes the gap: for EVERY
input there is a fuel from which on the model gives one and the same answer, and that answer is
not `outOfFuel` — so the unbounded loop ends on sentences AND on non-sentences.

Quantifiers of `C02_parse_terminates`: every numbered grammar `G`, every `T : PTables`, certificates
`fc`, `c`, `vc` with `firstOk G fc`, `complete G T fc c` (Model/ValidateC), `validItems G T c vc`
(Model/ValidateV), no recovery state (`hr`: the grammar has no error alternative), every harness
configuration `cfg` over these tables whose semantic actions never fail (`ActsOk cfg`), EVERY
token-type sequence `w` (no side condition: types 0 = INVALID, 1 = end of input and types outside
the tables are allowed), every previous parser state `old`.  Conclusion: there are `fuel`, `o`, `ps`
with
   (i)   `o ≠ outOfFuel`, and `parse cfg w fuel' old = (o, ps)` for EVERY `fuel' ≥ fuel`;
   (ii)  `o` is an `accept`  ⟺  `w` up to its first token of type 1 (up to its end when there is
         none) is a sentence — for `1 ∉ w`: ⟺ `w` is a sentence (`C02_parse_decides`);
   (iii) otherwise `o` is the syntax error at token `i`, where `i` is the LARGEST index such that
         `w.take i` is a prefix of a sentence, or the Go run-time panic "index out of range"
         for a token type `≥ numSymbols` (the generated `actionTable` row has `numSymbols`
         entries); the panic needs such a token in `w`.
`C02_parse_fuel_mono` / `C02_parse_answer`: the answer does not depend on the fuel — any fuel with
an answer other than `outOfFuel` gives the same pair `(o, ps)`.

NOT needed: `safe` / `safeEnds` (soundness comes out of `validItems`: an `accept` entry is
justified by a sentence), `1 ∉ w`, `0 ∉ w`.

What happens when the language is empty?  It cannot be: `validItems` (V4) makes every body
non-terminal productive, so production 0's body derives a terminal string (`body0_productive`);
index 0 is always a viable prefix.

Generator level (`C02_generated_parse_terminates`, `C02_generated_parse_decides`): for every
`genParser syn tokIds = .ok r` under the side conditions of `C02_genParser_complete` and
`C06_genParser_validItems` (`NamesOk`, `CompleteNamesOk`, `≤ 4096` states, no recorded conflict,
`bodyNTsProductive`), no recovery state, `ActsOk cfg`.  A grammar with an unproductive non-terminal
is outside the theorem (`validItems` fails, `C06GenEx.unproductive`); its parser still terminates
on the inputs the checks try, but "viable prefix" is then no longer "prefix of a sentence" and the
argument below does not apply.

Proof (Proofs/ParseTerm.lean): let `i` be the largest index with `w.take i` viable, `u = w.take i
++ v` a sentence.  The run on `u` (accepting, `parse_accepts`) and the run on `w` coincide until
token `i` is scanned (`Steps.transfer`); in the configuration reached there the look-ahead on `w` is
`a = w[i]` (1 at the end).  An action on `a` would make `w.take (i+1)` viable (`act_viable`) — or,
for `a = 1`, make `w.take i` a sentence, and then `w` is accepted exactly like `w.take i`
(`accept_cut`: nothing behind a token of type 1 is ever scanned).  Without an action the parser stops.
-/
namespace Gocc

/-- (C02-term) on every input the parser ends; the answer is the same for every sufficiently
    large fuel, `accept` exactly for the sentences, otherwise the syntax error at the end of the
    longest viable prefix (or the token-type range panic) -/
theorem C02_parse_terminates {G : NGrammar} {T : PTables} {fc : FirstCert} {c : CertLA}
    {vc : VCert} (hf : firstOk G fc = true) (hc : complete G T fc c = true)
    (hv : validItems G T c vc = true) (hr : ∀ s : Nat, T.canRecover[s]?.getD false = false)
    {cfg : PCfg} (hA : ActsOk cfg) (hT : cfg.T = T) (w : List Nat) (old : PState) :
    ∃ fuel o ps, o ≠ Outcome.outOfFuel ∧
      (∀ fuel', fuel ≤ fuel' → parse cfg w fuel' old = (o, ps)) ∧
      ((∃ r, o = Outcome.accept r) ↔
        ∃ i, i ≤ w.length ∧ (w[i]?).getD 1 = 1 ∧ NSentence G (w.take i)) ∧
      ((∃ r, o = Outcome.accept r) ∨
       (∃ i exp top, o = Outcome.synErr i ((w[i]?).getD 1) exp top ∧ i ≤ w.length ∧
          NViablePrefix G (w.take i) ∧
          ∀ j, i < j → j ≤ w.length → ¬ NViablePrefix G (w.take j)) ∨
       (o = Outcome.panic "index out of range (token type)" ∧ ∃ t, t ∈ w ∧ T.numSymbols ≤ t)) := by
  subst hT
  obtain ⟨o, ps, hH, hV⟩ := ParseTerm.parseLoop_terminates hf hc hv hr hA w
  obtain ⟨n, hn⟩ := hH.parseLoop
  refine ⟨n, o, ps, hH.ne_outOfFuel, hn, ParseTerm.Verdict.accept_iff hf hc hv hr hA hH hV, ?_⟩
  rcases hV with ⟨r, h, -⟩ | h | h
  · exact .inl ⟨r, h⟩
  · exact .inr (.inl h)
  · exact .inr (.inr h)

/-- (fuel monotonicity, every outcome) an answer other than `outOfFuel` is not changed by more
    fuel -/
theorem C02_parse_fuel_mono {cfg : PCfg} {w : List Nat} {fuel : Nat} {old : PState}
    (h : (parse cfg w fuel old).1 ≠ Outcome.outOfFuel) (k : Nat) :
    parse cfg w (fuel + k) old = parse cfg w fuel old := by
  unfold parse at h ⊢
  exact parseLoop_fuel_mono h k

/-- two answers other than `outOfFuel` agree -/
theorem C02_parse_det {cfg : PCfg} {w : List Nat} {old : PState} {f1 f2 : Nat}
    (h1 : (parse cfg w f1 old).1 ≠ Outcome.outOfFuel)
    (h2 : (parse cfg w f2 old).1 ≠ Outcome.outOfFuel) : parse cfg w f1 old = parse cfg w f2 old :=
  parseLoop_det h1 h2

/-- … hence an answer that holds from some fuel on is THE answer: whatever fuel gives an answer
    other than `outOfFuel` gives this one -/
theorem C02_parse_answer {cfg : PCfg} {w : List Nat} {old : PState} {n : Nat}
    {res : Outcome × PState} (hn : ∀ fuel', n ≤ fuel' → parse cfg w fuel' old = res)
    {fuel : Nat} (h : (parse cfg w fuel old).1 ≠ Outcome.outOfFuel) :
    parse cfg w fuel old = res :=
  ParseTerm.answer_of_ne_outOfFuel hn h

/-- … in particular its outcome is the outcome seen with any fuel that gives one -/
theorem C02_parse_outcome {cfg : PCfg} {w : List Nat} {old : PState} {n : Nat} {o : Outcome}
    {ps : PState} (hn : ∀ fuel', n ≤ fuel' → parse cfg w fuel' old = (o, ps)) {fuel : Nat}
    {o' : Outcome} (h : (parse cfg w fuel old).1 = o') (hne : o' ≠ Outcome.outOfFuel) : o = o' := by
  rw [← h, C02_parse_answer hn (by rw [h]; exact hne)]

/-- (C02, decision procedure) for inputs without a token of type 1 whose token types are inside
    the tables: `Parse` returns `accept` if `w` is a sentence and a syntax error if not -/
theorem C02_parse_decides {G : NGrammar} {T : PTables} {fc : FirstCert} {c : CertLA}
    {vc : VCert} (hf : firstOk G fc = true) (hc : complete G T fc c = true)
    (hv : validItems G T c vc = true) (hr : ∀ s : Nat, T.canRecover[s]?.getD false = false)
    {cfg : PCfg} (hA : ActsOk cfg) (hT : cfg.T = T) {w : List Nat} (hw : 1 ∉ w)
    (hrange : ∀ t, t ∈ w → t < T.numSymbols) (old : PState) :
    ∃ fuel o ps, (∀ fuel', fuel ≤ fuel' → parse cfg w fuel' old = (o, ps)) ∧
      ((∃ r, o = Outcome.accept r) ↔ NSentence G w) ∧
      ((∃ i typ exp top, o = Outcome.synErr i typ exp top) ↔ ¬ NSentence G w) := by
  obtain ⟨fuel, o, ps, -, hn, hiff, hcases⟩ :=
    C02_parse_terminates hf hc hv hr hA hT w old
  have hiff' : (∃ r, o = Outcome.accept r) ↔ NSentence G w :=
    hiff.trans (ParseTerm.eofSentence_iff hw)
  refine ⟨fuel, o, ps, hn, hiff', ?_⟩
  constructor
  · rintro ⟨i, typ, exp, top, rfl⟩ hs
    obtain ⟨r, h⟩ := hiff'.2 hs
    cases h
  · intro hns
    rcases hcases with h | ⟨i, exp, top, h, -⟩ | ⟨-, t, ht, hge⟩
    · exact absurd (hiff'.1 h) hns
    · exact ⟨i, _, exp, top, h⟩
    · have := hrange t ht
      omega

/-! ### generator level -/

/-- (C02-term, generated) for every conflict-free grammar without `error` alternative whose body
    non-terminals are productive: the parser running the GENERATED tables ends on every input
    (`C02_parse_terminates` with `C02_genParser_complete` and `C06_genParser_validItems`) -/
theorem C02_generated_parse_terminates {syn : List SProd} {tokIds : List String} {r : LRResult}
    (h : genParser syn tokIds = .ok r) (hn : NamesOk syn tokIds) (hx : CompleteNamesOk syn)
    (hsz : r.states.size ≤ 4096) (hc : r.tables.conflictStates = 0)
    (hp : bodyNTsProductive (ngrammarOf (augment syn) r.tables.terminals r.tables.nts) = true)
    (hr : ∀ s : Nat, r.tables.canRecover[s]?.getD false = false)
    {cfg : PCfg} (hA : ActsOk cfg) (hT : cfg.T = r.tables) (w : List Nat) (old : PState) :
    ∃ fuel o ps, o ≠ Outcome.outOfFuel ∧
      (∀ fuel', fuel ≤ fuel' → parse cfg w fuel' old = (o, ps)) ∧
      ((∃ res, o = Outcome.accept res) ↔
        ∃ i, i ≤ w.length ∧ (w[i]?).getD 1 = 1 ∧
          NSentence (ngrammarOf (augment syn) r.tables.terminals r.tables.nts) (w.take i)) ∧
      ((∃ res, o = Outcome.accept res) ∨
       (∃ i exp top, o = Outcome.synErr i ((w[i]?).getD 1) exp top ∧ i ≤ w.length ∧
          NViablePrefix (ngrammarOf (augment syn) r.tables.terminals r.tables.nts) (w.take i) ∧
          ∀ j, i < j → j ≤ w.length →
            ¬ NViablePrefix (ngrammarOf (augment syn) r.tables.terminals r.tables.nts)
                (w.take j)) ∨
       (o = Outcome.panic "index out of range (token type)" ∧
          ∃ t, t ∈ w ∧ r.tables.numSymbols ≤ t)) :=
  C02_parse_terminates (C02_genParser_complete syn tokIds r h hn hsz hc hx).1
    (C02_genParser_complete syn tokIds r h hn hsz hc hx).2
    (C06_genParser_validItems syn tokIds r h hn hx hsz hp) hr hA hT w old

/-- (C02, generated, decision procedure) … and on inputs without a token of type 1 whose token
    types are inside the tables it returns `accept` for the sentences of the grammar and a syntax
    error for everything else -/
theorem C02_generated_parse_decides {syn : List SProd} {tokIds : List String} {r : LRResult}
    (h : genParser syn tokIds = .ok r) (hn : NamesOk syn tokIds) (hx : CompleteNamesOk syn)
    (hsz : r.states.size ≤ 4096) (hc : r.tables.conflictStates = 0)
    (hp : bodyNTsProductive (ngrammarOf (augment syn) r.tables.terminals r.tables.nts) = true)
    (hr : ∀ s : Nat, r.tables.canRecover[s]?.getD false = false)
    {cfg : PCfg} (hA : ActsOk cfg) (hT : cfg.T = r.tables) {w : List Nat} (hw : 1 ∉ w)
    (hrange : ∀ t, t ∈ w → t < r.tables.numSymbols) (old : PState) :
    ∃ fuel o ps, (∀ fuel', fuel ≤ fuel' → parse cfg w fuel' old = (o, ps)) ∧
      ((∃ res, o = Outcome.accept res) ↔
        NSentence (ngrammarOf (augment syn) r.tables.terminals r.tables.nts) w) ∧
      ((∃ i typ exp top, o = Outcome.synErr i typ exp top) ↔
        ¬ NSentence (ngrammarOf (augment syn) r.tables.terminals r.tables.nts) w) :=
  C02_parse_decides (C02_genParser_complete syn tokIds r h hn hsz hc hx).1
    (C02_genParser_complete syn tokIds r h hn hsz hc hx).2
    (C06_genParser_validItems syn tokIds r h hn hx hsz hp) hr hA hT hw hrange old

/-! ### Non-vacuity -/

namespace C02TermEx
open C02Ex C06Ex

/-- tables level, `S' : S ; S : a S | b` (`C02Ex`): on `a a` the loop ends with the syntax error at
    the end of the input, for every fuel from some bound on -/
example (old : PState) : ∃ fuel ps, ∀ fuel', fuel ≤ fuel' →
    parse cfg [2, 2] fuel' old = (Outcome.synErr 2 1 [2, 3] 1, ps) := by
  obtain ⟨fuel, o, ps, -, hn, -, -⟩ :=
    C02_parse_terminates firstOk_ok complete_ok validItems_ok noRecovery actsOk rfl [2, 2] old
  cases C02_parse_outcome hn (show (parse cfg [2, 2] 20 old).1 = _ from err_aa)
    (by intro h; cases h)
  exact ⟨fuel, ps, hn⟩

/-- … for this grammar `Parse` is a decision procedure: every input over `a`, `b` gets its
    verdict after finitely many iterations -/
example {w : List Nat} (hw : ∀ t, t ∈ w → t = 2 ∨ t = 3) (old : PState) :
    ∃ fuel o ps, (∀ fuel', fuel ≤ fuel' → parse cfg w fuel' old = (o, ps)) ∧
      ((∃ r, o = Outcome.accept r) ↔ NSentence G w) ∧
      ((∃ i typ exp top, o = Outcome.synErr i typ exp top) ↔ ¬ NSentence G w) :=
  C02_parse_decides firstOk_ok complete_ok validItems_ok noRecovery actsOk rfl
    (fun h => by have := hw 1 h; omega)
    (fun t ht => by
      have : T.numSymbols = 4 := rfl
      rcases hw t ht with rfl | rfl <;> omega) old

/-- a token type outside the tables: the Go code indexes `actionTable[state].actions[type]` out of
    range — the model answers with the panic, which is not `outOfFuel` either -/
example : parse cfg [2, 7] 20 default =
    (Outcome.panic "index out of range (token type)",
      { states := [1, 0], attrs := [.tok 0 2, .nil], next := (1, 7), ntok := 2, log := [],
        calls := 0 }) := rfl

/-- a token of type 1 inside the input is the end of the input: `b ␚ a` is accepted like `b` -/
example : (parse cfg [3, 1, 2] 20 default).1 = Outcome.accept (.node 11 [.tok 0 3]) := rfl

end C02TermEx

namespace C02TermGenEx
open C02GenEx (syn ids)
open C02GenCompleteEx (Gex sentence_aacbb names_ok cnames_ok)
open C06GenEx (hyps err_ac ac_prefix_not_sentence)

/-- generator level, `S : a S b | c` (`C02GenEx.syn`): THROUGH THE GENERATOR-LEVEL THEOREM the parser
    with the generated tables ends on the non-sentence `a c`, for every fuel from some bound on,
    with the syntax error at the end of the input (the error itself is read off the evaluation
    `C06GenEx.err_ac` at fuel 50, which `C02_parse_answer` identifies with the answer) -/
theorem terminates_ac (r : LRResult) (h : genParser syn ids = .ok r) (old : PState) :
    ∃ fuel ps, ∀ fuel', fuel ≤ fuel' →
      parse { T := r.tables, errTerm := 0, failAt := 0 } [2, 4] fuel' old =
        (Outcome.synErr 2 1 [3] 6, ps) := by
  obtain ⟨h1, h2, h3, h4, h5, -⟩ := hyps h
  obtain ⟨fuel, o, ps, -, hn, -, -⟩ :=
    C02_generated_parse_terminates h names_ok cnames_ok h1 h2 h3 h4
      (cfg := { T := r.tables, errTerm := 0, failAt := 0 }) h5 rfl [2, 4] old
  cases C02_parse_outcome hn (show (parse _ [2, 4] 50 old).1 = _ from err_ac h)
    (by intro h; cases h)
  exact ⟨fuel, ps, hn⟩

/-- … without any evaluation of `parse`: the answer on `a c` is not `accept`, because `a c` is not
    a sentence (`C06GenEx.ac_prefix_not_sentence`) -/
example (r : LRResult) (h : genParser syn ids = .ok r) (old : PState) :
    ∃ fuel o ps, o ≠ Outcome.outOfFuel ∧ (∀ res, o ≠ Outcome.accept res) ∧ ∀ fuel', fuel ≤ fuel' →
      parse { T := r.tables, errTerm := 0, failAt := 0 } [2, 4] fuel' old = (o, ps) := by
  obtain ⟨h1, h2, h3, h4, h5, h6⟩ := hyps h
  obtain ⟨fuel, o, ps, hne, hn, hiff, -⟩ :=
    C02_generated_parse_terminates h names_ok cnames_ok h1 h2 h3 h4
      (cfg := { T := r.tables, errTerm := 0, failAt := 0 }) h5 rfl [2, 4] old
  refine ⟨fuel, o, ps, hne, fun res hres => ?_, hn⟩
  rw [h6] at hiff
  have := (hiff.trans (ParseTerm.eofSentence_iff (G := Gex) (w := [2, 4]) (by decide))).1
    ⟨res, hres⟩
  exact ac_prefix_not_sentence.2 this

/-- … and on the sentence `a a c b b` the answer is `accept`, for every fuel from some bound on -/
example (r : LRResult) (h : genParser syn ids = .ok r) (old : PState) :
    ∃ fuel res ps, ∀ fuel', fuel ≤ fuel' →
      parse { T := r.tables, errTerm := 0, failAt := 0 } [2, 2, 4, 3, 3] fuel' old =
        (Outcome.accept res, ps) := by
  obtain ⟨h1, h2, h3, h4, h5, h6⟩ := hyps h
  obtain ⟨fuel, o, ps, -, hn, hiff, -⟩ :=
    C02_generated_parse_terminates h names_ok cnames_ok h1 h2 h3 h4
      (cfg := { T := r.tables, errTerm := 0, failAt := 0 }) h5 rfl [2, 2, 4, 3, 3] old
  rw [h6] at hiff
  obtain ⟨res, rfl⟩ := hiff.2 ⟨5, by decide, by decide, sentence_aacbb⟩
  exact ⟨fuel, res, ps, hn⟩

end C02TermGenEx

end Gocc
