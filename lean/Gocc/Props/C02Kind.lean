import Gocc.Proofs.KindGrammarSem
import Gocc.Props.C07Term
/-
The generator-level theorems, stated against a specification that does NOT read the grammar the way
the generator does.

`ngrammarOf` (Model/Validate.lean), over which C02/C03/C06/C07 at the generator level are stated,
reads a syntax part BY SPELLING, exactly like gocc's generator: a body symbol is a non-terminal iff
its spelling is a head, and an alternative is empty iff its first symbol is SPELLED `empty`
(`prodLen`, i.e. `Item.Len`).  For `S : "empty" a | b ;` that is not the grammar the author wrote,
and the generated parser really is wrong for it (known finding D16) — the theorems over `ngrammarOf`
are true of it and say nothing about the defect.

`ngrammarSpec` (Spec/KindGrammar.lean) reads the syntax part BY KIND: `.prodId` = non-terminal,
`.tokId` / `.strLit` = terminal, the empty alternative = the keyword `empty` alone.

  * `ngrammarSpec_eq_ngrammarOf` (Proofs/KindGrammar.lean): under the decidable side condition
    `SpellingsOk syn tokIds` (clauses `prodIdDefined`, `terminalNotHead`, `emptyAlone`) the two
    grammars are EQUAL for the tables of every successful `genParser` run.
  * below: every headline generator-level theorem restated over `ngrammarSpec`, with the extra
    hypothesis `SpellingsOk syn tokIds` (the same statements with `ngrammarSpec` for `ngrammarOf`;
    proofs: rewrite with the equality).
  * `spellingsOk_of_semCheck` (Proofs/KindGrammarSem.lean): gocc's front end (`semCheck`) enforces
    `SpellingsOk` except for: token ids spelled like heads (excluded by the scanner) and an
    alternative that begins with the STRING LITERAL `"empty"` — not refused, D16.
  * `C02_D16_literal_empty_violates`: D16 as a proved negative.  For `S : "empty" a | b ;` all the
    side conditions of the theorems over `ngrammarOf` hold (`NamesOk`, `CompleteNamesOk`, no conflict, no recovery
    state), `SpellingsOk` fails, the two grammars differ, and the generated parser accepts a
    non-sentence and rejects a sentence of the grammar as written.
  * non-vacuity: `C02GenEx.syn` (`S : a S b | c`) and `C07GenEx.syn` (with an `error` alternative)
    satisfy `SpellingsOk`; the `_kind` theorems are instantiated on them.
-/
namespace Gocc

/-- (C02-gen-sound, by kind) whatever the generated parser accepts is a sentence of the grammar as
    written (`C02_generated_parser_sound`) -/
theorem C02_generated_parser_sound_kind {syn : List SProd} {tokIds : List String} {r : LRResult}
    (h : genParser syn tokIds = .ok r) (hn : NamesOk syn tokIds) (hs : SpellingsOk syn tokIds)
    (hsz : r.states.size ≤ 4096)
    (hr : ∀ s : Nat, r.tables.canRecover[s]?.getD false = false)
    {w : List Nat} (hw : 1 ∉ w) {cfg : PCfg} (hT : cfg.T = r.tables)
    {fuel : Nat} {old : PState} {res : Attr}
    (hacc : (parse cfg w fuel old).1 = Outcome.accept res) :
    NSentence (ngrammarSpec (augment syn) r.tables.terminals r.tables.nts) w := by
  rw [ngrammarSpec_eq_ngrammarOf h hs]
  exact C02_generated_parser_sound h hn hsz hr hw hT hacc

/-- (C02-gen-complete, by kind) the generated parser accepts every sentence of the grammar as
    written (`C02_generated_sentence_accepted`) -/
theorem C02_generated_sentence_accepted_kind {syn : List SProd} {tokIds : List String}
    {r : LRResult} (h : genParser syn tokIds = .ok r) (hn : NamesOk syn tokIds)
    (hs : SpellingsOk syn tokIds) (hsz : r.states.size ≤ 4096)
    (hc : r.tables.conflictStates = 0) (hx : CompleteNamesOk syn)
    {cfg : PCfg} (hA : ActsOk cfg) (hT : cfg.T = r.tables) {w : List Nat}
    (hsen : NSentence (ngrammarSpec (augment syn) r.tables.terminals r.tables.nts) w)
    (old : PState) :
    ∃ fuel res, (parse cfg w fuel old).1 = Outcome.accept res := by
  rw [ngrammarSpec_eq_ngrammarOf h hs] at hsen
  exact C02_generated_sentence_accepted h hn hsz hc hx hA hT hsen old

/-- (C02-gen, both directions, by kind) for every grammar without conflict and without `error`
    alternative whose spellings are in order: the generated parser accepts exactly the sentences of
    the grammar AS WRITTEN (`C02_generated_accept_iff_sentence`) -/
theorem C02_generated_accept_iff_sentence_kind {syn : List SProd} {tokIds : List String}
    {r : LRResult} (h : genParser syn tokIds = .ok r) (hn : NamesOk syn tokIds)
    (hs : SpellingsOk syn tokIds) (hsz : r.states.size ≤ 4096)
    (hc : r.tables.conflictStates = 0) (hx : CompleteNamesOk syn)
    (hr : ∀ s : Nat, r.tables.canRecover[s]?.getD false = false)
    {cfg : PCfg} (hA : ActsOk cfg) (hT : cfg.T = r.tables) {w : List Nat} (hw : 1 ∉ w)
    (old : PState) :
    (∃ fuel res, (parse cfg w fuel old).1 = Outcome.accept res) ↔
      NSentence (ngrammarSpec (augment syn) r.tables.terminals r.tables.nts) w := by
  rw [ngrammarSpec_eq_ngrammarOf h hs]
  exact C02_generated_accept_iff_sentence h hn hsz hc hx hr hA hT hw old

/-- (C02-term, generated, by kind) `C02_generated_parse_terminates` -/
theorem C02_generated_parse_terminates_kind {syn : List SProd} {tokIds : List String}
    {r : LRResult} (h : genParser syn tokIds = .ok r) (hn : NamesOk syn tokIds)
    (hs : SpellingsOk syn tokIds) (hx : CompleteNamesOk syn)
    (hsz : r.states.size ≤ 4096) (hc : r.tables.conflictStates = 0)
    (hp : bodyNTsProductive (ngrammarSpec (augment syn) r.tables.terminals r.tables.nts) = true)
    (hr : ∀ s : Nat, r.tables.canRecover[s]?.getD false = false)
    {cfg : PCfg} (hA : ActsOk cfg) (hT : cfg.T = r.tables) (w : List Nat) (old : PState) :
    ∃ fuel o ps, o ≠ Outcome.outOfFuel ∧
      (∀ fuel', fuel ≤ fuel' → parse cfg w fuel' old = (o, ps)) ∧
      ((∃ res, o = Outcome.accept res) ↔
        ∃ i, i ≤ w.length ∧ (w[i]?).getD 1 = 1 ∧
          NSentence (ngrammarSpec (augment syn) r.tables.terminals r.tables.nts) (w.take i)) ∧
      ((∃ res, o = Outcome.accept res) ∨
       (∃ i exp top, o = Outcome.synErr i ((w[i]?).getD 1) exp top ∧ i ≤ w.length ∧
          NViablePrefix (ngrammarSpec (augment syn) r.tables.terminals r.tables.nts) (w.take i) ∧
          ∀ j, i < j → j ≤ w.length →
            ¬ NViablePrefix (ngrammarSpec (augment syn) r.tables.terminals r.tables.nts)
                (w.take j)) ∨
       (o = Outcome.panic "index out of range (token type)" ∧
          ∃ t, t ∈ w ∧ r.tables.numSymbols ≤ t)) := by
  rw [ngrammarSpec_eq_ngrammarOf h hs] at hp ⊢
  exact C02_generated_parse_terminates h hn hx hsz hc hp hr hA hT w old

/-- (C02, generated, decision procedure, by kind) on inputs without a token of type 1 whose token
    types are inside the tables the generated parser returns `accept` for the sentences of the
    grammar AS WRITTEN and a syntax error for everything else (`C02_generated_parse_decides`) -/
theorem C02_generated_parse_decides_kind {syn : List SProd} {tokIds : List String} {r : LRResult}
    (h : genParser syn tokIds = .ok r) (hn : NamesOk syn tokIds) (hs : SpellingsOk syn tokIds)
    (hx : CompleteNamesOk syn)
    (hsz : r.states.size ≤ 4096) (hc : r.tables.conflictStates = 0)
    (hp : bodyNTsProductive (ngrammarSpec (augment syn) r.tables.terminals r.tables.nts) = true)
    (hr : ∀ s : Nat, r.tables.canRecover[s]?.getD false = false)
    {cfg : PCfg} (hA : ActsOk cfg) (hT : cfg.T = r.tables) {w : List Nat} (hw : 1 ∉ w)
    (hrange : ∀ t, t ∈ w → t < r.tables.numSymbols) (old : PState) :
    ∃ fuel o ps, (∀ fuel', fuel ≤ fuel' → parse cfg w fuel' old = (o, ps)) ∧
      ((∃ res, o = Outcome.accept res) ↔
        NSentence (ngrammarSpec (augment syn) r.tables.terminals r.tables.nts) w) ∧
      ((∃ i typ exp top, o = Outcome.synErr i typ exp top) ↔
        ¬ NSentence (ngrammarSpec (augment syn) r.tables.terminals r.tables.nts) w) := by
  rw [ngrammarSpec_eq_ngrammarOf h hs] at hp ⊢
  exact C02_generated_parse_decides h hn hx hsz hc hp hr hA hT hw hrange old

/-- (C03-gen, by kind) value and call log of an accepting run are the evaluation of a parse tree —
    of the grammar as written — of the whole input (`C03_generated_result_is_tree_eval`) -/
theorem C03_generated_result_is_tree_eval_kind {syn : List SProd} {tokIds : List String}
    {r : LRResult} (h : genParser syn tokIds = .ok r) (hn : NamesOk syn tokIds)
    (hs : SpellingsOk syn tokIds) (hsz : r.states.size ≤ 4096)
    (hr : ∀ s : Nat, r.tables.canRecover[s]?.getD false = false)
    {w : List Nat} (hw : 1 ∉ w) {cfg : PCfg} (hT : cfg.T = r.tables)
    {fuel : Nat} {old : PState} {res : Attr} {ps : PState}
    (hacc : parse cfg w fuel old = (Outcome.accept res, ps)) :
    ∃ t : PT, t.wf (ngrammarSpec (augment syn) r.tables.terminals r.tables.nts) ∧
      (ngrammarSpec (augment syn) r.tables.terminals r.tables.nts).body 0 =
        [t.sym (ngrammarSpec (augment syn) r.tables.terminals r.tables.nts)] ∧
      t.yield = (List.range w.length).zip w ∧
      evalT r.tables.prodKind t [] = some (res, ps.log) := by
  rw [ngrammarSpec_eq_ngrammarOf h hs]
  exact C03_generated_result_is_tree_eval h hn hsz hr hw hT hacc

/-- (C06 B, generated, by kind) a syntax error of the generated parser names the first token that
    cannot continue a sentence of the grammar as written
    (`C06_generated_error_token_is_first_offending`) -/
theorem C06_generated_error_token_is_first_offending_kind {syn : List SProd}
    {tokIds : List String} {r : LRResult} (h : genParser syn tokIds = .ok r)
    (hn : NamesOk syn tokIds) (hs : SpellingsOk syn tokIds)
    (hx : CompleteNamesOk syn) (hsz : r.states.size ≤ 4096)
    (hc : r.tables.conflictStates = 0)
    (hp : bodyNTsProductive (ngrammarSpec (augment syn) r.tables.terminals r.tables.nts) = true)
    (hr : ∀ s : Nat, r.tables.canRecover[s]?.getD false = false)
    {cfg : PCfg} (hA : ActsOk cfg) (hT : cfg.T = r.tables) {w : List Nat} {fuel : Nat}
    {old : PState} {i typ : Nat} {exp : List Nat} {top : Nat}
    (he : (parse cfg w fuel old).1 = Outcome.synErr i typ exp top) :
    NViablePrefix (ngrammarSpec (augment syn) r.tables.terminals r.tables.nts) (w.take i) ∧
    i ≤ w.length ∧ typ = (w[i]?).getD 1 ∧
    (typ ≠ 1 → ¬ ∃ v, NSentence (ngrammarSpec (augment syn) r.tables.terminals r.tables.nts)
      (w.take i ++ typ :: v)) ∧
    (typ = 1 → ¬ NSentence (ngrammarSpec (augment syn) r.tables.terminals r.tables.nts)
      (w.take i)) := by
  rw [ngrammarSpec_eq_ngrammarOf h hs] at hp ⊢
  exact C06_generated_error_token_is_first_offending h hn hx hsz hc hp hr hA hT he

/-- (C06 C, generated, by kind) the expected-token list of a syntax error is exactly the set of
    terminals that can follow the consumed input in a sentence of the grammar as written, in
    strictly increasing order (`C06_generated_expected_set_exact`) -/
theorem C06_generated_expected_set_exact_kind {syn : List SProd} {tokIds : List String}
    {r : LRResult} (h : genParser syn tokIds = .ok r) (hn : NamesOk syn tokIds)
    (hs : SpellingsOk syn tokIds)
    (hx : CompleteNamesOk syn) (hsz : r.states.size ≤ 4096)
    (hc : r.tables.conflictStates = 0)
    (hp : bodyNTsProductive (ngrammarSpec (augment syn) r.tables.terminals r.tables.nts) = true)
    (hr : ∀ s : Nat, r.tables.canRecover[s]?.getD false = false)
    {cfg : PCfg} (hA : ActsOk cfg) (hT : cfg.T = r.tables) {w : List Nat} {fuel : Nat}
    {old : PState} {i typ : Nat} {exp : List Nat} {top : Nat}
    (he : (parse cfg w fuel old).1 = Outcome.synErr i typ exp top) :
    (∀ a, a ∈ exp ↔
      (a ≠ 1 ∧ ∃ v, NSentence (ngrammarSpec (augment syn) r.tables.terminals r.tables.nts)
        (w.take i ++ a :: v)) ∨
      (a = 1 ∧ NSentence (ngrammarSpec (augment syn) r.tables.terminals r.tables.nts)
        (w.take i))) ∧
    exp.Pairwise (· < ·) := by
  rw [ngrammarSpec_eq_ngrammarOf h hs] at hp ⊢
  exact C06_generated_expected_set_exact h hn hx hsz hc hp hr hA hT he

/-- (C07 1a, by kind) a sentence of the grammar as written is accepted by the generated parser —
    recovery states and error terminal included — by the run of the parser without recovery
    (`C07_generated_sentence_accepted_inert`) -/
theorem C07_generated_sentence_accepted_inert_kind {syn : List SProd} {tokIds : List String}
    {r : LRResult} (h : genParser syn tokIds = .ok r) (hn : NamesOk syn tokIds)
    (hs : SpellingsOk syn tokIds)
    (hsz : r.states.size ≤ 4096) (hc : r.tables.conflictStates = 0) (hx : CompleteNamesOk syn)
    {cfg : PCfg} (hA : ActsOk cfg) (hT : cfg.T = r.tables) {w : List Nat}
    (hsen : NSentence (ngrammarSpec (augment syn) r.tables.terminals r.tables.nts) w)
    (old : PState) :
    ∃ fuel₀ res ps, ∀ fuel, fuel₀ ≤ fuel →
      parse cfg w fuel old = (Outcome.accept res, ps) ∧
      parse cfg.noRecovery w fuel old = (Outcome.accept res, ps) := by
  rw [ngrammarSpec_eq_ngrammarOf h hs] at hsen
  exact C07_generated_sentence_accepted_inert h hn hsz hc hx hA hT hsen old

/-- (C07 1, by kind) `w` is a sentence of the grammar as written iff the real parser accepts `w` by
    a run that coincides with the run of the parser without recovery
    (`C07_generated_inert_accept_iff`) -/
theorem C07_generated_inert_accept_iff_kind {syn : List SProd} {tokIds : List String}
    {r : LRResult} (h : genParser syn tokIds = .ok r) (hn : NamesOk syn tokIds)
    (hs : SpellingsOk syn tokIds)
    (hsz : r.states.size ≤ 4096) (hc : r.tables.conflictStates = 0) (hx : CompleteNamesOk syn)
    {cfg : PCfg} (hA : ActsOk cfg) (hT : cfg.T = r.tables) {w : List Nat} (hw : 1 ∉ w)
    (old : PState) :
    (∃ fuel res, (parse cfg w fuel old).1 = Outcome.accept res ∧
        parse cfg w fuel old = parse cfg.noRecovery w fuel old) ↔
      NSentence (ngrammarSpec (augment syn) r.tables.terminals r.tables.nts) w := by
  rw [ngrammarSpec_eq_ngrammarOf h hs]
  exact C07_generated_inert_accept_iff h hn hsz hc hx hA hT hw old

/-- (C07-term, generated, by kind) error alternatives allowed: the generated parser, with the
    generated recovery flags, ends on every input (`C07_generated_parse_terminates`; the grammar
    occurs only in the productivity hypothesis) -/
theorem C07_generated_parse_terminates_kind {syn : List SProd} {tokIds : List String}
    {r : LRResult} (h : genParser syn tokIds = .ok r) (hn : NamesOk syn tokIds)
    (hs : SpellingsOk syn tokIds) (hx : CompleteNamesOk syn)
    (hsz : r.states.size ≤ 4096) (hc : r.tables.conflictStates = 0)
    (hp : bodyNTsProductive (ngrammarSpec (augment syn) r.tables.terminals r.tables.nts) = true)
    {cfg : PCfg} (hA : ActsOk cfg) (hT : cfg.T = r.tables) (w : List Nat) (old : PState) :
    ∃ fuel o ps, o ≠ Outcome.outOfFuel ∧
      ∀ fuel', fuel ≤ fuel' → parse cfg w fuel' old = (o, ps) := by
  rw [ngrammarSpec_eq_ngrammarOf h hs] at hp
  exact C07_generated_parse_terminates h hn hx hsz hc hp hA hT w old

/-! ### Non-vacuity: `S : a S b | c` (`C02GenEx`), `L : St | L semi St ; St : id | error` (`C07GenEx`) -/
namespace C02KindEx

theorem spellingsOk : SpellingsOk C02GenEx.syn C02GenEx.ids := by decide +kernel

/-- the side condition is decided … -/
example : SpellingsOk C02GenEx.syn C02GenEx.ids := spellingsOk
example : SpellingsOk C07GenEx.syn C07GenEx.ids := by decide +kernel
/-- … the assumptions on the input of `spellingsOk_of_semCheck` too … -/
example : TokIdsNotHeads C02GenEx.syn ∧ NoLiteralEmptyFirst C02GenEx.syn := by decide +kernel

/-- … and not trivially true: one grammar per clause, violating only this clause -/
def gUndefined : List SProd := [{ head := "S", body := [⟨.prodId, "B"⟩] }]
def gLitHead : List SProd :=
  [{ head := "S", body := [⟨.strLit, "A"⟩] }, { head := "A", body := [⟨.tokId, "b"⟩] }]
def gTokHead : List SProd :=
  [{ head := "S", body := [⟨.tokId, "A"⟩] }, { head := "A", body := [⟨.tokId, "b"⟩] }]
def gEmptyThen : List SProd :=
  [{ head := "S", body := [⟨.tokId, "empty"⟩, ⟨.tokId, "a"⟩] }]
def gLitEmpty : List SProd := [{ head := "S", body := [⟨.strLit, "empty"⟩] }]

open KindG (ProdIdDefined TerminalNotHead EmptyAlone) in
example :
    (¬ ProdIdDefined (augment gUndefined) ∧ TerminalNotHead (augment gUndefined) ∧
      EmptyAlone (augment gUndefined)) ∧
    (ProdIdDefined (augment gLitHead) ∧ ¬ TerminalNotHead (augment gLitHead) ∧
      EmptyAlone (augment gLitHead)) ∧
    (ProdIdDefined (augment gTokHead) ∧ ¬ TerminalNotHead (augment gTokHead) ∧
      EmptyAlone (augment gTokHead)) ∧
    (ProdIdDefined (augment gEmptyThen) ∧ TerminalNotHead (augment gEmptyThen) ∧
      ¬ EmptyAlone (augment gEmptyThen)) ∧
    (ProdIdDefined (augment gLitEmpty) ∧ TerminalNotHead (augment gLitEmpty) ∧
      ¬ EmptyAlone (augment gLitEmpty)) := by decide +kernel

example : ¬ SpellingsOk gUndefined ["b"] := by decide +kernel
example : ¬ SpellingsOk gLitHead ["b"] := by decide +kernel
example : ¬ SpellingsOk gTokHead ["b"] := by decide +kernel
example : ¬ SpellingsOk gEmptyThen ["a"] := by decide +kernel
example : ¬ SpellingsOk gLitEmpty [] := by decide +kernel

/-- do the two readings give the same productions for the tables the generator computes? -/
def agree (syn : List SProd) (ids : List String) : Option Bool :=
  (genParser syn ids).toOption.map fun r =>
    decide ((ngrammarSpec (augment syn) r.tables.terminals r.tables.nts).prods =
      (ngrammarOf (augment syn) r.tables.terminals r.tables.nts).prods)

/-- each clause is needed: these grammars are generated without panic and the readings differ
    (kernel evaluation of the generator model) -/
theorem clauses_needed :
    agree gUndefined ["b"] = some false ∧ agree gLitHead ["b"] = some false ∧
    agree gTokHead ["b"] = some false ∧ agree gEmptyThen ["a"] = some false ∧
    agree gLitEmpty [] = some false := by
  decide +kernel

theorem agree_of_run {syn : List SProd} {ids : List String} {r : LRResult}
    (h : genParser syn ids = .ok r) :
    agree syn ids = some (decide ((ngrammarSpec (augment syn) r.tables.terminals r.tables.nts).prods =
      (ngrammarOf (augment syn) r.tables.terminals r.tables.nts).prods)) := by
  unfold agree
  rw [h]
  rfl

/-- the positive cases: the two readings evaluated on the numbering of the run (`run2_facts`,
    `C07GenEx.run_facts`), for comparison with `ngrammarSpec_eq_ngrammarOf` -/
example : agree C02GenEx.syn C02GenEx.ids = some true := by
  obtain ⟨r, h⟩ := C02GenEx.run_ok
  obtain ⟨-, -, f3, f4, -⟩ := C02GenCompleteEx.run2_facts h
  rw [agree_of_run h, f3, f4]
  decide +kernel
example : agree C07GenEx.syn C07GenEx.ids = some true := by
  obtain ⟨r, h⟩ := C07GenEx.run_ok
  obtain ⟨-, -, f3, f4, -⟩ := C07GenEx.run_facts h
  rw [agree_of_run h, f3, f4]
  decide +kernel

/-- not excluded, and read alike: `empty` after other symbols, `error`, the literal `"error"`, an
    alternative with an empty body -/
def fine : List SProd := [
  { head := "S", body := [⟨.prodId, "A"⟩, ⟨.tokId, "empty"⟩] },
  { head := "A", body := [⟨.strLit, "error"⟩, ⟨.tokId, "a"⟩] },
  { head := "A", body := [⟨.tokId, "error"⟩] },
  { head := "A", body := [] } ]
example : SpellingsOk fine ["a"] := by decide +kernel

open C02GenEx (syn ids)
open C02GenCompleteEx (Gex names_ok cnames_ok sentence_aacbb)

theorem spec_eq_gex {r : LRResult} (h : genParser syn ids = .ok r) :
    ngrammarSpec (augment syn) r.tables.terminals r.tables.nts = Gex := by
  rw [ngrammarSpec_eq_ngrammarOf h spellingsOk, (C02GenCompleteEx.hyps h).2.2.2.2]

/-- `_kind` theorems instantiated: the generated parser decides membership in the grammar as
    written … -/
example (r : LRResult) (h : genParser syn ids = .ok r) {w : List Nat} (hw : 1 ∉ w)
    (old : PState) :
    (∃ fuel res, (parse { T := r.tables, errTerm := 0, failAt := 0 } w fuel old).1 =
      Outcome.accept res) ↔
      NSentence (ngrammarSpec (augment syn) r.tables.terminals r.tables.nts) w := by
  obtain ⟨hsz, hc, hr, hA, -⟩ := C02GenCompleteEx.hyps h
  exact C02_generated_accept_iff_sentence_kind h names_ok spellingsOk hsz hc cnames_ok hr hA rfl
    hw old

/-- … in particular it accepts `a a c b b` (derivation `sentence_aacbb`, no evaluation of `parse`) -/
example (r : LRResult) (h : genParser syn ids = .ok r) (old : PState) :
    ∃ fuel res, (parse { T := r.tables, errTerm := 0, failAt := 0 } [2, 2, 4, 3, 3] fuel old).1 =
      Outcome.accept res := by
  obtain ⟨hsz, hc, -, hA, -⟩ := C02GenCompleteEx.hyps h
  exact C02_generated_sentence_accepted_kind h names_ok spellingsOk hsz hc cnames_ok hA rfl
    (by rw [spec_eq_gex h]; exact sentence_aacbb) old

/-- the width of the action rows is the number of symbols; only the symbol table of the run is
    evaluated (`newSymbols`), not the LR(1) construction -/
theorem numSymbols_run :
    (genParser syn ids).toOption.map (fun r => r.tables.numSymbols) = some 7 := by
  obtain ⟨r, h⟩ := C02GenEx.run_ok
  obtain ⟨S0, hS0, hctx, -⟩ := genParser_shape h
  have hev : (newSymbols (augment syn)).toOption.map
      (fun S => (S.addTokens ids).typeMap.length) = some 7 := by decide +kernel
  rw [hS0] at hev
  rw [h]
  show some r.tables.numSymbols = some 7
  rw [genParser_numSymbols h, hctx]
  exact hev

/-- … and ends with a verdict on every input over `a b c` -/
example (r : LRResult) (h : genParser syn ids = .ok r) {w : List Nat}
    (hw : ∀ t, t ∈ w → t = 2 ∨ t = 3 ∨ t = 4) (old : PState) :
    ∃ fuel o ps, (∀ fuel', fuel ≤ fuel' →
        parse { T := r.tables, errTerm := 0, failAt := 0 } w fuel' old = (o, ps)) ∧
      ((∃ res, o = Outcome.accept res) ↔
        NSentence (ngrammarSpec (augment syn) r.tables.terminals r.tables.nts) w) ∧
      ((∃ i typ exp top, o = Outcome.synErr i typ exp top) ↔
        ¬ NSentence (ngrammarSpec (augment syn) r.tables.terminals r.tables.nts) w) := by
  obtain ⟨h1, h2, h3, h4, h5, -⟩ := C06GenEx.hyps h
  have hnum : r.tables.numSymbols = 7 :=
    of_toOption_map (f := fun r => r.tables.numSymbols) numSymbols_run h
  refine C02_generated_parse_decides_kind h names_ok spellingsOk cnames_ok h1 h2
    (by rw [ngrammarSpec_eq_ngrammarOf h spellingsOk]; exact h3) h4
    (cfg := { T := r.tables, errTerm := 0, failAt := 0 }) h5 rfl
    (fun h1' => by have := hw 1 h1'; omega)
    (fun t ht => by rw [hnum]; rcases hw t ht with rfl | rfl | rfl <;> omega) old

end C02KindEx

/-! ### D16 as a proved negative: `S : "empty" a | b ;` -/
namespace C02KindD16

/-- `S : "empty" a | b ;` — the first alternative begins with the STRING LITERAL `"empty"` -/
def syn : List SProd := [
  { head := "S", body := [⟨.strLit, "empty"⟩, ⟨.tokId, "a"⟩] },
  { head := "S", body := [⟨.tokId, "b"⟩] } ]

def ids : List String := ["a", "b"]

/-- as written: `S' : S ;  S : empty a | b` with the terminals `empty a b` = 2 3 4 -/
def Gspec : NGrammar := { prods := #[(0, [Sym.nt 1]), (1, [Sym.t 2, Sym.t 3]), (1, [Sym.t 4])] }
/-- as the generator reads it: `S' : S ;  S : ε | b` -/
def Gof : NGrammar := { prods := #[(0, [Sym.nt 1]), (1, []), (1, [Sym.t 4])] }

theorem spec_eq : ngrammarSpec (augment syn) ["INVALID", "␚", "empty", "a", "b"] ["S'", "S"] =
    Gspec :=
  NGrammar.ext_prods (by decide +kernel)

theorem of_eq : ngrammarOf (augment syn) ["INVALID", "␚", "empty", "a", "b"] ["S'", "S"] =
    Gof :=
  NGrammar.ext_prods (by decide +kernel)

structure Facts where
  nStates : Nat
  conflicts : Nat
  terminals : List String
  nts : List String
  action : List (List (Option Act))
  kindsTotal : Bool
  noRecovery : Bool
  acceptsEmpty : Bool                            -- outcome on `[]` is `accept`
  errOnEmptyA : Option (Nat × Nat × List Nat × Nat)   -- the syntax error on `empty a`
deriving DecidableEq

def facts (r : LRResult) : Facts :=
  { nStates := r.states.size, conflicts := r.tables.conflictStates,
    terminals := r.tables.terminals, nts := r.tables.nts,
    action := r.tables.action.toList.map (·.toList),
    kindsTotal := Gocc.kindsTotal r.tables,
    noRecovery := r.tables.canRecover.toList.all (fun b => !b),
    acceptsEmpty :=
      match (parse { T := r.tables, errTerm := 0, failAt := 0 } [] 50 default).1 with
      | .accept _ => true
      | _ => false,
    errOnEmptyA :=
      C02GenEx.errOf (parse { T := r.tables, errTerm := 0, failAt := 0 } [2, 3] 50 default).1 }

/-- kernel evaluation of the generator model and of the generated parser: 3 states, no conflict, no
    recovery state; state 0 REDUCES by `S : "empty" a` (production 1, popping 0 symbols) on end of
    input and has no action on the terminal `empty` (column 2); `[]` is accepted; on `empty a` the
    parser stops with a syntax error at token 0 (type 2 = `empty`), expecting end of input or `b` -/
theorem run : (genParser syn ids).toOption.map facts =
    some { nStates := 3, conflicts := 0, terminals := ["INVALID", "␚", "empty", "a", "b"],
           nts := ["S'", "S"],
           action := [[none, some (.reduce 1), none, none, some (.shift 2)],
                      [none, some .accept, none, none, none],
                      [none, some (.reduce 2), none, none, none]],
           kindsTotal := true, noRecovery := true, acceptsEmpty := true,
           errOnEmptyA := some (0, 2, [1, 4], 0) } := by
  decide +kernel

/-- the empty input is NOT a sentence of the grammar as written -/
theorem nil_not_sentence : ¬ NSentence Gspec [] := by
  intro h
  obtain ⟨p, hp, hh, hb⟩ := NSentence.inv (A := 1) rfl h
  have hsz : Gspec.prods.size = 3 := rfl
  rw [hsz] at hp
  match p, hp, hh, hb with
  | 1, _, _, hb =>
    obtain ⟨_, h', -⟩ := NDerives.t_inv (a := 2) (α := [Sym.t 3]) hb
    cases h'
  | 2, _, _, hb =>
    obtain ⟨_, h', -⟩ := NDerives.t_inv (a := 4) (α := []) hb
    cases h'

/-- `empty a` (token types 2 3) IS a sentence of the grammar as written: `S' ⇒ S ⇒ empty a` -/
theorem emptyA_sentence : NSentence Gspec [2, 3] :=
  NDerives.nt (G := Gspec) (p := 1) (α := []) (u := [2, 3]) (v := []) (by decide)
    (.term (.term .nil)) .nil

/-- … whereas in the generator's reading the empty input IS a sentence -/
theorem nil_sentence_of : NSentence Gof [] :=
  NDerives.nt (G := Gof) (p := 1) (α := []) (u := []) (v := []) (by decide) .nil .nil

end C02KindD16

open C02KindD16 in
/-- KNOWN FINDING D16 of /verif/known_findings.json (`D16-literal-empty-error`; replay
    corpus/C02/d16_literal_empty.json) as a proved negative: `S : "empty" a | b ;`, token ids `a b`.

    Every side condition of the generator-level theorems over `ngrammarOf` holds (`NamesOk`,
    `CompleteNamesOk`; the generator succeeds with 3 states, no conflict, no recovery state, total
    actions) — but `SpellingsOk` fails (clause `emptyAlone`), the grammar as written differs from the
    grammar the generator computes with, and the GENERATED PARSER IS WRONG for the grammar as written:
    it accepts the empty input, which is not a sentence, and rejects (for every fuel, from every
    previous state) `empty a` = token types `2 3` of the generated token map, which is a sentence
    (derivation `C02KindD16.emptyA_sentence`).  So `SpellingsOk` cannot be dropped from
    `C02_generated_accept_iff_sentence_kind` / `C02_generated_parse_decides_kind`, and gocc does not
    refuse this grammar (`semCheck` passes: `C02_D16_not_refused`). -/
theorem C02_D16_literal_empty_violates :
    NamesOk syn ids ∧ CompleteNamesOk syn ∧ ¬ SpellingsOk syn ids ∧
    ∃ r, genParser syn ids = .ok r ∧
      r.states.size = 3 ∧ r.tables.conflictStates = 0 ∧
      (∀ s : Nat, r.tables.canRecover[s]?.getD false = false) ∧
      ActsOk { T := r.tables, errTerm := 0, failAt := 0 } ∧
      r.tables.terminals = ["INVALID", "␚", "empty", "a", "b"] ∧ r.tables.nts = ["S'", "S"] ∧
      ngrammarSpec (augment syn) r.tables.terminals r.tables.nts ≠
        ngrammarOf (augment syn) r.tables.terminals r.tables.nts ∧
      -- accepts a non-sentence
      (∀ old, ∃ fuel res,
        (parse { T := r.tables, errTerm := 0, failAt := 0 } [] fuel old).1 = Outcome.accept res) ∧
      ¬ NSentence (ngrammarSpec (augment syn) r.tables.terminals r.tables.nts) [] ∧
      -- rejects a sentence
      (∀ old fuel res,
        (parse { T := r.tables, errTerm := 0, failAt := 0 } [2, 3] fuel old).1 ≠
          Outcome.accept res) ∧
      (∀ old, (parse { T := r.tables, errTerm := 0, failAt := 0 } [2, 3] 50 old).1 =
        Outcome.synErr 0 2 [1, 4] 0) ∧
      NSentence (ngrammarSpec (augment syn) r.tables.terminals r.tables.nts) [2, 3] := by
  refine ⟨by decide +kernel, by decide +kernel, by decide +kernel, ?_⟩
  obtain ⟨r, h, hf⟩ := exists_of_toOption_map run
  simp only [facts, Facts.mk.injEq] at hf
  obtain ⟨f1, f2, f3, f4, -, f6, f7, f8, f9⟩ := hf
  have herr : ∀ old, (parse { T := r.tables, errTerm := 0, failAt := 0 } [2, 3] 50 old).1 =
      Outcome.synErr 0 2 [1, 4] 0 := fun old => C02GenEx.errOf_eq f9
  refine ⟨r, h, f1, f2, noRecovery_of_all f7, C02_actsOk_of_kindsTotal rfl f6, f3, f4, ?_, ?_, ?_,
    ?_, herr, ?_⟩
  · rw [f3, f4, spec_eq, of_eq]
    exact fun h => absurd (congrArg NGrammar.prods h) (by decide)
  · intro old
    split at f8
    · rename_i res hres
      exact ⟨50, res, hres⟩
    · cases f8
  · rw [f3, f4, spec_eq]
    exact nil_not_sentence
  · intro old fuel res hacc
    rw [C02_parse_det (by rw [hacc]; intro hh; cases hh) (f2 := 50)
      (by rw [herr old]; intro hh; cases hh), herr old] at hacc
    cases hacc
  · rw [f3, f4, spec_eq]
    exact emptyA_sentence

/-- gocc's front end does not refuse the grammar of D16: with the lexical part `a : 'a' ; b : 'b'`
    (as written: the token for the literal is added by `UpdateStringLitTokens` only after the checks) `semCheck` passes, and
    every assumption of `spellingsOk_of_semCheck` but `NoLiteralEmptyFirst` holds -/
theorem C02_D16_not_refused :
    semCheck { lex := [⟨.tok, "a", .mk [.mk [.lit 97]], false⟩, ⟨.tok, "b", .mk [.mk [.lit 98]], false⟩],
               syn := C02KindD16.syn } = .ok () ∧
    KindsOk { lex := [⟨.tok, "a", .mk [.mk [.lit 97]], false⟩, ⟨.tok, "b", .mk [.mk [.lit 98]], false⟩],
              syn := C02KindD16.syn } ∧
    TokIdsNotHeads C02KindD16.syn ∧ ¬ NoLiteralEmptyFirst C02KindD16.syn := by
  decide +kernel

end Gocc
