import Gocc.Proofs.ParseTermRec
import Gocc.Props.C07Gen
import Gocc.Props.C02Term
/-
C07 (termination) — "Parse returns (never loops) on every input", for grammars WITH error
alternatives: the parser with error recovery (`Parser.Error`, recovery states, error terminal)
ends on every input.

The model's `parseLoop` has a fuel parameter, the Go loop has none; `Outcome.outOfFuel` stands for
"not finished after `fuel` iterations".  `C02_parse_terminates` (Props/C02Term.lean) covers tables
without recovery states.  Here the hypothesis "no recovery state" is dropped.

Quantifiers of `C07_parse_terminates`: every numbered grammar `G` (the error alternatives are
productions of `G`, `error` an ordinary terminal), every `T : PTables`, certificates with
`firstOk G fc`, `complete G T fc c`, `validItems G T c vc` (none of the validators reads
`T.canRecover`), every configuration `cfg` with `cfg.T = T` whose semantic actions never fail
(`ActsOk cfg`) — ANY recovery flags `T.canRecover`, ANY error terminal `cfg.errTerm` —, every
token-type sequence `w` (no side condition), every previous parser state `old`:

      ∃ fuel o ps, o ≠ outOfFuel ∧ ∀ fuel' ≥ fuel, parse cfg w fuel' old = (o, ps).

NOT needed: `RecWF` (a flagged state that does not shift `error` makes `Error` panic, which ends
the parse — `C07_no_panic_in_recovery` excludes that panic under `RecWF`), `1 ∉ w`, `0 ∉ w`,
token types inside the tables, `safe` / `safeEnds`.

Proof (Proofs/ParseTermRV.lean, ParseTermRec.lean).  The run is cut into PHASES:
the first starts in the initial configuration, every later one in the configuration in which
`Error` resumes — its top state (entered by shifting `error` on a prefix of the old stack) has an
action on the look-ahead (`recover_true`).  Inside a phase the parser runs as the parser without
recovery (`C07_first_failed_lookup`); the phase ends when that parser stops; if it stops at a
failed lookup, `Error` is called, gives up (Parse returns) or starts the next phase.
  (1) A phase ends.  Its start configuration is in general NOT reachable by the parser without
      recovery on the real input, but its stack is a path of the automaton, and every such stack
      whose top state has an action on a terminal `t` is reached by the parser without recovery on
      some VIRTUAL input `u0`, with `t` as look-ahead (`VStk.rv`: the induction that proves the
      validity of LR(1) items, with the parser's run added — the run follows ANY derivation, by the
      key lemma `run_item` of the completeness proof).  On `u0 ++ (real input from the look-ahead
      on)` the parser without recovery terminates (`C02_parse_terminates`), and the real phase runs
      in lock-step with that run, since the control flow only depends on the stack of states and
      the token types ahead (`sim_run`; here `ActsOk` is used).
  (2) Between two calls of `Error` a token is scanned: the first look-ahead `t` of a phase has an
      action, the virtual input is chosen such that `u0 t …` is a sentence (the one that justifies
      the item behind the action), and the parser without recovery is not stuck on a prefix of a
      sentence with the next token of that sentence as look-ahead (`stuck_ext`) — it stops only
      after it has shifted `t`.  `Error` never un-scans, and nothing is scanned
      behind the end of the input (`RecScanInv`); so there are at most `|w| + 1` phases after
      the first.
-/
namespace Gocc

/-- (C07-term) with error recovery, whatever states are flagged and whatever terminal is the error
    terminal: on every input the loop of `Parse` ends, with one answer for every sufficiently
    large fuel -/
theorem C07_parse_terminates {G : NGrammar} {T : PTables} {fc : FirstCert} {c : CertLA}
    {vc : VCert} (hf : firstOk G fc = true) (hc : complete G T fc c = true)
    (hv : validItems G T c vc = true) {cfg : PCfg} (hA : ActsOk cfg) (hT : cfg.T = T)
    (w : List Nat) (old : PState) :
    ∃ fuel o ps, o ≠ Outcome.outOfFuel ∧
      ∀ fuel', fuel ≤ fuel' → parse cfg w fuel' old = (o, ps) := by
  subst hT
  have hc' : complete G cfg.T.noRecovery fc c = true := hc
  have hv' : validItems G cfg.T.noRecovery c vc = true := hv
  obtain ⟨o, ps, hH⟩ := ParseTerm.rec_terminates hf hc' hv' hA w
  obtain ⟨n, hn⟩ := hH.parseLoop
  exact ⟨n, o, ps, hH.ne_outOfFuel, hn⟩

/-- … and with well-formed recovery flags the answer is not one of the two run-time errors of the
    recovery code (`C07_no_panic_in_recovery`) -/
theorem C07_parse_terminates_no_recovery_panic {G : NGrammar} {T : PTables} {fc : FirstCert}
    {c : CertLA} {vc : VCert} (hf : firstOk G fc = true) (hc : complete G T fc c = true)
    (hv : validItems G T c vc = true) {cfg : PCfg} (hA : ActsOk cfg) (hT : cfg.T = T)
    (hwf : RecWF cfg.T cfg.errTerm) (w : List Nat) (old : PState) :
    ∃ fuel o ps, o ≠ Outcome.outOfFuel ∧
      o ≠ Outcome.panic "interface conversion: parser.action is not parser.shift" ∧
      o ≠ Outcome.panic "Error recovery led to invalid action" ∧
      ∀ fuel', fuel ≤ fuel' → parse cfg w fuel' old = (o, ps) := by
  obtain ⟨fuel, o, ps, hne, hn⟩ := C07_parse_terminates hf hc hv hA hT w old
  have h := hn fuel (Nat.le_refl _)
  have hp := C07_no_panic_in_recovery hwf w fuel (initPS w)
  rw [parse_eq] at h
  rw [h] at hp
  exact ⟨fuel, o, ps, hne, hp.1, hp.2, hn⟩

/-- (C07-term, generated) for every conflict-free grammar whose body non-terminals are productive
    — error alternatives allowed —: the parser running the GENERATED tables, with the generated
    recovery flags, ends on every input -/
theorem C07_generated_parse_terminates {syn : List SProd} {tokIds : List String} {r : LRResult}
    (h : genParser syn tokIds = .ok r) (hn : NamesOk syn tokIds) (hx : CompleteNamesOk syn)
    (hsz : r.states.size ≤ 4096) (hc : r.tables.conflictStates = 0)
    (hp : bodyNTsProductive (ngrammarOf (augment syn) r.tables.terminals r.tables.nts) = true)
    {cfg : PCfg} (hA : ActsOk cfg) (hT : cfg.T = r.tables) (w : List Nat) (old : PState) :
    ∃ fuel o ps, o ≠ Outcome.outOfFuel ∧
      ∀ fuel', fuel ≤ fuel' → parse cfg w fuel' old = (o, ps) :=
  C07_parse_terminates (C02_genParser_complete syn tokIds r h hn hsz hc hx).1
    (C02_genParser_complete syn tokIds r h hn hsz hc hx).2
    (C06_genParser_validItems syn tokIds r h hn hx hsz hp) hA hT w old

/-! ### Non-vacuity: `L : St | L semi St ; St : id | error` (`C07GenEx`), two recovery states -/
namespace C07TermEx
open C07GenEx

theorem productive : bodyNTsProductive Gex = true := by decide +kernel

/-- THROUGH THE GENERATOR-LEVEL THEOREM: the generated parser of the grammar with the error
    alternative — to which `C02_generated_parse_terminates` does not apply
    (`C07GenEx.old_theorems_do_not_apply`) — ends on EVERY input -/
theorem terminates (r : LRResult) (h : genParser syn ids = .ok r) (w : List Nat) (old : PState) :
    ∃ fuel o ps, o ≠ Outcome.outOfFuel ∧
      ∀ fuel', fuel ≤ fuel' → parse (cfgOf r) w fuel' old = (o, ps) := by
  obtain ⟨hsz, hc, hA⟩ := hyps h
  exact C07_generated_parse_terminates h names_ok cnames_ok hsz hc
    (by rw [g_eq h]; exact productive) hA rfl w old

/-- on `id id semi id` (a separator is missing; the run calls `Error`, which recovers) the answer
    that holds for all large fuel is the `accept` which the evaluation at fuel 40 shows
    (`C07GenEx.bad_accepted`) -/
example (r : LRResult) (h : genParser syn ids = .ok r) :
    ∃ fuel res ps, ∀ fuel', fuel ≤ fuel' →
      parse (cfgOf r) bad fuel' default = (Outcome.accept res, ps) := by
  obtain ⟨fuel, o, ps, -, hn⟩ := terminates r h bad default
  obtain ⟨res, hres⟩ := bad_accepted h
  cases C02_parse_outcome hn hres (by intro h'; cases h')
  exact ⟨fuel, res, ps, hn⟩

end C07TermEx

end Gocc
