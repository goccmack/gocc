import Gocc.Proofs.LitConv
/-
C20 — Rune literal conversion agrees with the Go language specification.

Quantifier: ALL valid Go rune literals (`GoRuneLit` with `valid = true`, see
Gocc/Spec/GoRuneLit.lean): every raw Unicode scalar other than `'`, `\`, newline; the nine
named escapes; `\xhh`; `\ooo` (<= 255); `\uhhhh` (no surrogate); `\Uhhhhhhhh` (<= 0x10FFFF, no
surrogate); hex digits in either case.  No bound on anything.  `l.spell` is the byte string of
the literal including both quotes, `l.value` the code point the Go spec assigns.

`litToRune` models `util.LitToRune` (internal/util/litconv.go, used when gocc reads a grammar);
`runeValue` models `util.RuneValue` (template in internal/util/gen/golang/litconv.go, shipped in
generated code).  `Except.ok` means "returned without panicking".
-/
namespace Gocc

/-- the generator's copy returns the Go-spec value on every valid rune literal -/
theorem C20_litToRune (l : GoRuneLit) (h : l.valid = true) : litToRune l.spell = .ok l.value := by
  cases l with
  | raw c => exact litToRune_raw c h
  | named e => exact litToRune_named e
  | hex2 h1 h0 => exact litToRune_hex2 h1 h0
  | oct3 o2 o1 o0 => exact litToRune_oct3 o2 o1 o0 h
  | u4 h3 h2 h1 h0 => exact litToRune_u4 h3 h2 h1 h0 h
  | U8 h7 h6 h5 h4 h3 h2 h1 h0 => exact litToRune_U8 h7 h6 h5 h4 h3 h2 h1 h0 h

/-- the generated copy and the generator's copy are the same function on ALL byte strings
    (valid literal or not, including where both panic) -/
theorem C20_copies_agree (lit : List Nat) : runeValue lit = litToRune lit := by
  unfold runeValue litToRune
  rw [gEscapeCharVal_eq]

/-- the generated copy returns the Go-spec value on every valid rune literal -/
theorem C20_runeValue (l : GoRuneLit) (h : l.valid = true) : runeValue l.spell = .ok l.value := by
  rw [C20_copies_agree]; exact C20_litToRune l h

-- Non-vacuity: one concrete valid literal per constructor; its spelling is the expected byte
-- string, it is valid, its spec value is the expected code point, and both functions return it.
section
open GoRuneLit
private def hx (v : Fin 16) : HexDigit := ⟨v, false⟩   -- 0-9 a-f
private def hX (v : Fin 16) : HexDigit := ⟨v, true⟩    -- 0-9 A-F
private def oc (v : Fin 8) : OctDigit := ⟨v⟩

-- 'a'
example : (raw 97).spell = [39, 97, 39] ∧ (raw 97).valid = true ∧ (raw 97).value = 97 := by decide
example : litToRune [39, 97, 39] = .ok 97 ∧ runeValue [39, 97, 39] = .ok 97 := ⟨rfl, rfl⟩
-- '€' (U+20AC, three bytes)
example : (raw 0x20AC).spell = [39, 226, 130, 172, 39] ∧ (raw 0x20AC).valid = true ∧
    (raw 0x20AC).value = 8364 := by decide
example : litToRune [39, 226, 130, 172, 39] = .ok 8364 ∧
    runeValue [39, 226, 130, 172, 39] = .ok 8364 := ⟨rfl, rfl⟩
-- 'é' (two bytes) and '😀' (four bytes)
example : (raw 0xE9).spell = [39, 195, 169, 39] ∧ (raw 0xE9).valid = true := by decide
example : (raw 0x1F600).spell = [39, 240, 159, 152, 128, 39] ∧ (raw 0x1F600).valid = true := by decide
example : litToRune [39, 240, 159, 152, 128, 39] = .ok 0x1F600 := rfl
-- '\n'
example : (named .n).spell = [39, 92, 110, 39] ∧ (named .n).valid = true ∧
    (named .n).value = 10 := by decide
example : litToRune [39, 92, 110, 39] = .ok 10 ∧ runeValue [39, 92, 110, 39] = .ok 10 := ⟨rfl, rfl⟩
-- '\''
example : (named .quote).spell = [39, 92, 39, 39] ∧ (named .quote).value = 39 := by decide
-- '\x41'
example : (hex2 (hx 4) (hx 1)).spell = [39, 92, 120, 52, 49, 39] ∧
    (hex2 (hx 4) (hx 1)).valid = true ∧ (hex2 (hx 4) (hx 1)).value = 65 := by decide
example : litToRune [39, 92, 120, 52, 49, 39] = .ok 65 ∧
    runeValue [39, 92, 120, 52, 49, 39] = .ok 65 := ⟨rfl, rfl⟩
-- '\xfF'
example : (hex2 (hx 15) (hX 15)).spell = [39, 92, 120, 102, 70, 39] ∧
    (hex2 (hx 15) (hX 15)).value = 255 := by decide
-- '\101'
example : (oct3 (oc 1) (oc 0) (oc 1)).spell = [39, 92, 49, 48, 49, 39] ∧
    (oct3 (oc 1) (oc 0) (oc 1)).valid = true ∧ (oct3 (oc 1) (oc 0) (oc 1)).value = 65 := by decide
example : litToRune [39, 92, 49, 48, 49, 39] = .ok 65 ∧
    runeValue [39, 92, 49, 48, 49, 39] = .ok 65 := ⟨rfl, rfl⟩
-- '€' (mixed-case hex)
example : (u4 (hx 2) (hx 0) (hx 10) (hX 12)).spell = [39, 92, 117, 50, 48, 97, 67, 39] ∧
    (u4 (hx 2) (hx 0) (hx 10) (hX 12)).valid = true ∧
    (u4 (hx 2) (hx 0) (hx 10) (hX 12)).value = 8364 := by decide
example : litToRune [39, 92, 117, 50, 48, 97, 67, 39] = .ok 8364 ∧
    runeValue [39, 92, 117, 50, 48, 97, 67, 39] = .ok 8364 := ⟨rfl, rfl⟩
-- '\U0001F600'
example : (U8 (hx 0) (hx 0) (hx 0) (hx 1) (hX 15) (hx 6) (hx 0) (hx 0)).spell =
      [39, 92, 85, 48, 48, 48, 49, 70, 54, 48, 48, 39] ∧
    (U8 (hx 0) (hx 0) (hx 0) (hx 1) (hX 15) (hx 6) (hx 0) (hx 0)).valid = true ∧
    (U8 (hx 0) (hx 0) (hx 0) (hx 1) (hX 15) (hx 6) (hx 0) (hx 0)).value = 128512 := by decide
example : litToRune [39, 92, 85, 48, 48, 48, 49, 70, 54, 48, 48, 39] = .ok 128512 ∧
    runeValue [39, 92, 85, 48, 48, 48, 49, 70, 54, 48, 48, 39] = .ok 128512 := ⟨rfl, rfl⟩

-- `valid` discriminates: shapes the Go spec rejects are not valid
-- (''' , '\' , newline, a surrogate, '\777', '\uD800', '\U00110000')
example : (raw 39).valid = false ∧ (raw 92).valid = false ∧ (raw 10).valid = false ∧
    (raw 0xD800).valid = false ∧ (raw 0x110000).valid = false ∧
    (oct3 (oc 7) (oc 7) (oc 7)).valid = false ∧
    (u4 (hX 13) (hx 8) (hx 0) (hx 0)).valid = false ∧
    (U8 (hx 0) (hx 0) (hx 1) (hx 1) (hx 0) (hx 0) (hx 0) (hx 0)).valid = false := by decide
end

end Gocc
