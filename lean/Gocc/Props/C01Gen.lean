import Gocc.Proofs.LexGenCorrect
/-
C01 (tie between the halves), proved for all lexical parts without references to
regular definitions: the automaton the lexer generator builds (`genLexer`, model of
`internal/lexer/items`) and the reference automaton (`refDfa`, Gocc/Spec/LexRef.lean) are bisimilar
on every rune `utf8.DecodeRune` can return, hence `Scan` returns the same token (type, literal,
position) and leaves the same cursor with either table, on every byte string and from every cursor.
For a single grammar, with or without references, the verified checker `equivCheck`
(Gocc/Props/C01Equiv.lean) decides the same tie at run time.

Quantifier: ALL lists of lexical productions `prods` (any kinds `tok` / `ign` / `reg`, any ids —
duplicate or empty ids included —, any `strLit` flags, any patterns including empty alternatives,
empty groups, reversed ranges `'z'-'a'`, runes outside `[0, 0x10FFFF]`), ALL maps `f` from actions to
`(Accept, isIgnore)` pairs.

Hypotheses (all decidable):
  * `h   : genLexer prods = .ok states` — the generator succeeded (it is total without references;
           the hypothesis only names its result);
  * `hn  : noRefs prods = true` — no `LTerm.ref` anywhere in the patterns.  NEEDED: with references
           the statement is false (known finding D1: gocc shares regular definitions between use sites
           instead of expanding them); `c01gD1_equivCheck_false` below is a three-production lexical
           part on which the verified checker evaluates to `false` and the two scans differ on `aay`;
  * `hsz : states.size < 100000` — the fuel of `lexLoop` was not exhausted (otherwise the model stops
           with unexpanded states; the Go loop has no such bound);
  * `hrs : (refDfa prods).states.size < 20000` — the fuel of `refDfaLoop` was not exhausted.
NOT needed (examined, see the examples at the end): well-formed ranges (a reversed range matches no
class in `Item.match` and no rune in `termHas`: both sides ignore it), runes in `[0, 0x10FFFF]` in
literals (the classes of the generator are exact, the reference's elementary intervals only have to
separate the runes in `[0, 0x10FFFF]`), distinct production ids, restrictions on `strLit` or on
never-referenced `reg` productions (they are in no start set on either side).

The proof is in Gocc/Proofs/LexGenCorrect*.lean; its main steps are restated below under `C01_` names.
-/
namespace Gocc

open LexGenC

/-! ### without references the closure operations of the generator do nothing -/

/-- `ItemList.Closure` is the identity, for every item list -/
theorem C01_closureL_id {prods : List LProd} (hn : noRefs prods = true) (l : List LItem) :
    closureL { prods := prods.toArray } l = .ok l :=
  closureL_id (noRefC_of_noRefs hn) l

/-- `ItemSet.dependentsClosure` is the identity, for every pair of item lists -/
theorem C01_depClosure_id {prods : List LProd} (hn : noRefs prods = true) (prev l : List LItem) :
    depClosure { prods := prods.toArray } prev l = l :=
  depClosure_id (noRefC_of_noRefs hn) prev l

/-- `ItemSet.Next(rng)` is the deduplicated union of the `moved` items of the items whose expected
    term matches the class -/
theorem C01_nextSet_eq {prods : List LProd} (hn : noRefs prods = true) (prev : List LItem) (c : CR) :
    nextSet { prods := prods.toArray } prev c = .ok (moveSet { prods := prods.toArray } prev c) ∧
    (moveSet { prods := prods.toArray } prev c).Nodup ∧
    ∀ y, y ∈ moveSet { prods := prods.toArray } prev c ↔
      ∃ i ∈ prev, ∃ t, LexCtx.expected { prods := prods.toArray } i = some t ∧
        termMatch t c = true ∧ y ∈ moved { prods := prods.toArray } i :=
  ⟨nextSet_eq (noRefC_of_noRefs hn) prev c, nodup_moveSet _ prev c, fun _ => mem_moveSet⟩

/-- `ItemSet.NextDot()` is the deduplicated union of the `moved` items of the items expecting `.` -/
theorem C01_nextDot_eq {prods : List LProd} (hn : noRefs prods = true) (prev : List LItem) :
    nextDot { prods := prods.toArray } prev = .ok (dotSet { prods := prods.toArray } prev) ∧
    (dotSet { prods := prods.toArray } prev).Nodup ∧
    ∀ y, y ∈ dotSet { prods := prods.toArray } prev ↔
      ∃ i ∈ prev, LexCtx.expected { prods := prods.toArray } i = some .dot ∧
        y ∈ moved { prods := prods.toArray } i :=
  ⟨nextDot_eq (noRefC_of_noRefs hn) prev, nodup_dotSet _ prev, fun _ => mem_dotSet⟩

/-! ### the transition lemma of one state

`SetRel items S`: the item list and the position list are the same set under `i ↦ [i]`. -/

/-- the same in the form "state built from `items`" / "reference step on `items.map ([·])`": for a
    duplicate-free list of dotted positions (`Pos`; every item list of the generator is one) and
    every rune `r`: if `r` lies in the class `c` of the state, `Next(c)` is `xStep` on `r`; if it lies
    in no class, `NextDot()` is -/
theorem C01_step_map {prods : List LProd} (hn : noRefs prods = true) {items : List LItem}
    (hnd : items.Nodup) (hpos : ∀ i ∈ items, Pos { prods := prods.toArray } i) (r : Int) :
    (∀ c ∈ (symbolClasses { prods := prods.toArray } items).1, c.lo ≤ r → r ≤ c.hi →
      SetRel (moveSet { prods := prods.toArray } items c)
        (xStep { prods := prods.toArray } (items.map fun i => [i]) r)) ∧
    ((∀ c ∈ (symbolClasses { prods := prods.toArray } items).1, ¬ (c.lo ≤ r ∧ r ≤ c.hi)) →
      SetRel (dotSet { prods := prods.toArray } items)
        (xStep { prods := prods.toArray } (items.map fun i => [i]) r)) := by
  have hrel : SetRel items (items.map fun i => [i]) := fun x =>
    List.mem_map.trans ⟨fun ⟨i, hi, e⟩ => ⟨i, hi, e.symm⟩, fun ⟨i, hi, e⟩ => ⟨i, hi, e.symm⟩⟩
  have hlen : (items.map fun i => ([i] : XPos)).length ≤ LexCtx.fuel { prods := prods.toArray } := by
    rw [List.length_map]; exact length_le_fuel_of_pos hnd hpos
  exact ⟨fun c hc hlo hhi => step_class (noRefC_of_noRefs hn) hrel hlen hc hlo hhi,
    fun hno => step_dot (noRefC_of_noRefs hn) hrel hlen hno⟩

/-- the start states are the same set -/
theorem C01_start_rel {prods : List LProd} (hn : noRefs prods = true) :
    SetRel (itemsSet0 { prods := prods.toArray }) (xStart { prods := prods.toArray }) :=
  start_rel (noRefC_of_noRefs hn)

/-! ### actions

`ItemSet.Action()` is NOT a function of the set of completed items on arbitrary lists (a completed
string-literal production replaces the current choice unconditionally, so the last one in list
order wins; see `c01g_action_order_dependent`).  It is one on lists ordered by production index,
and all item lists of the generator and all position lists of the reference are so ordered. -/

theorem C01_lexAction_congr (C : LexCtx) {l1 l2 : List LItem} (h1 : ProdSorted l1)
    (h2 : ProdSorted l2) (hq : ∀ i, qual C i = true → (i ∈ l1 ↔ i ∈ l2)) :
    lexAction C l1 = lexAction C l2 :=
  lexAction_congr h1 h2 hq

theorem C01_act_agree (C : LexCtx) {items : List LItem} {S : List XPos} (hrel : SetRel items S)
    (hs : ProdSorted items) (hS : GoodX C S) : lexAction C items = xVerdict C S :=
  act_agree hrel hs hS

/-- the fold of `Action()` depends on the order: two completed string-literal productions -/
theorem c01g_action_order_dependent :
    let C : LexCtx := { prods := #[
      { kind := .tok, id := "a", pat := .mk [.mk [.lit 120]], strLit := true },
      { kind := .tok, id := "b", pat := .mk [.mk [.lit 120]], strLit := true }] }
    lexAction C [⟨0, [1]⟩, ⟨1, [1]⟩] = .accept "b" ∧ lexAction C [⟨1, [1]⟩, ⟨0, [1]⟩] = .accept "a" := by
  decide +kernel

/-- what the generator has computed: every state is well-formed, state 0 is `ItemsSet0`, every
    state is expanded (each class / `.` target is `-1` for an empty successor set and otherwise the
    index of a state with the same item set) -/
theorem C01_genLexer_spec {prods : List LProd} {states : Array LState}
    (h : genLexer prods = .ok states) (hn : noRefs prods = true) (hsz : states.size < 100000) :
    GenSpec { prods := prods.toArray } states :=
  genLexer_spec h hn (Nat.le_of_lt hsz)

theorem C01_refDfa_spec {prods : List LProd} (hn : noRefs prods = true)
    (hrs : (refDfa prods).states.size < 20000) :
    RefSpec { prods := prods.toArray } (refDfa prods) (elemStarts prods) :=
  refDfa_spec hn (Nat.le_of_lt hrs)

/-- without references the generator never fails -/
theorem C01_genLexer_total {prods : List LProd} (hn : noRefs prods = true) :
    ∃ states, genLexer prods = .ok states :=
  ⟨_, genLexer_eq (noRefC_of_noRefs hn)⟩

/-- MAIN: the generated automaton and the reference automaton are bisimilar on all runes.
    The relation is explicit: the item set of the generated state and the position set of the
    reference state are the same set under `i ↦ [i]`. -/
theorem C01_genLexer_bisim (prods : List LProd) (states : Array LState)
    (h : genLexer prods = .ok states) (hn : noRefs prods = true)
    (hsz : states.size < 100000)
    (hrs : (refDfa prods).states.size < 20000)
    (f : LAct → Int × Bool) :
    let C : LexCtx := { prods := prods.toArray }
    let M : MDfa := { states := states, acts := states.map fun s => f (lexAction C s.items) }
    let R : RDfa := { dfa := refDfa prods, acts := (refDfa prods).states.map fun S => f (xVerdict C S) }
    ∃ Rel, BisimOn IsRune M.tables R.tables Rel :=
  ⟨GRel states (refDfa prods), genLexer_bisimOn h hn (Nat.le_of_lt hsz) (Nat.le_of_lt hrs) f⟩

/-- MAIN, consequence: `Scan` with the generated tables and `Scan` with the reference tables are the
    same function -/
theorem C01_genLexer_scan_eq_ref (prods : List LProd) (states : Array LState)
    (h : genLexer prods = .ok states) (hn : noRefs prods = true)
    (hsz : states.size < 100000)
    (hrs : (refDfa prods).states.size < 20000)
    (f : LAct → Int × Bool) :
    let C : LexCtx := { prods := prods.toArray }
    let M : MDfa := { states := states, acts := states.map fun s => f (lexAction C s.items) }
    let R : RDfa := { dfa := refDfa prods, acts := (refDfa prods).states.map fun S => f (xVerdict C S) }
    ∀ (src : List Nat) (st : LexSt), scan M.tables src st = scan R.tables src st := by
  intro C M R src st
  exact bisimOn_scan_eq_of decodeRune_isRune (genLexer_bisimOn h hn (Nat.le_of_lt hsz) (Nat.le_of_lt hrs) f) src st

/-- ... and so are the token streams -/
theorem C01_genLexer_scanN_eq_ref (prods : List LProd) (states : Array LState)
    (h : genLexer prods = .ok states) (hn : noRefs prods = true)
    (hsz : states.size < 100000)
    (hrs : (refDfa prods).states.size < 20000)
    (f : LAct → Int × Bool) :
    let C : LexCtx := { prods := prods.toArray }
    let M : MDfa := { states := states, acts := states.map fun s => f (lexAction C s.items) }
    let R : RDfa := { dfa := refDfa prods, acts := (refDfa prods).states.map fun S => f (xVerdict C S) }
    ∀ (src : List Nat) (k : Nat) (st : LexSt), scanN M.tables src k st = scanN R.tables src k st := by
  intro C M R src k st
  exact scanN_eq_of_scan_eq (C01_genLexer_scan_eq_ref prods states h hn hsz hrs f src) k st

/-- `Array.map` is defined by well-founded recursion and does not reduce by `decide`; this is the
    form that does (used only by the closed examples below) -/
theorem c01g_map_eq {α β : Type} (a : Array α) (f : α → β) : a.map f = (a.toList.map f).toArray := by
  apply Array.toList_inj.1; simp

/-! ### Non-vacuity

```
id   : 'a'-'z' { 'a'-'z' } ;      two tokens with overlapping ranges,
x    : 'c'-'f' . ;                a `.`,
!ws  : ' ' ;                      an ignored token,
"if" : 'i' 'f' ;                  one string-literal production (added by `UpdateStringLitTokens`)
```
-/

def c01gLex : List LProd :=
  [ { kind := .tok, id := "id",
      pat := .mk [.mk [.rng 97 122, .rep (.mk [.mk [.rng 97 122]])]] },
    { kind := .tok, id := "x", pat := .mk [.mk [.rng 99 102, .dot]] },
    { kind := .ign, id := "ws", pat := .mk [.mk [.lit 32]] },
    { kind := .tok, id := "if", pat := .mk [.mk [.lit 105, .lit 102]], strLit := true } ]

def c01gStates : Array LState :=
  match genLexer c01gLex with
  | .ok s => s
  | .error _ => #[]

theorem c01g_noRefs : noRefs c01gLex = true := by decide +kernel

theorem c01g_gen : genLexer c01gLex = .ok c01gStates := by
  obtain ⟨s, hs⟩ := C01_genLexer_total c01g_noRefs
  simp only [c01gStates, hs]

theorem c01g_hsz : c01gStates.size < 100000 := by decide +kernel

/-- the elementary interval starts of the example (`mergeSort` does not reduce in the kernel) -/
theorem c01g_elemStarts : elemStarts c01gLex = [0, 32, 33, 97, 99, 102, 103, 105, 106, 123] :=
  elemStarts_eq_of (by decide +kernel)

theorem c01g_hrs : (refDfa c01gLex).states.size < 20000 := by
  unfold refDfa
  simp only [c01g_elemStarts]
  decide +kernel

/-- token types as `gocc` numbers them: INVALID 0, EOF 1, then the tokens; ignored: `(-1, true)` -/
def c01gAct : LAct → Int × Bool
  | .none => (0, false)
  | .accept "id" => (2, false)
  | .accept "x" => (3, false)
  | .accept "if" => (4, false)
  | .accept _ => (0, false)
  | .ignore _ => (-1, true)

/-- the main theorem on the concrete lexical part, all hypotheses discharged -/
theorem c01g_scan_eq (src : List Nat) (st : LexSt) :
    scan (MDfa.tables {
        states := c01gStates,
        acts := c01gStates.map fun s => c01gAct (lexAction { prods := c01gLex.toArray } s.items) })
      src st =
    scan (RDfa.tables {
        dfa := refDfa c01gLex,
        acts := (refDfa c01gLex).states.map fun S =>
          c01gAct (xVerdict { prods := c01gLex.toArray } S) })
      src st :=
  C01_genLexer_scan_eq_ref c01gLex c01gStates c01g_gen c01g_noRefs c01g_hsz c01g_hrs c01gAct src st

/-- e.g. the token stream of `if c.i` : "if" (string literal first), ws skipped, `x` ('c' then `.`;
    on `cd` it would be `id`, the earlier declaration), `id` -/
example : scanN (MDfa.tables {
        states := c01gStates,
        acts := c01gStates.map fun s => c01gAct (lexAction { prods := c01gLex.toArray } s.items) })
      [105, 102, 32, 99, 46, 105] 4 newLexer =
    [ { typ := 4, litStart := 0, litEnd := 2, offset := 0, line := 1, col := 1 },
      { typ := 3, litStart := 3, litEnd := 5, offset := 3, line := 1, col := 4 },
      { typ := 2, litStart := 5, litEnd := 6, offset := 5, line := 1, col := 6 },
      { typ := 1, litStart := 0, litEnd := 0, offset := 6, line := 1, col := 7 } ] := by
  rw [scanN_eq_scanNF, c01g_map_eq]; decide +kernel

/-! ### `noRefs` is needed: known finding D1

`_r : 'a' 'a' ; t1 : _r 'x' ; t2 : 'a' _r 'y' ;` — gocc shares the regular definition `_r` between
the two use sites; after `aa` the generated automaton still has the item of `t2` that has only
entered `_r`, so `aay` is lexed as `t2` (type 3) although it is not in the language of `t2`
(`a a a y`); the reference (macro expansion) returns INVALID.  The verified checker rejects. -/

def c01gD1 : List LProd :=
  [ { kind := .reg, id := "_r", pat := .mk [.mk [.lit 97, .lit 97]] },
    { kind := .tok, id := "t1", pat := .mk [.mk [.ref "_r", .lit 120]] },
    { kind := .tok, id := "t2", pat := .mk [.mk [.lit 97, .ref "_r", .lit 121]] } ]

def c01gD1Act : LAct → Int × Bool
  | .none => (0, false)
  | .accept "t1" => (2, false)
  | .accept "t2" => (3, false)
  | .accept _ => (0, false)
  | .ignore _ => (-1, true)

def c01gD1States : Array LState :=
  match genLexer c01gD1 with
  | .ok s => s
  | .error _ => #[]

def c01gD1M : MDfa :=
  { states := c01gD1States,
    acts := c01gD1States.map fun s => c01gD1Act (lexAction { prods := c01gD1.toArray } s.items) }

/-- the generator does succeed on it -/
theorem c01gD1_gen : (match genLexer c01gD1 with
    | .ok s => s.size
    | .error _ => 0) = 5 := by
  decide +kernel

theorem c01gD1_elemStarts : elemStarts c01gD1 = [0, 97, 98, 120, 121, 122] :=
  elemStarts_eq_of (by decide +kernel)

theorem c01gD1_noRefs : noRefs c01gD1 = false := by decide +kernel

/-- the generator succeeds, both automata are small, and the verified checker finds a difference -/
theorem c01gD1_equivCheck_false :
    equivCheck c01gD1M {
      dfa := refDfa c01gD1,
      acts := (refDfa c01gD1).states.map fun S =>
        c01gD1Act (xVerdict { prods := c01gD1.toArray } S) } = false := by
  unfold refDfa
  simp only [c01gD1_elemStarts, c01gD1M, c01g_map_eq]
  decide +kernel

/-- the difference is real: on `aay` the generated automaton returns `t2`, the reference INVALID -/
theorem c01gD1_scan_differs :
    (scan c01gD1M.tables [97, 97, 121] newLexer).1.typ = 3 ∧
    (scan (RDfa.tables {
      dfa := refDfa c01gD1,
      acts := (refDfa c01gD1).states.map fun S =>
        c01gD1Act (xVerdict { prods := c01gD1.toArray } S) }) [97, 97, 121] newLexer).1.typ = 0 := by
  unfold refDfa
  simp only [c01gD1_elemStarts, scan_eq_scanF, c01gD1M, c01g_map_eq]
  decide +kernel

/-! ### the side conditions that are NOT needed

```
a   : 'z'-'a' | '\u{-5}' | '\U00110050'-'\U00110118' ;   reversed range, runes outside [0, 0x10FFFF]
_r  : 'q' ;                                              a `reg` production nobody references
a   : . ( ) | 'b' | ;                                    same id again, dead end `( )`, empty alternative
```
The run-time checker rejects this lexical part (`boundsOk`: the class `[-5,-5]` of the generated
automaton begins below rune 0) although the automata ARE equivalent on all runes; the theorem
covers it. -/

def c01gOdd : List LProd :=
  [ { kind := .tok, id := "a",
      pat := .mk [.mk [.rng 122 97], .mk [.lit (-5)], .mk [.rng 1114000 1114200]] },
    { kind := .reg, id := "_r", pat := .mk [.mk [.lit 113]] },
    { kind := .tok, id := "a", pat := .mk [.mk [.dot, .grp (.mk [])], .mk [.lit 98], .mk []] } ]

def c01gOddStates : Array LState :=
  match genLexer c01gOdd with
  | .ok s => s
  | .error _ => #[]

theorem c01gOdd_noRefs : noRefs c01gOdd = true := by decide +kernel

theorem c01gOdd_gen : genLexer c01gOdd = .ok c01gOddStates := by
  obtain ⟨s, hs⟩ := C01_genLexer_total c01gOdd_noRefs
  simp only [c01gOddStates, hs]

theorem c01gOdd_elemStarts : elemStarts c01gOdd = [0, 98, 99, 113, 114, 122, 1114000] :=
  elemStarts_eq_of (by decide +kernel)

theorem c01gOdd_hsz : c01gOddStates.size < 100000 := by decide +kernel

theorem c01gOdd_hrs : (refDfa c01gOdd).states.size < 20000 := by
  unfold refDfa
  simp only [c01gOdd_elemStarts]
  decide +kernel

theorem c01gOdd_scan_eq (f : LAct → Int × Bool) (src : List Nat) (st : LexSt) :
    scan (MDfa.tables {
        states := c01gOddStates,
        acts := c01gOddStates.map fun s => f (lexAction { prods := c01gOdd.toArray } s.items) })
      src st =
    scan (RDfa.tables {
        dfa := refDfa c01gOdd,
        acts := (refDfa c01gOdd).states.map fun S => f (xVerdict { prods := c01gOdd.toArray } S) })
      src st :=
  C01_genLexer_scan_eq_ref c01gOdd c01gOddStates c01gOdd_gen c01gOdd_noRefs c01gOdd_hsz c01gOdd_hrs
    f src st

/-- ... while `equivCheck` says `false` here (its `boundsOk` precondition fails) -/
theorem c01gOdd_equivCheck_false :
    equivCheck {
        states := c01gOddStates,
        acts := c01gOddStates.map fun s => c01gAct (lexAction { prods := c01gOdd.toArray } s.items) }
      {
        dfa := refDfa c01gOdd,
        acts := (refDfa c01gOdd).states.map fun S =>
          c01gAct (xVerdict { prods := c01gOdd.toArray } S) } = false := by
  unfold refDfa
  simp only [c01gOdd_elemStarts, c01g_map_eq]
  decide +kernel

end Gocc
