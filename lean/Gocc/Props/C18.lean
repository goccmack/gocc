import Gocc.Proofs.Range
/-
C18 — Rune classes of a lexer state form an exact disjoint partition.

Quantifier: all finite sequences `rs` of closed rune intervals (any order, adjacent,
nested, overlapping, duplicate, single runes).  `classesOf rs` is the model of
`ItemSet.getSymbolClasses` (a fold of `DisjunctRangeSet.AddRange`).
Intervals with `lo > hi` add nothing (the Go loop guard `from <= to`), so the
"every added range is a union of classes" clause is stated for the non-empty ones.
-/
namespace Gocc

/-- sorted, pairwise disjoint, non-empty -/
theorem C18_sorted_disjoint_nonempty (rs : List CR) : ∃ b, WF b (classesOf rs) :=
  (classesOf_inv rs).wf

/-- the union of the classes is exactly the union of the added ranges -/
theorem C18_union_exact (rs : List CR) (x : Int) :
    (∃ c ∈ classesOf rs, c.lo ≤ x ∧ x ≤ c.hi) ↔ (∃ r ∈ rs, r.lo ≤ x ∧ x ≤ r.hi) := by
  rw [← cover_iff_mem]; exact (classesOf_inv rs).cov x

/-- every added (non-empty) range is exactly a union of classes: each class lies inside
    it or is disjoint from it -/
theorem C18_range_is_union_of_classes (rs : List CR) (r : CR) (hr : r ∈ rs) (hne : r.lo ≤ r.hi)
    (c : CR) (hc : c ∈ classesOf rs) :
    (r.lo ≤ c.lo ∧ c.hi ≤ r.hi) ∨ (c.hi < r.lo ∨ r.hi < c.lo) :=
  (classesOf_inv rs).ref r hr hne c hc

/-- each rune selects at most one transition -/
theorem C18_at_most_one_class (rs : List CR) (c d : CR) (hc : c ∈ classesOf rs)
    (hd : d ∈ classesOf rs) (x : Int) (hxc : c.lo ≤ x ∧ x ≤ c.hi) (hxd : d.lo ≤ x ∧ x ≤ d.hi) :
    c = d := by
  obtain ⟨b, h⟩ := C18_sorted_disjoint_nonempty rs
  exact WF_unique h hc hd hxc hxd

/-- an item expecting the range `r` matches a whole class or none of it:
    `Item.match` is true iff *some* rune of the class is in `r` iff *every* rune is -/
theorem C18_match_range_all_or_nothing (rs : List CR) (r : CR) (hr : r ∈ rs) (hne : r.lo ≤ r.hi)
    (c : CR) (hc : c ∈ classesOf rs) :
    (matchRange r.lo r.hi c = true ↔ ∃ x, c.lo ≤ x ∧ x ≤ c.hi ∧ r.lo ≤ x ∧ x ≤ r.hi) ∧
    (matchRange r.lo r.hi c = true ↔ ∀ x, c.lo ≤ x → x ≤ c.hi → r.lo ≤ x ∧ x ≤ r.hi) := by
  obtain ⟨b, h⟩ := C18_sorted_disjoint_nonempty rs
  have hne' := (WF_mem h c hc).2
  have := C18_range_is_union_of_classes rs r hr hne c hc
  simp only [matchRange, Bool.and_eq_true, decide_eq_true_eq]
  refine ⟨⟨fun h => ⟨c.lo, by omega⟩, fun ⟨x, hx⟩ => by omega⟩, ⟨fun h x _ _ => by omega, fun h => ?_⟩⟩
  have h1 := h c.lo (by omega) hne'
  have h2 := h c.hi hne' (by omega)
  omega

/-- the same for an item expecting the single rune `v` (added as `[v,v]`) -/
theorem C18_match_lit_all_or_nothing (rs : List CR) (v : Int) (hr : (⟨v, v⟩ : CR) ∈ rs)
    (c : CR) (hc : c ∈ classesOf rs) :
    (matchLit v c = true ↔ ∃ x, c.lo ≤ x ∧ x ≤ c.hi ∧ x = v) ∧
    (matchLit v c = true ↔ ∀ x, c.lo ≤ x → x ≤ c.hi → x = v) := by
  obtain ⟨b, h⟩ := C18_sorted_disjoint_nonempty rs
  have hx : ∀ x, (v ≤ x ∧ x ≤ v) ↔ x = v := fun x => by omega
  simpa only [matchLit_eq_matchRange (WF_mem h c hc).2, hx] using
    C18_match_range_all_or_nothing rs ⟨v, v⟩ hr (Int.le_refl v) c hc

/-- an empty interval (`lo > hi`) adds nothing -/
theorem C18_empty_adds_nothing (l : List CR) (f t : Int) (h : t < f) : addRange l f t = l :=
  addRange_empty l f t (by omega)

-- Non-vacuity: a concrete overlapping / nested / adjacent / duplicate sequence, its classes,
-- and the hypotheses of the theorems above instantiated on it.
example : classesOf [⟨97, 122⟩, ⟨99, 101⟩, ⟨48, 57⟩, ⟨122, 130⟩, ⟨99, 99⟩, ⟨58, 58⟩, ⟨99, 101⟩] =
    [⟨48, 57⟩, ⟨58, 58⟩, ⟨97, 98⟩, ⟨99, 99⟩, ⟨100, 101⟩, ⟨102, 121⟩, ⟨122, 122⟩, ⟨123, 130⟩] := by
  decide +kernel
example : (⟨99, 101⟩ : CR) ∈ [(⟨97, 122⟩ : CR), ⟨99, 101⟩] ∧ (99 : Int) ≤ 101 := by decide +kernel

end Gocc
