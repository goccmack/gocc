import Gocc.Proofs.ActionFold
/-
C12 — the `-zip` encoding of an action-table row is lossless.

Object: `encodeRow` (generator side, `GenCompActionTable`: one `(Index, Action, Amount)` triple
per non-nil action of a row, in column order; Action 0 accept, 1 reduce, 2 shift) and `decodeRow`
(generated `init()`: the triples are written into a zero row of the given width), both in
Model/ActionFold.  The row itself is what is written as a Go literal without `-zip`.

Quantifier: all rows (any width, any state numbers / production indices).
-/
namespace Gocc

/-- decoding the triples into a nil row of the same width gives back the row -/
theorem C12_zip_roundtrip (row : List (Option Act)) :
    decodeRow row.length (encodeRow row) = row :=
  decode_encodeRow row

/-- the general form: encoding from column `pre.length` on only touches the columns of `rest` -/
theorem C12_zip_roundtrip_from (pre rest : List (Option Act)) :
    (encodeRowFrom pre.length rest).foldl decodeStep
      (pre ++ List.replicate rest.length none) = pre ++ rest :=
  decode_encodeRowFrom rest pre

/-! ### non-vacuity -/

def exRow : List (Option Act) :=
  [none, some (.shift 3), none, none, some (.reduce 2), some .accept, none]

example : encodeRow exRow = [⟨1, 2, 3⟩, ⟨4, 1, 2⟩, ⟨5, 0, 0⟩] := by decide
example : decodeRow 7 [⟨1, 2, 3⟩, ⟨4, 1, 2⟩, ⟨5, 0, 0⟩] = exRow := by decide
example : decodeRow exRow.length (encodeRow exRow) = exRow := C12_zip_roundtrip exRow
/-- an all-nil row has no entries -/
example : encodeRow [none, none, none] = [] := by decide
example : decodeRow 3 [] = [none, none, none] := by decide
/-- the width matters: decoding into a narrower row drops entries (so the statement is not
    trivially true for every width) -/
example : decodeRow 4 (encodeRow exRow) ≠ exRow := by decide

end Gocc
