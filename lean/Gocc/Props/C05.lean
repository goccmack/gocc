import Gocc.Proofs.ActionFold
/-
C05 — automatic conflict resolution: shift wins, otherwise the earliest production.

Object: `foldActs : List (Option Act) → Except String (Option Act × Bool)` (Model/ActionFold),
the fold of `ResolveConflict` that `ItemSet.Action(symbol)` performs over the actions proposed by
the items of a state for one terminal (`none` = action.ERROR, `Except.error` = Go panic).
`C05_setAction_eq_foldActs` ties it to the item-set function `setAction` of Model/LR1.

Quantifier: all lists of proposed actions (no bound on length, state numbers or production
indices), in every order.

`specResolve` (Model/ActionFold) is the order-free specification: the shift if some item
proposes a shift, otherwise the reduce with the smallest production index, otherwise accept if
proposed, otherwise nothing.  `panics` (Proofs/ActionFold) = accept together with a different
action, or two different shifts; those inputs are refused in every mode (C04).
-/
namespace Gocc

/-- the fold inside `ItemSet.Action` is exactly `foldActs` over the items' proposals -/
theorem C05_setAction_eq_foldActs (C : LRCtx) (st : LRState) (sym : String) :
    setAction C st sym =
      foldActs (st.items.map fun i => itemAction C i sym ((st.next sym).getD 0)) :=
  setAction_eq_foldActs C st sym

/-- whenever generation does not panic, the table entry is the specified one -/
theorem C05_fold_is_spec {acts : List (Option Act)} {r : Option Act} {c : Bool}
    (h : foldActs acts = .ok (r, c)) : r = specResolve acts :=
  have ⟨hp, hs, _⟩ := foldActs_eq_ok_iff.mp h
  SpecP_unique hp hs (specResolve_spec acts)

/-- spelled out: a proposed shift always wins -/
theorem C05_shift_wins {acts : List (Option Act)} {r : Option Act} {c : Bool} {s : Nat}
    (h : foldActs acts = .ok (r, c)) (hs : some (Act.shift s) ∈ acts) :
    r = some (Act.shift s) :=
  have ⟨hp, hr, _⟩ := foldActs_eq_ok_iff.mp h
  SpecP_unique hp hr (by simpa [SpecP] using hs)

/-- spelled out: without a shift, the reduce with the smallest production index wins -/
theorem C05_earliest_production {acts : List (Option Act)} {r : Option Act} {c : Bool} {p : Nat}
    (h : foldActs acts = .ok (r, c)) (hns : ∀ s, some (Act.shift s) ∉ acts)
    (hp : some (Act.reduce p) ∈ acts) (hmin : ∀ q, some (Act.reduce q) ∈ acts → p ≤ q) :
    r = some (Act.reduce p) :=
  have ⟨hnp, hr, _⟩ := foldActs_eq_ok_iff.mp h
  SpecP_unique hnp hr (by simpa [SpecP] using ⟨hp, hns, hmin⟩)

/-- result, conflict flag and the panic / no-panic verdict do not depend on the order in
    which the items are visited -/
theorem C05_order_independent {acts acts' : List (Option Act)} (h : acts.Perm acts') :
    (foldActs acts).toOption = (foldActs acts').toOption := by
  rw [foldActs_toOption, foldActs_toOption, ← panics_perm h, ← competing_perm h]
  cases hp : panics acts with
  | true => rfl
  | false => simp [specResolve_perm h hp]

/-- an entry for which only one action is proposed is that action, without conflict -/
theorem C05_no_competition {acts : List (Option Act)} {x : Act}
    (h : ∀ a ∈ acts, a = none ∨ a = some x) (hx : some x ∈ acts) :
    foldActs acts = .ok (some x, false) := by
  refine foldActs_eq_ok_iff.mpr ⟨?_, ?_, ?_⟩
  · unfold PanicsP; grind
  · cases x <;> simp only [SpecP] <;> grind
  · unfold CompP; grind

/-- an entry for which nothing is proposed stays empty (error entry), without conflict -/
theorem C05_no_action {acts : List (Option Act)} (h : ∀ a ∈ acts, a = none) :
    foldActs acts = .ok (none, false) := by
  refine foldActs_eq_ok_iff.mpr ⟨?_, ?_, ?_⟩
  · unfold PanicsP; grind
  · simp only [SpecP]; grind
  · unfold CompP; grind

/-! ### non-vacuity -/

/-- shift/reduce/reduce competition: the shift wins, a conflict is recorded -/
example : foldActs [some (.reduce 3), none, some (.shift 7), some (.reduce 1)] =
    .ok (some (.shift 7), true) := by decide
example : specResolve [some (.reduce 3), none, some (.shift 7), some (.reduce 1)] =
    some (.shift 7) := by decide

/-- reduce/reduce: the earliest production wins, whatever the order -/
example : foldActs [some (.reduce 3), some (.reduce 1), none, some (.reduce 2)] =
    .ok (some (.reduce 1), true) := by decide
example : foldActs [some (.reduce 2), some (.reduce 3), none, some (.reduce 1)] =
    .ok (some (.reduce 1), true) := by decide
example : specResolve [some (.reduce 3), some (.reduce 1), none, some (.reduce 2)] =
    some (.reduce 1) := by decide

/-- the same through the theorems -/
example : ∀ r c, foldActs [some (.reduce 3), none, some (.shift 7), some (.reduce 1)] = .ok (r, c) →
    r = some (.shift 7) := fun _ _ h => C05_shift_wins h (by decide)

/-- a permutation of the first list gives the same verdict -/
example : (foldActs [some (.reduce 1), some (.shift 7), none, some (.reduce 3)]).toOption =
    (foldActs [some (.reduce 3), none, some (.shift 7), some (.reduce 1)]).toOption := by decide

/-- no competition: repeated identical proposals and error entries only -/
example : foldActs [none, some (.reduce 4), none, some (.reduce 4)] =
    .ok (some (.reduce 4), false) := C05_no_competition (by decide) (by decide)
example : foldActs [none, none] = .ok (none, false) := by decide
example : foldActs [some .accept, some .accept] = .ok (some .accept, false) := by decide

/-- `specResolve` alone is order dependent on lists with two different shifts (it takes the
    first); these lists panic, so `C05_order_independent` is not affected -/
example : specResolve [some (.shift 1), some (.shift 2)] ≠
    specResolve [some (.shift 2), some (.shift 1)] := by decide
example : (foldActs [some (.shift 1), some (.shift 2)]).toOption = none := by decide
example : (foldActs [some (.shift 2), some (.shift 1)]).toOption = none := by decide

end Gocc
