import Gocc.Gen.Frontend
import Gocc.Props.C02Complete
import Gocc.Proofs.TableSweep
/-
C15 — the front end accepts exactly the token language of spec/gocc2.ebnf.

`Gocc.Gen.Frontend` is REGENERATED from /repo on every run: `feT` is the shipped table set
(internal/frontend/parser/tables.go), `feG` the grammar read from spec/gocc2.ebnf ("error" and
"empty" as ordinary literal terminals), `feCert` an untrusted certificate.  The kernel evaluates
the verified validators on them (`safe`, `safeEnds` through their one-pass twins of
Proofs/TableSweep), so a changed table entry or a changed production breaks these theorems, not
a sample.
-/
namespace Gocc
open Gocc.Gen

theorem C15_tables_safe : safe feG feT feCert = true := safe_of_safeL (by decide +kernel)

theorem C15_tables_safeEnds : safeEnds feT feCert = true := safeEnds_of_safeEndsL (by decide +kernel)

theorem C15_no_recovery_states : feT.canRecover.toList.all (!·) = true := by decide +kernel

/-- the production table is the grammar of the ebnf: same head and same body length, index by index
    (the bodies themselves are enforced by `safe` through the stack discipline) -/
theorem C15_production_table_is_ebnf (p : Nat) (hp : p < feG.prods.size) :
    feT.prodNT[p]? = some (feG.head p) ∧ feT.prodLen[p]? = some (feG.body p).length :=
  let f := safeFacts_of C15_tables_safe C15_tables_safeEnds
  ⟨f.prodNT p hp, f.prodLen p hp⟩

/-- Soundness for ALL token sequences: whatever gocc's own parser accepts is a sentence of the
    documented grammar. -/
theorem C15_accept_implies_sentence {w : List Nat} (hw : 1 ∉ w) {cfg : PCfg} (hT : cfg.T = feT)
    {fuel : Nat} {old : PState} {r : Attr} (h : (parse cfg w fuel old).1 = Outcome.accept r) :
    NSentence feG w :=
  C02_accept_sound C15_tables_safe C15_tables_safeEnds (noRecovery_of_all C15_no_recovery_states) hw hT h

end Gocc

/-! ### The other direction: every sentence of the ebnf is accepted -/
namespace Gocc
open Gocc.Gen

theorem C15_first_cert_closed : firstOk feG feFirst = true := by decide +kernel

theorem C15_tables_complete : complete feG feT feFirst feCertLA = true := by decide +kernel

theorem C15_actions_total : kindsTotal feT = true := by decide +kernel

/-- C15 at full strength, for ALL finite sequences `w` of front-end tokens (end of input is
    implicit, so `w` itself contains no end-of-input token): gocc's own table-driven parser accepts
    `w` (with enough fuel; the real loop has none) exactly when `w` is a sentence of spec/gocc2.ebnf. -/
theorem C15_accepts_iff_sentence {w : List Nat} (hw : 1 ∉ w) {cfg : PCfg} (hT : cfg.T = feT)
    (h0 : cfg.failAt = 0) (old : PState) :
    (∃ fuel r, (parse cfg w fuel old).1 = Outcome.accept r) ↔ NSentence feG w :=
  C02_accept_iff_sentence C15_tables_safe C15_tables_safeEnds C15_first_cert_closed C15_tables_complete
    (noRecovery_of_all C15_no_recovery_states)
    (C02_actsOk_of_kindsTotal h0 (by rw [hT]; exact C15_actions_total)) hT hw old

end Gocc
