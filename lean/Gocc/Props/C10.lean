import Gocc.Proofs.Numbering
/-
C10 — token numbering is one bijection.

Object: `newSymbols` / `PSymbols.addTokens` / `PSymbols.terminals` (Model/LR1: `symbols.NewSymbols`,
`Symbols.Add(tokenIds...)`, `ListTerminals()` = `TokenMap.TypeMap`), and the two lookups of the
generated `token.TokMap`, `tokId terms i` (`Id`, "unknown" out of range) and `tokType terms s`
(`Type`, Go map miss = 0), defined in Proofs/Numbering.

Quantifier: all production lists and all token id lists for which `NewSymbols` does not panic.
The table of terminals is then duplicate free with INVALID = 0 and ␚ (EOF) = 1, and on a
duplicate-free table `Id` and `Type` are inverse to each other, unknown names map to INVALID.
The action-table columns of the parser are the positions in the same list (`genParser` in
Model/LR1 iterates over `S.terminals`).
-/
namespace Gocc

theorem C10_addNoDup_nodup {l : List String} {s : String} (h : l.Nodup) :
    (addNoDup l s).Nodup := addNoDup_nodup h

theorem C10_mem_addNoDup {l : List String} {s x : String} :
    x ∈ addNoDup l s ↔ x ∈ l ∨ x = s := mem_addNoDup

/-- the symbol table after `NewSymbols`: no duplicates, 0 = INVALID, 1 = ␚ -/
theorem C10_newSymbols_typeMap {prods : List SProd} {S : PSymbols}
    (h : newSymbols prods = .ok S) :
    S.typeMap.Nodup ∧ S.typeMap[0]? = some "INVALID" ∧ S.typeMap[1]? = some "␚" :=
  NumInv_get (newSymbols_inv h)

/-- the same after adding the lexer's token ids -/
theorem C10_addTokens_typeMap {prods : List SProd} {S : PSymbols} (ids : List String)
    (h : newSymbols prods = .ok S) :
    (S.addTokens ids).typeMap.Nodup ∧ (S.addTokens ids).typeMap[0]? = some "INVALID" ∧
      (S.addTokens ids).typeMap[1]? = some "␚" :=
  NumInv_get (addTokens_inv ids (newSymbols_inv h))

/-- every token id of the lexical part is in the table -/
theorem C10_addTokens_mem (S : PSymbols) (ids : List String) (x : String) :
    x ∈ (S.addTokens ids).typeMap ↔ x ∈ S.typeMap ∨ x ∈ ids :=
  foldl_addNoDup_mem_iff

/-- the terminal table.  The two hypotheses hold unless a production is literally named
    `INVALID` or `␚` (then that name is a non-terminal and is filtered out of the terminal
    table, see the last example below); they are decidable for a given grammar. -/
theorem C10_numbering {prods : List SProd} {S : PSymbols} (ids : List String)
    (h : newSymbols prods = .ok S)
    (h0 : (S.addTokens ids).isTerminal "INVALID" = true)
    (h1 : (S.addTokens ids).isTerminal "␚" = true) :
    (S.addTokens ids).terminals[0]? = some "INVALID" ∧
    (S.addTokens ids).terminals[1]? = some "␚" ∧
    (S.addTokens ids).terminals.Nodup :=
  terminals_numbering _ (addTokens_inv ids (newSymbols_inv h)) h0 h1

/-- `Id` and `Type` on a duplicate-free table -/
theorem C10_inverse_lookups (terms : List String) (h : terms.Nodup) :
    (∀ i, i < terms.length → tokType terms (tokId terms i) = i) ∧
    (∀ s, s ∈ terms → tokId terms (tokType terms s) = s) ∧
    (∀ s, s ∉ terms → tokType terms s = 0) ∧
    (∀ i, i ≥ terms.length → tokId terms i = "unknown") :=
  ⟨tokType_tokId terms h, tokId_tokType terms, tokType_unknown terms, tokId_out_of_range terms⟩

/-- `C10_numbering` and `C10_inverse_lookups` together, for the generated token map -/
theorem C10_token_map {prods : List SProd} {S : PSymbols} (ids : List String)
    (h : newSymbols prods = .ok S)
    (h0 : (S.addTokens ids).isTerminal "INVALID" = true)
    (h1 : (S.addTokens ids).isTerminal "␚" = true) :
    let terms := (S.addTokens ids).terminals
    tokId terms 0 = "INVALID" ∧ tokId terms 1 = "␚" ∧
    (∀ i, i < terms.length → tokType terms (tokId terms i) = i) ∧
    (∀ s, s ∈ terms → tokId terms (tokType terms s) = s) ∧
    (∀ s, s ∉ terms → tokType terms s = 0) := by
  obtain ⟨t0, t1, hn⟩ := C10_numbering ids h h0 h1
  obtain ⟨a, b, c, _⟩ := C10_inverse_lookups _ hn
  exact ⟨by simp [tokId, t0], by simp [tokId, t1], a, b, c⟩

/-! ### non-vacuity -/

/-- `S' : E ; E : E "+" T | T ; T : id` (augmented), token ids `id`, `num` -/
def exProds : List SProd :=
  [ { head := "S'", body := [⟨.prodId, "E"⟩] },
    { head := "E", body := [⟨.prodId, "E"⟩, ⟨.strLit, "+"⟩, ⟨.prodId, "T"⟩] },
    { head := "E", body := [⟨.prodId, "T"⟩] },
    { head := "T", body := [⟨.tokId, "id"⟩] } ]

example : (newSymbols exProds).toOption.map (·.typeMap) =
    some ["INVALID", "␚", "S'", "E", "+", "T", "id"] := by decide

example : (newSymbols exProds).toOption.map (fun S => (S.addTokens ["id", "num"]).terminals) =
    some ["INVALID", "␚", "+", "id", "num"] := by decide

example : (newSymbols exProds).toOption.map
    (fun S => ((S.addTokens ["id", "num"]).isTerminal "INVALID",
               (S.addTokens ["id", "num"]).isTerminal "␚")) = some (true, true) := by decide

/-- a string literal spelled like an earlier production name is refused -/
example : (newSymbols [{ head := "E", body := [⟨.strLit, "E"⟩] }]).toOption.map (·.typeMap) =
    none := by decide

example : tokType ["INVALID", "␚", "+", "id", "num"] "id" = 3 := by decide
example : tokId ["INVALID", "␚", "+", "id", "num"] 3 = "id" := by decide
example : tokType ["INVALID", "␚", "+", "id", "num"] "nope" = 0 := by decide
example : tokId ["INVALID", "␚", "+", "id", "num"] 5 = "unknown" := by decide
/-- the `Nodup` hypothesis of `C10_inverse_lookups` is needed: with a duplicate, `Type (Id 2) ≠ 2` -/
example : tokType ["a", "b", "b"] (tokId ["a", "b", "b"] 2) ≠ 2 := by decide

/-- the hypotheses of `C10_numbering` are needed: a production named `INVALID` is a non-terminal, so the
    terminal table starts with `␚` -/
example : (newSymbols [{ head := "INVALID", body := [⟨.tokId, "a"⟩] }]).toOption.map
    (fun S => ((S.addTokens []).isTerminal "INVALID", (S.addTokens []).terminals)) =
    some (false, ["␚", "a"]) := by decide

end Gocc
