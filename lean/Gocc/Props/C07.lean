import Gocc.Proofs.RecoverLoop
/-
C07 — Error recovery of the generated parser (`Parser.Error`, `popNonRecoveryStates`,
`firstRecoveryState` in `internal/parser/gen/golang/parser.go`).

Quantifier: ALL tables `T : PTables`, inputs, parser states, fuel (no bounds).  Model:
`recover` / `parseLoop` / `parse` (Model/Parse.lean); specification: Spec/Recover.lean
(`RecWF`, `topRecovery`, `firstAcceptable`, `RecoverSpec`, `attrToks`, `TokInv`, `NoShiftEOF`,
`PCfg.noRecovery`); proofs: Proofs/Recover.lean (a single call of `Error`), Proofs/RecoverLoop.lean.

  (a) `C07_recover_spec`            one call of `Error` is exactly `RecoverSpec` (under `RecWF`);
      `C07_recover_spec_unique`     ... which determines the result;
      `C07_recover_never_panics`, `C07_recover_no_recovery_state`, `C07_recover_to_recovery_state`
                                    the same, spelled out
  (b) `C07_no_panic_in_recovery`    under `RecWF` the `action.(shift)` assertion never fails;
      `C07_recovered_action_exists` "Error recovery led to invalid action" is dead code (any tables);
      `C07_panics`                  the complete list of run-time errors of `Parse`
  (c) `C07_tokInv_init`, `C07_tokInv_step`, `C07_tokens_in_order_any` (any tables),
      `C07_tokens_in_order` (tables that never shift end of input)
  (d) `C07_inert_without_errors`, `C07_inert_parse`, `C07_canRecover_irrelevant`,
      `C07_first_failed_lookup`
  non-vacuity: the tables of `S' : L ; L : L Stmt | Stmt ; Stmt : id ";" | error ";"`.

`ps.attrs.length = ps.states.length` is not needed anywhere: `recover` pops both stacks with
`take`/`drop`, which are total.
-/
namespace Gocc

/-! ### the specification functions are what they should be -/

theorem C07_recWFb_iff (T : PTables) (errTerm : Nat) : recWFb T errTerm = true ↔ RecWF T errTerm :=
  recWFb_iff T errTerm

/-- `topRecovery = some k`: entry `k` (from the top) can recover, no entry above it can -/
theorem C07_topRecovery_some {T : PTables} {states : List Nat} {k : Nat}
    (h : topRecovery T states = some k) :
    ∃ r rest, states.drop k = r :: rest ∧ T.canRecover[r]?.getD false = true ∧
      ∀ s ∈ states.take k, T.canRecover[s]?.getD false = false :=
  topRecovery_some h

theorem C07_topRecovery_none {T : PTables} {states : List Nat} (h : topRecovery T states = none) :
    ∀ s ∈ states, T.canRecover[s]?.getD false = false :=
  topRecovery_none h

/-- the look-ahead stream contains an end-of-input token; `firstEOF` is the number of the first -/
theorem C07_firstEOF (input : List Nat) (tok : Nat × Nat) (ntok : Nat) :
    (lookAhead input tok ntok (firstEOF input tok ntok)).2 = 1 ∧
    ∀ i, i < firstEOF input tok ntok → (lookAhead input tok ntok i).2 ≠ 1 :=
  (firstEOF_spec input tok ntok).2

/-- `firstAcceptable = some (j, t)` iff `t` is token number `j` of the look-ahead stream, it has
    an action in state `s`, no earlier token has one and no earlier token is end of input -/
theorem C07_firstAcceptable_some {T : PTables} {input : List Nat} {s : Nat} {tok : Nat × Nat}
    {ntok j : Nat} {t : Nat × Nat} :
    firstAcceptable T input s tok ntok = some (j, t) ↔
      t = lookAhead input tok ntok j ∧ (T.act s t.2).isSome = true ∧
      ∀ i, i < j → T.act s (lookAhead input tok ntok i).2 = none ∧ (lookAhead input tok ntok i).2 ≠ 1 :=
  firstAcceptable_eq_some_iff

/-- `firstAcceptable = none` iff no token up to and including the first end of input has an action -/
theorem C07_firstAcceptable_none {T : PTables} {input : List Nat} {s : Nat} {tok : Nat × Nat}
    {ntok : Nat} :
    firstAcceptable T input s tok ntok = none ↔
      ∀ i, i ≤ firstEOF input tok ntok → T.act s (lookAhead input tok ntok i).2 = none :=
  firstAcceptable_eq_none_iff

/-! ### (a) one call of `Error` -/

/-- (a) Under `RecWF`, on a non-empty stack, `Error` never panics and its result is the one
    described by `RecoverSpec` (Spec/Recover.lean). -/
theorem C07_recover_spec {T : PTables} {errTerm : Nat} (hwf : RecWF T errTerm) (input : List Nat)
    {ps : PState} (hne : ps.states ≠ []) :
    ∃ recovered errTok ps', recover T errTerm input ps = .ok (recovered, errTok, ps') ∧
      RecoverSpec T errTerm input ps recovered errTok ps' :=
  recover_spec hwf input hne

/-- `RecoverSpec` is a complete characterisation: it determines the result -/
theorem C07_recover_spec_unique {T : PTables} {errTerm : Nat} {input : List Nat} {ps : PState}
    {b1 b2 : Bool} {t1 t2 : Nat × Nat} {p1 p2 : PState}
    (h1 : RecoverSpec T errTerm input ps b1 t1 p1) (h2 : RecoverSpec T errTerm input ps b2 t2 p2) :
    b1 = b2 ∧ t1 = t2 ∧ p1 = p2 :=
  h1.unique h2

/-- no Go panic: the type assertion `action.(shift)` in `Error` is safe -/
theorem C07_recover_never_panics {T : PTables} {errTerm : Nat} (hwf : RecWF T errTerm)
    (input : List Nat) {ps : PState} (hne : ps.states ≠ []) (why : String) :
    recover T errTerm input ps ≠ .error why := by
  obtain ⟨b, tok, ps', h, -⟩ := recover_spec hwf input hne
  rw [h]
  intro h'
  cases h'

/-- no state on the stack can recover: "not recovered", nothing popped, no token consumed
    (any tables) -/
theorem C07_recover_no_recovery_state {T : PTables} {errTerm : Nat} {input : List Nat} {ps : PState}
    (hne : ps.states ≠ []) (htr : topRecovery T ps.states = none) :
    recover T errTerm input ps = .ok (false, ps.next, ps) :=
  recover_none htr hne

/-- some state can recover, `k` entries above the topmost such state `r` -/
theorem C07_recover_to_recovery_state {T : PTables} {errTerm : Nat} (hwf : RecWF T errTerm)
    (input : List Nat) {ps : PState} {k : Nat} (htr : topRecovery T ps.states = some k) :
    ∃ r rest s' recovered ps',
      ps.states.drop k = r :: rest ∧ T.act r errTerm = some (.shift s') ∧
      recover T errTerm input ps = .ok (recovered, ps.next, ps') ∧
      ps'.states = s' :: ps.states.drop k ∧
      ps'.attrs = Attr.err ps.next.1 ps.next.2 (ps.attrs.take k).reverse (T.rowExpected r) ::
        ps.attrs.drop k ∧
      ps'.log = ps.log ∧ ps'.calls = ps.calls ∧
      match firstAcceptable T input s' ps.next ps.ntok with
      | some (j, t) => recovered = true ∧ ps'.next = t ∧ ps'.ntok = ps.ntok + j
      | none => recovered = false ∧
          ps'.next = lookAhead input ps.next ps.ntok (firstEOF input ps.next ps.ntok) ∧
          ps'.next.2 = 1 ∧ ps'.ntok = ps.ntok + firstEOF input ps.next ps.ntok := by
  have hne : ps.states ≠ [] := by
    intro h
    rw [h] at htr
    cases htr
  obtain ⟨b, tok, ps', h, hs⟩ := recover_spec hwf input hne
  unfold RecoverSpec at hs
  rw [htr] at hs
  obtain ⟨rfl, h1, h2, r, rest, s', h3, h4, h5, h6, h7⟩ := hs
  refine ⟨r, rest, s', b, ps', h3, h4, h, h5, h6, h1, h2, ?_⟩
  rcases hf : firstAcceptable T input s' ps.next ps.ntok with _ | ⟨j, t⟩
  · rw [hf] at h7
    obtain ⟨g1, g2, g3⟩ := h7
    exact ⟨g1, g2, by rw [g2]; exact (firstEOF_spec input ps.next ps.ntok).2.1, g3⟩
  · rw [hf] at h7
    exact h7

/-! ### (b) no panic in recovery -/

/-- for ANY tables: `recovered = true` means the action exists — the panic
    "Error recovery led to invalid action" in `Parse` is dead code -/
theorem C07_recovered_action_exists (cfg : PCfg) (w : List Nat) (fuel : Nat) (ps : PState) :
    (parseLoop cfg w fuel ps).1 ≠ Outcome.panic "Error recovery led to invalid action" := by
  intro h
  rcases parseLoop_panic cfg w fuel ps _ h with h1 | ⟨h1, -⟩
  · exact absurd h1 (by simp [stepPanics])
  · exact absurd h1 (by simp [ifaceShift])

/-- (b) with well-formed recovery flags `Parse` never dies of the `action.(shift)` assertion,
    and never of "Error recovery led to invalid action" -/
theorem C07_no_panic_in_recovery {cfg : PCfg} (hwf : RecWF cfg.T cfg.errTerm) (w : List Nat)
    (fuel : Nat) (ps : PState) :
    (parseLoop cfg w fuel ps).1 ≠
        Outcome.panic "interface conversion: parser.action is not parser.shift" ∧
    (parseLoop cfg w fuel ps).1 ≠ Outcome.panic "Error recovery led to invalid action" := by
  refine ⟨fun h => ?_, C07_recovered_action_exists cfg w fuel ps⟩
  rcases parseLoop_panic cfg w fuel ps _ h with h1 | ⟨-, h1⟩
  · exact absurd h1 (by simp [stepPanics])
  · exact h1 hwf

/-- all run-time errors of `Parse`, for any tables: the ones of `stepPanics` (empty stack, index
    errors of ill-formed tables, errors inside the user actions) and the failed `action.(shift)`
    assertion, which needs tables violating `RecWF` -/
theorem C07_panics (cfg : PCfg) (w : List Nat) (fuel : Nat) (ps : PState) (why : String)
    (h : (parseLoop cfg w fuel ps).1 = Outcome.panic why) :
    why ∈ stepPanics ∨
      (why = "interface conversion: parser.action is not parser.shift" ∧ ¬ RecWF cfg.T cfg.errTerm) :=
  parseLoop_panic cfg w fuel ps why h

/-! ### (c) token conservation -/

theorem C07_tokInv_init (w : List Nat) :
    TokInv { states := [0], attrs := [.nil], next := scanTok w 0, ntok := 1, log := [], calls := 0 } :=
  tokInv_init w

/-- (c) `TokInv` is preserved by every iteration of the `Parse` loop (`step`,
    `parseLoop_succ : parseLoop cfg w (fuel + 1) ps = (step cfg w ps).run (parseLoop cfg w fuel)`),
    with or without error recovery, for arbitrary tables; on acceptance the tokens inside the
    result are in order and have been scanned -/
theorem C07_tokInv_step (cfg : PCfg) (w : List Nat) {ps : PState} (hI : TokInv ps) :
    match step cfg w ps with
    | .cont ps' => TokInv ps'
    | .done (.accept r) ps' => (attrToks r).Pairwise (· < ·) ∧ ∀ i ∈ attrToks r, i + 1 < ps'.ntok
    | .done _ _ => True := by
  have := step_tokInv cfg w hI
  rcases hs : step cfg w ps with ⟨o, ps'⟩ | ps'
  · rw [hs] at this
    cases o with
    | accept r => exact this r rfl
    | _ => trivial
  · rw [hs] at this
    exact this

/-- (c) for ARBITRARY tables: the tokens inside an accepted result are strictly increasing
    (every token reaches the result, and hence the actions, at most once and in input order,
    whatever errors were recovered from) and all of them precede the final look-ahead -/
theorem C07_tokens_in_order_any {cfg : PCfg} {w : List Nat} {fuel : Nat} {old ps : PState}
    {r : Attr} (h : parse cfg w fuel old = (Outcome.accept r, ps)) :
    (attrToks r).Pairwise (· < ·) ∧ ∀ i ∈ attrToks r, i + 1 < ps.ntok :=
  parse_tokens_any h

/-- (c) for tables that never shift the end-of-input token: moreover every token inside the
    result is a token of the input -/
theorem C07_tokens_in_order {cfg : PCfg} (hT : NoShiftEOF cfg.T) {w : List Nat} {fuel : Nat}
    {old ps : PState} {r : Attr} (h : parse cfg w fuel old = (Outcome.accept r, ps)) :
    (attrToks r).Pairwise (· < ·) ∧ ∀ i ∈ attrToks r, i < w.length :=
  parse_tokens hT h

theorem C07_noShiftEOFb {T : PTables} (h : noShiftEOFb T = true) : NoShiftEOF T :=
  noShiftEOF_of_b h

/-! ### (d) recovery is inert without errors -/

/-- (d) Lock-step with the same parser without recovery states and without error terminal
    (`cfg.noRecovery`): unless that parser stops with a syntax error — which it does exactly at
    the first failed action lookup, `C07_first_failed_lookup` — the two runs agree completely
    (outcome, result, final state, call log). -/
theorem C07_inert_without_errors (cfg : PCfg) (w : List Nat) (fuel : Nat) (ps : PState)
    (h : ∀ i t e s, (parseLoop cfg.noRecovery w fuel ps).1 ≠ Outcome.synErr i t e s) :
    parseLoop cfg w fuel ps = parseLoop cfg.noRecovery w fuel ps :=
  parseLoop_noRecovery cfg w fuel ps h

theorem C07_inert_parse (cfg : PCfg) (w : List Nat) (fuel : Nat) (old : PState)
    (h : ∀ i t e s, (parse cfg.noRecovery w fuel old).1 ≠ Outcome.synErr i t e s) :
    parse cfg w fuel old = parse cfg.noRecovery w fuel old :=
  parseLoop_noRecovery cfg w fuel _ h

/-- tables that differ only in `canRecover` (and parsers that differ only in those flags and in
    the error terminal) behave identically on every input on which no action lookup fails -/
theorem C07_canRecover_irrelevant (cfg : PCfg) (canRecover' : Array Bool) (errTerm' : Nat)
    (w : List Nat) (fuel : Nat) (old : PState)
    (h : ∀ i t e s, (parse cfg.noRecovery w fuel old).1 ≠ Outcome.synErr i t e s) :
    parse { cfg with T := { cfg.T with canRecover := canRecover' }, errTerm := errTerm' } w fuel old =
      parse cfg w fuel old := by
  have h1 := C07_inert_parse cfg w fuel old h
  have h2 := C07_inert_parse
    { cfg with T := { cfg.T with canRecover := canRecover' }, errTerm := errTerm' } w fuel old h
  rw [h1, h2]
  rfl

/-- one iteration: either it is the iteration of the parser without recovery (the lookup
    succeeded; `recover` is not called), or the lookup failed and the parser without recovery
    stops there with a syntax error -/
theorem C07_first_failed_lookup (cfg : PCfg) (w : List Nat) (ps : PState) :
    step cfg w ps = step cfg.noRecovery w ps ∨
    ∃ top rest, ps.states = top :: rest ∧ cfg.T.act top ps.next.2 = none ∧
      step cfg.noRecovery w ps =
        .done (.synErr ps.next.1 ps.next.2 (cfg.T.rowExpected top) top) ps :=
  step_noRecovery cfg w ps

/-! ### non-vacuity -/

namespace C07Toy

/-- hand-made LR(1) tables of
      0 `S' : L`   1 `L : L Stmt`   2 `L : Stmt`   3 `Stmt : id ";"`   4 `Stmt : error ";"`
    terminals 0 INVALID, 1 ␚, 2 id, 3 ";", 4 error; states 0 and 1 hold `Stmt : •error ";"` -/
def T : PTables :=
  { terminals := ["INVALID", "␚", "id", ";", "error"]
    nts := ["S'", "L", "Stmt"]
    action := #[
      #[none, none, some (.shift 3), none, some (.shift 4)],
      #[none, some .accept, some (.shift 3), none, some (.shift 4)],
      #[none, some (.reduce 2), some (.reduce 2), none, some (.reduce 2)],
      #[none, none, none, some (.shift 6), none],
      #[none, none, none, some (.shift 7), none],
      #[none, some (.reduce 1), some (.reduce 1), none, some (.reduce 1)],
      #[none, some (.reduce 3), some (.reduce 3), none, some (.reduce 3)],
      #[none, some (.reduce 4), some (.reduce 4), none, some (.reduce 4)]]
    goto_ := #[#[-1, 1, 2], #[-1, -1, 5], #[-1, -1, -1], #[-1, -1, -1], #[-1, -1, -1],
      #[-1, -1, -1], #[-1, -1, -1], #[-1, -1, -1]]
    canRecover := #[true, true, false, false, false, false, false, false]
    prodNT := #[0, 1, 1, 2, 2]
    prodLen := #[1, 2, 1, 2, 2]
    prodKind := #[.dflt, .user 1 1, .user 1 2, .user 1 3, .user 1 4]
    conflictStates := 0
    nStates := 8
    numSymbols := 5 }

def cfg : PCfg := { T := T, errTerm := 4, failAt := 0 }

/-- `id ; id id ; id ;` — the second statement is broken (token 3 is unexpected) -/
def w : List Nat := [2, 3, 2, 2, 3, 2, 3]

example : recWFb T 4 = true := by decide +kernel
example : RecWF T 4 := (C07_recWFb_iff T 4).mp (by decide +kernel)
example : NoShiftEOF T := C07_noShiftEOFb (by decide +kernel)

/-- the parser state at the error: `L id` on the stack, look-ahead token 3 (`id`) -/
def atErr : PState :=
  { states := [3, 1, 0]
    attrs := [.tok 2 2, .node 2 [.node 3 [.tok 0 2, .tok 1 3]], .nil]
    next := (3, 2), ntok := 4, log := [2, 3], calls := 2 }

example : topRecovery T atErr.states = some 1 := by decide +kernel
example : firstAcceptable T w 4 atErr.next atErr.ntok = some (1, (4, 3)) := by decide +kernel

/-- what the specification says about this call … -/
example : RecoverSpec T 4 w atErr true (3, 2)
    { atErr with states := [4, 1, 0]
                 attrs := [.err 3 2 [.tok 2 2] [1, 2, 4], .node 2 [.node 3 [.tok 0 2, .tok 1 3]], .nil]
                 next := (4, 3), ntok := 5 } := by
  refine ⟨rfl, rfl, rfl, ?_⟩
  have h1 : topRecovery T atErr.states = some 1 := by decide +kernel
  rw [h1]
  refine ⟨1, [0], 4, rfl, by decide, rfl, ?_, ?_⟩
  · have : T.rowExpected 1 = [1, 2, 4] := by decide +kernel
    simp only [this]
    rfl
  · have h2 : firstAcceptable T w 4 atErr.next atErr.ntok = some (1, (4, 3)) := by decide +kernel
    rw [h2]
    exact ⟨rfl, rfl, rfl⟩

/-- the comparable part of a result of `recover` (for the examples) -/
structure View where
  recovered : Bool
  errTok : Nat × Nat
  states : List Nat
  toks : List (List Nat)
  next : Nat × Nat
  ntok : Nat
deriving DecidableEq

def view (r : Except String (Bool × (Nat × Nat) × PState)) : Option View :=
  match r with
  | .ok (b, tok, ps') => some ⟨b, tok, ps'.states, ps'.attrs.map attrToks, ps'.next, ps'.ntok⟩
  | .error _ => none

/-- … and what the code does: pops `id` (token 2) into the error attribute, shifts `error`
    (state 4), skips the offending token 3, continues with token 4 (`;`) -/
example : view (recover T 4 w atErr) =
    some ⟨true, (3, 2), [4, 1, 0], [[2], [0, 1], []], (4, 3), 5⟩ := by decide +kernel

/-- tokens inside an accepted result (for the examples) -/
def acceptedToks (o : Outcome × PState) : Option (List Nat) :=
  match o.1 with
  | .accept r => some (attrToks r)
  | _ => none

/-- a run that recovers: the result holds tokens 0 1 2 4 5 6 in order; the skipped token 3
    reaches no action (it is recorded in the error attribute only) -/
example : acceptedToks (parse cfg w 30 default) = some [0, 1, 2, 4, 5, 6] := by decide +kernel

/-- without recovery states the same input is a syntax error at token 3 … -/
example : (match (parse cfg.noRecovery w 30 default).1 with
    | .synErr i t _ _ => some (i, t)
    | _ => none) = some (3, 2) := by decide +kernel

/-- … and an input without errors is parsed with and without recovery states alike -/
example : acceptedToks (parse cfg [2, 3, 2, 3] 30 default) = some [0, 1, 2, 3] ∧
    acceptedToks (parse cfg.noRecovery [2, 3, 2, 3] 30 default) = some [0, 1, 2, 3] := by
  decide +kernel

/-- `NoShiftEOF` is needed for "index `< input.length`": tables that shift end of input -/
def Tshift : PTables :=
  { T with action := #[#[none, some (.shift 1)], #[none, some .accept]], canRecover := #[], numSymbols := 2 }

example : acceptedToks (parse { T := Tshift, errTerm := 0, failAt := 0 } [] 5 default) = some [0] := by
  decide +kernel

end C07Toy

end Gocc
