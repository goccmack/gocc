import Gocc.Proofs.Scan
/-
C16 (lexer half) — after `Reset` a lexer behaves like a freshly created one.

Quantifier: all tables `T`, all sources `src`, all cursors `st` (whatever was scanned
before), all numbers `k` of subsequent calls.  No hypothesis on the tables.

Why it is immediate: the only state of the lexer that `Scan` reads or writes is the cursor
`⟨pos, line, column⟩` (`src` and the tables are immutable), and `LexSt.reset` — the model of
`Lexer.Reset` after the D4 fix — restores all three fields to the values `NewLexer` sets
(`⟨0, 1, 1⟩`).  So `st.reset` and `newLexer` are the same value and every function of them
agrees.  (Before the fix `Reset` set only `pos = 0`; then the tokens were the same but
their line/column were offset by what had been scanned before.)
-/
namespace Gocc

/-- `Reset` restores all three cursor fields -/
theorem C16_lexer_reset_state (st : LexSt) : st.reset = newLexer := rfl

/-- after `Reset` the lexer returns the same tokens, with the same positions, as a new lexer
    on the same source -/
theorem C16_lexer_reset (T : LexTables) (src : List Nat) (st : LexSt) (k : Nat) :
    scanN T src k st.reset = scanN T src k newLexer := rfl

/-- ... and leaves the same cursor behind after any number of calls -/
theorem C16_lexer_reset_cursor (T : LexTables) (src : List Nat) (st : LexSt) (k : Nat) :
    scanStatesFrom T src st.reset k = scanStates T src k := rfl

/-- the statement is not void: a used lexer differs from a new one, and resetting only the
    offset (the behaviour before the fix) would not give the tokens of a new lexer -/
example : (⟨5, 2, 3⟩ : LexSt) ≠ newLexer := by decide

example : (⟨5, 2, 3⟩ : LexSt).reset = newLexer := rfl

example :
    scanN ⟨fun s r => if s = 0 ∧ r = 97 then 1 else -1, fun s => if s = 1 then 2 else 0, fun _ => false⟩
      [97] 1 ⟨0, 2, 3⟩ ≠
    scanN ⟨fun s r => if s = 0 ∧ r = 97 then 1 else -1, fun s => if s = 1 then 2 else 0, fun _ => false⟩
      [97] 1 newLexer := by
  rw [scanN_eq_scanNF, scanN_eq_scanNF]; decide +kernel

end Gocc
