import Gocc.Proofs.ActionFold
/-
C04 — a conflict is recorded exactly when two different actions compete; accept against
anything different (and shift against a different shift) is refused in every mode.

Object: `foldActs` (Model/ActionFold), the fold `ItemSet.Action(symbol)` performs over the actions
its items propose for one terminal; second component of the result = "a conflict was recorded
for this (state, terminal)"; `Except.error` = Go panic.  `setAction_eq_foldActs`
(Proofs/ActionFold, restated as `C05_setAction_eq_foldActs`) ties it to the item-set function.

Quantifier: all lists of proposed actions, no bounds.

`competing acts` (Model/ActionFold): the proposed non-error actions contain two different ones.
`panics acts` (Proofs/ActionFold): an accept together with a different action, or two different
shifts.
-/
namespace Gocc

/-- the conflict flag is set exactly when two different non-error actions are proposed -/
theorem C04_conflict_flag {acts : List (Option Act)} {r : Option Act} {c : Bool}
    (h : foldActs acts = .ok (r, c)) : c = competing acts := by
  rw [Bool.eq_iff_iff, competing_iff]
  exact (foldActs_eq_ok_iff.mp h).2.2

/-- the same, spelled out with membership -/
theorem C04_conflict_iff {acts : List (Option Act)} {r : Option Act} {c : Bool}
    (h : foldActs acts = .ok (r, c)) :
    c = true ↔ ∃ x y, some x ∈ acts ∧ some y ∈ acts ∧ x ≠ y :=
  (foldActs_eq_ok_iff.mp h).2.2

/-- generation is refused exactly on `panics` -/
theorem C04_panic_iff (acts : List (Option Act)) :
    (foldActs acts).toOption = none ↔ panics acts = true := by
  rw [foldActs_toOption]
  cases panics acts <;> simp

/-- what `panics` means, with membership: accept together with a different action, or two
    different shifts -/
theorem C04_panics_iff_mem (acts : List (Option Act)) :
    panics acts = true ↔
      (some Act.accept ∈ acts ∧ ∃ x, some x ∈ acts ∧ x ≠ Act.accept) ∨
      ∃ s t, s ≠ t ∧ some (Act.shift s) ∈ acts ∧ some (Act.shift t) ∈ acts :=
  panics_iff acts

/-- the complete description of the fold: refused on `panics`, otherwise
    (specified entry, competition flag) -/
theorem C04_fold_total (acts : List (Option Act)) :
    (foldActs acts).toOption =
      if panics acts then none else some (specResolve acts, competing acts) :=
  foldActs_toOption acts

/-! ### non-vacuity -/

/-- shift/reduce/reduce: conflict recorded -/
example : foldActs [some (.reduce 3), none, some (.shift 7), some (.reduce 1)] =
    .ok (some (.shift 7), true) := by decide
example : competing [some (.reduce 3), none, some (.shift 7), some (.reduce 1)] = true := by
  decide

/-- reduce/reduce: conflict recorded -/
example : foldActs [some (.reduce 2), some (.reduce 5)] = .ok (some (.reduce 2), true) := by
  decide

/-- the same action proposed by several items is not a conflict -/
example : foldActs [some (.shift 4), none, some (.shift 4)] = .ok (some (.shift 4), false) := by
  decide
example : competing [some (.shift 4), none, some (.shift 4)] = false := by decide

/-- panicking lists: accept against reduce (either order), shift against another shift, also
    when something else was seen in between -/
example : panics [some .accept, some (.reduce 1)] = true := by decide
example : (foldActs [some .accept, some (.reduce 1)]).toOption = none := by decide
example : (foldActs [some (.reduce 1), some .accept]).toOption = none := by decide
example : foldActs [some (.reduce 1), some .accept] =
    .error "Impossible conflict: Reduce/Accept" := by decide
example : (foldActs [some (.shift 1), some (.reduce 0), some (.shift 2)]).toOption = none := by
  decide
example : panics [some (.shift 1), some (.reduce 0), some (.shift 2)] = true := by decide
example : panics [some (.reduce 3), none, some (.shift 7), some (.reduce 1)] = false := by decide

end Gocc
