import Gocc.Proofs.LexEquiv
/-
C01 (tie between the halves) — the verified equivalence checker.

`M : MDfa` is the automaton of the generator model (states of `genLexer` with their
(Accept, isIgnore) pairs), `R : RDfa` the reference automaton (`refDfa`) with the pairs of its
states; `M.tables` / `R.tables` are the `LexTables` the `Scan` model runs with
(Gocc/Model/LexEquiv.lean).  `equivCheck M R` is an executable Boolean: the classes of `M`
respect the elementary intervals of `R` (`boundsOk`) and the product walk from `(0, 0)` over the
interval starts closes without finding a difference.

Quantifier of the main statement: all `M`, all `R` (no well-formedness assumed: ill-formed
inputs are either rejected or the conclusion holds anyway), all byte lists `src`, all cursors `st`.

Runes: `Bisim` quantifies over all `r : Int`, but only the results of `utf8.DecodeRune` are ever
fed to the tables; `BisimOn P` restricts the transition clauses to runes satisfying `P`.  The
checker establishes `BisimOn IsRune` (`0 ≤ r ≤ 0x10FFFF`): the upper bound is needed because a
class ending at `0x10FFFF` has no interval start after it (`elemStarts` keeps starts `≤ 0x10FFFF`).
-/
namespace Gocc

/-- `DecodeRune` returns a rune in `[0, 0x10FFFF]` -/
theorem C01_decodeRune_isRune (l : List Nat) : IsRune (decodeRune l).1 :=
  decodeRune_isRune l

/-- tables bisimilar on the non-negative runes: every call of `Scan` returns the same token
    and leaves the same cursor -/
theorem C01_bisimOn_scan_eq {T1 T2 : LexTables} {R : Nat → Nat → Prop}
    (h : BisimOn (fun r => 0 ≤ r) T1 T2 R) (src : List Nat) (st : LexSt) :
    scan T1 src st = scan T2 src st :=
  bisimOn_scan_eq_of (P := fun r => 0 ≤ r) decodeRune_nonneg h src st

/-- the same for tables bisimilar on `[0, 0x10FFFF]` only -/
theorem C01_bisimOn_rune_scan_eq {T1 T2 : LexTables} {R : Nat → Nat → Prop}
    (h : BisimOn IsRune T1 T2 R) (src : List Nat) (st : LexSt) :
    scan T1 src st = scan T2 src st :=
  bisimOn_scan_eq_of decodeRune_isRune h src st

/-- general form: any set of runes containing every result of `DecodeRune` -/
theorem C01_bisimOn_scan_eq_of {P : Int → Prop} (hP : ∀ l, P (decodeRune l).1)
    {T1 T2 : LexTables} {R : Nat → Nat → Prop} (h : BisimOn P T1 T2 R)
    (src : List Nat) (st : LexSt) : scan T1 src st = scan T2 src st :=
  bisimOn_scan_eq_of hP h src st

/-- `Bisim` is `BisimOn` with no restriction on `r : Int` -/
theorem C01_bisim_iff_bisimOn {T1 T2 : LexTables} {R : Nat → Nat → Prop} :
    Bisim T1 T2 R ↔ BisimOn (fun _ => True) T1 T2 R :=
  ⟨fun h => h.on _, fun h => ⟨h.start, h.act, fun a b r => h.dead a b r trivial,
    fun a b r => h.live a b r trivial⟩⟩

/-- `M.tables.trans` is, verbatim, the transition function of `Gocc.Driver.lexTablesOf`
    (class lookup first, then the `.` fallback when `matchAny`, else `-1`) -/
theorem C01_mdfa_tables_trans (M : MDfa) (s : Nat) (r : Int) : M.tables.trans s r =
    (match M.states[s]? with
      | none => -1
      | some st =>
        match (st.classes.zip st.trans).find? (fun (c, _) => c.lo ≤ r && r ≤ c.hi) with
        | some (_, t) => t
        | none => if st.matchAny then st.dotTrans else -1) := by
  rw [M.tables_trans]
  cases M.states[s]? with
  | none => rfl
  | some st => exact LState.step_eq_driver st r

/-- interval uniformity: under `boundsOk` every rune `r` in `[0, 0x10FFFF]` has an interval
    start `c` (the greatest start `≤ r`, which for the strictly increasing `starts` is
    `starts[elemIndex starts r]`, the next start being `> r`) on which both automata behave as on `r` -/
theorem C01_interval_uniform {M : MDfa} {R : RDfa} (hb : boundsOk M R.dfa.starts = true)
    {r : Int} (hr : IsRune r) :
    ∃ c, c ∈ R.dfa.starts ∧ c ≤ r ∧ (∀ s ∈ R.dfa.starts, s ≤ r → s ≤ c) ∧
      R.dfa.starts[elemIndex R.dfa.starts r]? = some c ∧
      (∀ d, R.dfa.starts[elemIndex R.dfa.starts r + 1]? = some d → r < d) ∧
      (∀ m, M.tables.trans m r = M.tables.trans m c) ∧
      (∀ s, R.tables.trans s r = R.tables.trans s c) := by
  have hso := startsOk_of_boundsOk hb
  have hinc := pairwise_of_startsOk hso
  obtain ⟨c, hc⟩ := exists_elemRep hso hr.1
  exact ⟨c, hc.1, hc.2.1, hc.2.2, elemRep_getElem? hinc hc, fun d hd => elemRep_next hinc hc hd,
    fun m => mdfa_trans_rep hb m hc hr.2, fun s => rdfa_trans_rep R s hc⟩

/-- closure of the walk: a successful walk from `(0, 0)` yields a finite set of pairs
    containing `(0, 0)` in which every pair has equal acts and, on every interval start, both
    sides dead or both live with non-negative targets whose pair is in the set again -/
theorem C01_walk_closed {TM TR : LexTables} {starts : List Int} {fuel : Nat}
    (h : eqWalk TM TR starts fuel [(0, 0)] [] = true) :
    ∃ S : List (Nat × Nat), (0, 0) ∈ S ∧ ∀ p ∈ S,
      (TM.accept p.1 = TR.accept p.2 ∧ TM.ignore p.1 = TR.ignore p.2) ∧
      ∀ c ∈ starts, (TM.trans p.1 c = -1 ↔ TR.trans p.2 c = -1) ∧
        (TM.trans p.1 c ≠ -1 → 0 ≤ TM.trans p.1 c ∧ 0 ≤ TR.trans p.2 c ∧
          ((TM.trans p.1 c).toNat, (TR.trans p.2 c).toNat) ∈ S) := by
  obtain ⟨S, _, h2, h3⟩ := eqWalk_closed TM TR starts fuel _ _ h
  exact ⟨S, h2 _ List.mem_cons_self, fun p hp => (h3 p hp).resolve_left List.not_mem_nil⟩

/-- if the checker accepts, the generated tables and the reference tables are bisimilar on the
    runes `DecodeRune` can return -/
theorem C01_equivCheck_bisimOn {M : MDfa} {R : RDfa} (h : equivCheck M R = true) :
    ∃ Rel : Nat → Nat → Prop, BisimOn IsRune M.tables R.tables Rel := by
  obtain ⟨hb, hw⟩ := Bool.and_eq_true_iff.1 h
  obtain ⟨S, h0, hS⟩ := C01_walk_closed hw
  -- both automata behave on `r` as on the start `c` of its interval, where the walk has compared them
  have key : ∀ a b r, IsRune r → (a, b) ∈ S → StartOK M.tables R.tables S a b r := by
    intro a b r hr hab
    obtain ⟨c, hc, _, _, _, _, hm, hr⟩ := C01_interval_uniform hb hr
    unfold StartOK
    rw [hm a, hr b]
    exact (hS _ hab).2 c hc
  exact ⟨fun a b => (a, b) ∈ S, h0, fun a b hab => (hS _ hab).1,
    fun a b r hr hab => (key a b r hr hab).1, fun a b r hr hab hne => ((key a b r hr hab).2 hne).2.2⟩

/-- soundness of the checker: if it accepts, the automaton gocc generated (as mirrored by the
    model) and the reference automaton make `Scan` return the same token (type, literal,
    position) and leave the same cursor, on every byte string and from every cursor -/
theorem C01_equivCheck_sound {M : MDfa} {R : RDfa} (h : equivCheck M R = true)
    (src : List Nat) (st : LexSt) : scan M.tables src st = scan R.tables src st :=
  let ⟨_, hR⟩ := C01_equivCheck_bisimOn h
  C01_bisimOn_rune_scan_eq hR src st

/-- ... and so the token streams are identical -/
theorem C01_equivCheck_sound_scanN {M : MDfa} {R : RDfa} (h : equivCheck M R = true)
    (src : List Nat) (k : Nat) (st : LexSt) : scanN M.tables src k st = scanN R.tables src k st :=
  scanN_eq_of_scan_eq (C01_equivCheck_sound h src) k st

/-! ### Non-vacuity: the lexer `x : 'a' 'b' ; !ws : ' ' ; y : 'a' . ;`
    (token types: INVALID 0, EOF 1, x 2, y 3)

    generated automaton: S0 -'a'-> S1, S0 -' '-> S2 (ignore), S1 -'b'-> S3 (x), S1 -.-> S4 (y)
    reference automaton: the same language with S3 and S4 numbered the other way round, over the
    elementary intervals [0,32) [32,33) [33,97) [97,98) [98,99) [99,∞) -/

def exM : MDfa where
  states := #[
    { items := [], classes := [⟨32, 32⟩, ⟨97, 97⟩], matchAny := false, trans := [2, 1] },
    { items := [], classes := [⟨98, 98⟩], matchAny := true, trans := [3], dotTrans := 4 },
    { items := [], classes := [], matchAny := false, trans := [] },
    { items := [], classes := [], matchAny := false, trans := [] },
    { items := [], classes := [], matchAny := false, trans := [] } ]
  acts := #[(0, false), (0, false), (-1, true), (2, false), (3, false)]

def exRef : RDfa where
  dfa := {
    states := #[[], [], [], [], []]
    starts := [0, 32, 33, 97, 98, 99]
    trans := #[
      [-1, 2, -1, 1, -1, -1],
      [3, 3, 3, 3, 4, 3],
      [-1, -1, -1, -1, -1, -1],
      [-1, -1, -1, -1, -1, -1],
      [-1, -1, -1, -1, -1, -1] ] }
  acts := #[(0, false), (0, false), (-1, true), (3, false), (2, false)]

theorem exM_exRef_equiv : equivCheck exM exRef = true := by decide +kernel

example : equivCheck exM exRef = true := exM_exRef_equiv

/-- hence the two automata scan every input alike -/
example (src : List Nat) (k : Nat) :
    scanN exM.tables src k newLexer = scanN exRef.tables src k newLexer :=
  C01_equivCheck_sound_scanN exM_exRef_equiv src k newLexer

/-- e.g. "ab a\xce\xbb" -/
example : scanN exRef.tables [97, 98, 32, 97, 0xCE, 0xBB] 3 newLexer =
    [ { typ := 2, litStart := 0, litEnd := 2, offset := 0, line := 1, col := 1 },
      { typ := 3, litStart := 3, litEnd := 6, offset := 3, line := 1, col := 4 },
      { typ := 1, litStart := 0, litEnd := 0, offset := 6, line := 1, col := 6 } ] := by
  rw [← C01_equivCheck_sound_scanN exM_exRef_equiv, scanN_eq_scanNF]; decide +kernel

/-- negative: an act differs (reference state 4 accepts token 3 instead of 2) -/
def exRefBadAct : RDfa := { exRef with acts := #[(0, false), (0, false), (-1, true), (3, false), (3, false)] }
example : equivCheck exM exRefBadAct = false := by decide +kernel

/-- negative: a transition differs (the reference has no `.` fallback on the interval [33, 97)) -/
def exRefBadTrans : RDfa :=
  { exRef with dfa := { exRef.dfa with trans := exRef.dfa.trans.set! 1 [3, 3, -1, 3, 4, 3] } }
example : equivCheck exM exRefBadTrans = false := by decide +kernel

/-- negative: a class of the generated automaton does not respect the interval starts
    (`'b'-'c'` against starts without 100): rejected by `boundsOk` before any walk -/
def exBadState : LState :=
  { items := [], classes := [⟨98, 99⟩], matchAny := true, trans := [3], dotTrans := 4 }
def exMBadBounds : MDfa := { exM with states := exM.states.set! 1 exBadState }
example : boundsOk exMBadBounds exRef.dfa.starts = false := by decide +kernel
example : equivCheck exMBadBounds exRef = false := by decide +kernel

/-- negative: starts that are not strictly increasing from 0 are rejected -/
example : startsOk [0, 97, 97] = false ∧ startsOk [1, 2] = false ∧ startsOk [] = false := by decide

/-- and the difference the checker reports is real: on "ab" the two scans differ -/
example : (scan exM.tables [97, 98] newLexer).1.typ = 2 ∧
    (scan exRefBadAct.tables [97, 98] newLexer).1.typ = 3 := by
  rw [scan_eq_scanF, scan_eq_scanF]; decide +kernel

end Gocc
