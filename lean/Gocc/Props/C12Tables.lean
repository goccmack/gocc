import Gocc.Props.C12
import Gocc.Model.Parse
/-
C12 — `-zip` at the level of whole tables and of the parser that runs on them.

Object: `zipTables T` = what the `init()` functions of the `-zip` action and goto tables leave in
`actionTab` / `gotoTab` when the generator had the tables `T` in hand:

 * action table (actiontable.go `GenCompActionTable` / `actionCompTableSrc`): per state the
   `CanRecover` flag is carried over as it is and the row is `decodeRow width (encodeRow row)`
   (the gob+gzip layer is Go's library and is trusted to be lossless, see DESIGN §5);
 * goto table (gototable.go `GenCompGotoTable` / `gotoTableCompSrc`): `[][]int` rows are copied
   cell by cell, `for i < numStates { for j < numNTSymbols { gotoTab[i][j] = tab[i][j] } }`,
   into a zero table of `numStates` rows and `numNTSymbols` columns (`copyGoto`).

Quantifier: every table value `T` (any number of states, any widths, any entries) for the action
part; for the goto part every table with `nStates` rows of `nts.length` cells (what
`GenCompGotoTable` builds: `make([][]int, itemSets.Size())`, rows `make([]int, numNTSymbols)`).

Consequence (`C12_zip_parse_eq`): the model of the generated `Parse` (Model/Parse, the same
template text is emitted with and without `-zip`) returns the same outcome, the same final state,
hence the same reductions, action log, error and expected list, and makes the same number of Scan
calls, on every input, for every fuel and every history.
-/
namespace Gocc

/-- the goto table has the shape `GenCompGotoTable` builds -/
def GotoRect (T : PTables) : Prop :=
  T.goto_.size = T.nStates ∧ ∀ r ∈ T.goto_.toList, r.size = T.nts.length

theorem zipAction_eq (a : Array (Array (Option Act))) :
    (a.map fun row => (decodeRow row.size (encodeRow row.toList)).toArray) = a := by
  have h : (fun row : Array (Option Act) =>
      (decodeRow row.size (encodeRow row.toList)).toArray) = id := by
    funext row
    have := C12_zip_roundtrip row.toList
    simp only [Array.length_toList] at this
    simp [this]
  rw [h]; simp

theorem list_range_map_getD {α} (l : List α) (d : α) :
    ((List.range l.length).map fun j => (l[j]?).getD d) = l := by
  apply List.ext_getElem
  · simp
  · intro i h1 h2
    simp at h1
    simp [h1]

theorem copyGoto_eq (n m : Nat) (tab : Array (Array Int))
    (hn : tab.size = n) (hm : ∀ r ∈ tab.toList, r.size = m) : copyGoto n m tab = tab := by
  subst hn
  unfold copyGoto
  have row : ∀ i ∈ List.range tab.size,
      ((List.range m).map fun j => ((tab[i]?).bind (·[j]?)).getD (-2)).toArray =
        (tab.toList[i]?).getD #[] := by
    intro i hi
    have hi : i < tab.size := List.mem_range.1 hi
    have hr : tab[i].size = m := hm _ (Array.getElem_mem_toList hi)
    simp only [Array.getElem?_toList, Array.getElem?_eq_getElem hi, Option.bind_some, Option.getD_some]
    simpa only [Array.getElem?_toList, Array.length_toList, hr] using
      congrArg List.toArray (list_range_map_getD tab[i].toList (-2))
  rw [List.map_congr_left row, ← Array.length_toList, list_range_map_getD]

/-- whole tables: decoding what the `-zip` generator encoded gives back the tables -/
theorem C12_zipTables_eq (T : PTables) (h : GotoRect T) : zipTables T = T := by
  unfold zipTables
  rw [zipAction_eq, copyGoto_eq _ _ _ h.1 h.2]

/-- the action part needs no hypothesis at all -/
theorem C12_zipTables_action (T : PTables) : (zipTables T).action = T.action := zipAction_eq _

/-- look-ups agree entry by entry -/
theorem C12_zip_act_eq (T : PTables) (s t : Nat) : (zipTables T).act s t = T.act s t := by
  unfold PTables.act; rw [C12_zipTables_action]

/-- run level: the generated parser behaves identically on the `-zip` tables: same outcome
    (result / error with token and expected list / action failure), same final stack, same
    action log and same number of Scan calls, on every input and from every earlier state -/
theorem C12_zip_parse_eq (cfg : PCfg) (h : GotoRect cfg.T) (input : List Nat) (fuel : Nat)
    (old : PState) :
    parse { cfg with T := zipTables cfg.T } input fuel old = parse cfg input fuel old := by
  rw [C12_zipTables_eq cfg.T h]

/-! ### non-vacuity -/

def exZipT : PTables :=
  { terminals := ["INVALID", "␚", "a"], nts := ["S'", "S"],
    action := #[#[none, none, some (.shift 2)], #[none, some .accept, none],
                #[none, some (.reduce 1), none]],
    goto_ := #[#[-1, 1], #[-1, -1], #[-1, -1]],
    canRecover := #[false, false, false],
    prodNT := #[0, 1], prodLen := #[1, 1], prodKind := #[.dflt, .dflt],
    conflictStates := 0, nStates := 3, numSymbols := 3 }

example : GotoRect exZipT := by
  refine ⟨rfl, ?_⟩
  intro r hr
  simp [exZipT] at hr
  rcases hr with rfl | rfl <;> rfl

example : (zipTables exZipT).goto_ = exZipT.goto_ := by decide
/-- a table that is too short is NOT reproduced (the hypothesis is not decoration) -/
example : copyGoto 2 2 #[#[5, 6]] ≠ #[#[5, 6]] := by decide

end Gocc
