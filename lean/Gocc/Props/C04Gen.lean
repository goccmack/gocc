import Gocc.Props.C04
import Gocc.Props.C05Gen
/-
C04 at generator level — what gocc ANNOUNCES.

`genParser` (Model/LR1) counts, as `main` does through `GenActionTable`'s `conflicts` map, the
rows of the action table in which `ItemSet.Action` raised the conflict flag for some terminal
(`conflictStates`, the number gocc prints as "N LR-1 conflicts").  For EVERY grammar on which the
generator model returns tables this number is exactly the number of LR(1) states of the model's
collection in which some terminal is proposed two different actions by the state's items
(`C04_genParser_conflict_count`), hence zero conflicts are announced iff no state has such a
terminal (`C04_genParser_no_conflict_iff`).  With `C04_no_conflict_unambiguous` (no conflict ⇒
unambiguous) and the exact table/announcement correspondence of the checks this is the "exactly
when" of the property, on the model side, without a bound on the grammar.

Quantifier: all syntax parts and token-id lists; all states; all terminals.
-/
namespace Gocc

/-- some terminal is proposed two different actions in `st` -/
def stateConflicts (C : LRCtx) (st : LRState) : Bool :=
  C.S.terminals.any fun sym => competing (proposals C st sym)

/-- the flag `ItemSet.Action` raises is `competing` of the proposals -/
theorem setAction_flag {C : LRCtx} {st : LRState} {sym : String} {b : Option Act × Bool}
    (h : setAction C st sym = .ok b) : b.2 = competing (proposals C st sym) := by
  rw [C05_setAction_eq_foldActs] at h
  exact C04_conflict_flag (r := b.1) (c := b.2) h

/-- C04, generator level: the announced number is the number of states in which some terminal
    is proposed two different actions -/
theorem C04_genParser_conflict_count {syn : List SProd} {ids : List String} {r : LRResult}
    (h : genParser syn ids = .ok r) :
    r.tables.conflictStates = (r.states.toList.filter (stateConflicts r.ctx)).length := by
  refine conflictStates_eq h fun st row hrow => ?_
  have := congrArg (List.any · id) (mapM_ok_map (P := (·.2))
    (Q := fun sym => competing (proposals r.ctx st sym)) (fun _ _ hb => setAction_flag hb) hrow)
  rw [List.any_map, List.any_map] at this
  exact this

/-- no conflict is announced iff no state has a terminal with two different proposed actions -/
theorem C04_genParser_no_conflict_iff {syn : List SProd} {ids : List String} {r : LRResult}
    (h : genParser syn ids = .ok r) :
    r.tables.conflictStates = 0 ↔
      ∀ st ∈ r.states.toList, ∀ sym ∈ r.ctx.S.terminals, competing (proposals r.ctx st sym) = false := by
  rw [C04_genParser_conflict_count h, List.length_eq_zero_iff, List.filter_eq_nil_iff]
  simp only [stateConflicts, List.any_eq_true, not_exists, not_and, Bool.not_eq_true]

/-! ### non-vacuity (the grammars of Props/C05Gen) -/

/-- the shift/reduce grammar announces exactly the states the right-hand side counts, and that
    number is not zero -/
example : (genParser C05GenEx.synSR ["n", "p"]).toOption.map (fun r =>
    decide (r.tables.conflictStates = (r.states.toList.filter (stateConflicts r.ctx)).length ∧
      r.tables.conflictStates = 1)) = some true :=
  toOption_map_of C05GenEx.runSR (·.2.2.2.1)

/-- an LR(1) grammar announces none -/
example : (genParser [{ head := "S", body := [⟨.tokId, "a"⟩, ⟨.prodId, "S"⟩, ⟨.tokId, "b"⟩] },
      { head := "S", body := [⟨.tokId, "c"⟩] }] ["a", "b", "c"]).toOption.map
    (fun r => r.tables.conflictStates) = some 0 := by
  decide +kernel

end Gocc
