import Gocc.Model.GenVCert
import Gocc.Proofs.GenComplete
import Gocc.Props.C02Complete
import Gocc.Props.C02Gen
/-
C02 at the generator level, COMPLETENESS half — for EVERY grammar for which the generator model
records no LR(1) conflict, the generated tables pass the completeness validator, with certificates
read off the generator's own FIRST sets and item sets; hence the generated parser accepts every
sentence of the grammar, and (with `C02_genParser_safe`) accepts exactly the sentences.

Object: `genParser syn tokIds` (Model/LR1.lean), the validators `firstOk` / `complete`
(Model/ValidateC.lean), the numbered grammar `ngrammarOf (augment syn) terminals nts`, and the
certificates `fcOf r` / `claOf r` (Model/GenCert.lean: nullable / FIRST pairs from `r.ctx.fs`; the
items `(production, dot, look-ahead token type)` of `r.states`) — the arguments with which the model
driver runs the validator per grammar (`Driver/Gram.lean`, `opValidate`).

Quantifiers: all `syn`, all `tokIds`, all `r` with `genParser syn tokIds = .ok r`, under
  * `NamesOk syn tokIds` and `r.states.size ≤ 4096` — as for `C02_genParser_safe`
    (Props/C02Gen.lean); the bound says that `lrLoop` expanded every state, so every symbol with a
    non-empty `goto` set has its transition;
  * `r.tables.conflictStates = 0` — no fold of `setAction` recorded a conflict, so the action every
    item proposes is the table entry (`C02GenCompleteEx.conflict_*`: with a conflict `complete`
    answers `false`);
  * `CompleteNamesOk syn` (Proofs/GenFacts.lean, decidable):
        "INVALID" ∉ body symbols ∧ "empty" ∉ heads ∧
        ∀ p ∈ syn, prodLen p ≠ 0 → "empty" ∉ body symbols of p
    Why each clause is there (a rejected grammar for each is at the end of this file):
      - `INVALID` in a body: `itemAction` returns no action for the column `INVALID`, so an item
        expecting it has no shift entry (and a complete item with that look-ahead no reduce entry);
      - a production called `empty`: `prodLen` makes `A : empty` an empty alternative whereas
        `firstPass` takes FIRST of the non-terminal `empty` — `A` is nullable in the grammar but has
        no marker `empty` in its FIRST set (`firstOk` fails);
      - `empty` inside a non-empty alternative (`S : B empty`): `firstS` reads the terminal's FIRST
        set `{empty}` as "nullable", so the look-aheads of `B : …` in the closure lack the terminal
        `empty` (K1 fails; and the generated parser does reject `b empty`).
    The clauses are sufficient, not necessary, for the individual grammar: `S : a empty` passes
    (no non-terminal is followed by `empty`), as does `S : a empty ; empty : b`.
    NOT needed: anything about `error` (recovery plays no role: along the run of a sentence an
    action entry is never missing), `empty` among the token ids, `empty` as first symbol followed by
    other symbols (`A : empty b` is an empty alternative for every component of the model).

Proof (Proofs/GenCompleteFirst.lean, GenCompleteItems.lean, GenFacts.lean, GenComplete.lean):
  FIRST  the fixed point `first_fixpoint` (Proofs/FirstSets.lean), production by production, says that
         `firstS` of every body is contained in the set of the head; `firstS` contains everything
         reachable through nullable prefixes; elements of the sets are `empty` or terminals other
         than `INVALID`;
  K0     state 0 is `closure [S' : •Start, ␚]` (`LRInv`);
  K1     every state is closed under `closureStep` (`genParser_states_closed`), and
         `firstOfSeq (fcOf r)` is covered by `first1`; look-aheads are terminals `≠ empty, INVALID`
         (an invariant of all items of all states, proved along `lrLoop` / `closureLoop`);
  K2     `Expanded` gives the transition, the target has the same items as the `goto` set
         (`sameItems` + no duplicates ⇒ inclusion in both directions), the shift entry is what the
         item proposes (no conflict recorded), the goto entry is `st.next`;
  K3     a complete item proposes `reduce p` / `accept` on its look-ahead; items of production 0
         have look-ahead `␚` (same invariant).
-/
namespace Gocc

/-- (C02-gen-complete) for every grammar without recorded conflict, the generated
    tables pass the completeness validator with the generator's own certificates. -/
theorem C02_genParser_complete (syn : List SProd) (tokIds : List String) (r : LRResult)
    (h : genParser syn tokIds = .ok r) (hn : NamesOk syn tokIds) (hsz : r.states.size ≤ 4096)
    (hc : r.tables.conflictStates = 0) (hx : CompleteNamesOk syn) :
    firstOk (ngrammarOf (augment syn) r.tables.terminals r.tables.nts) (fcOf r) = true ∧
    complete (ngrammarOf (augment syn) r.tables.terminals r.tables.nts) r.tables (fcOf r)
      (claOf r) = true :=
  GenComplete.genParser_complete h hn hsz hc hx

/-- the FIRST half holds with or without conflicts, whatever the number of states -/
theorem C02_genParser_firstOk (syn : List SProd) (tokIds : List String) (r : LRResult)
    (h : genParser syn tokIds = .ok r) (hn : NamesOk syn tokIds) (hx : CompleteNamesOk syn) :
    firstOk (ngrammarOf (augment syn) r.tables.terminals r.tables.nts) (fcOf r) = true :=
  GenComplete.genParser_firstOk h hn hx

/-- (C02-gen-complete, parser) for every grammar without conflict: the parser running the
    GENERATED tables accepts every sentence of the grammar, for some (hence every larger,
    `C02_accept_fuel_mono`) fuel — `C02_sentence_accepted` instantiated with the generator's
    output.  `ActsOk cfg`: the semantic actions never fail (`C02_actsOk_of_kindsTotal`). -/
theorem C02_generated_sentence_accepted {syn : List SProd} {tokIds : List String} {r : LRResult}
    (h : genParser syn tokIds = .ok r) (hn : NamesOk syn tokIds) (hsz : r.states.size ≤ 4096)
    (hc : r.tables.conflictStates = 0) (hx : CompleteNamesOk syn)
    {cfg : PCfg} (hA : ActsOk cfg) (hT : cfg.T = r.tables) {w : List Nat}
    (hs : NSentence (ngrammarOf (augment syn) r.tables.terminals r.tables.nts) w) (old : PState) :
    ∃ fuel res, (parse cfg w fuel old).1 = Outcome.accept res :=
  C02_sentence_accepted (C02_genParser_complete syn tokIds r h hn hsz hc hx).1
    (C02_genParser_complete syn tokIds r h hn hsz hc hx).2 hA hT hs old

/-- (C02-gen, both directions) for every grammar without conflict and without `error`
    alternative: the generated parser accepts exactly the sentences of the grammar
    (`C02_accept_iff_sentence` with `C02_genParser_safe` and `C02_genParser_complete`). -/
theorem C02_generated_accept_iff_sentence {syn : List SProd} {tokIds : List String} {r : LRResult}
    (h : genParser syn tokIds = .ok r) (hn : NamesOk syn tokIds) (hsz : r.states.size ≤ 4096)
    (hc : r.tables.conflictStates = 0) (hx : CompleteNamesOk syn)
    (hr : ∀ s : Nat, r.tables.canRecover[s]?.getD false = false)
    {cfg : PCfg} (hA : ActsOk cfg) (hT : cfg.T = r.tables) {w : List Nat} (hw : 1 ∉ w)
    (old : PState) :
    (∃ fuel res, (parse cfg w fuel old).1 = Outcome.accept res) ↔
      NSentence (ngrammarOf (augment syn) r.tables.terminals r.tables.nts) w :=
  C02_accept_iff_sentence (C02_genParser_safe syn tokIds r h hn hsz).1
    (C02_genParser_safe syn tokIds r h hn hsz).2
    (C02_genParser_complete syn tokIds r h hn hsz hc hx).1
    (C02_genParser_complete syn tokIds r h hn hsz hc hx).2 hr hA hT hw old

/-- both validators on the tables generated for a grammar — completeness (`firstOk`, `complete`)
    and validity (`bodyNTsProductive`, `validItems`: Props/C06Gen.lean) —, the recorded conflicts
    and the number of states: the kernel runs the generator model ONCE per example grammar -/
def genChecks (syn : List SProd) (r : LRResult) : (Bool × Bool) × (Bool × Bool) × Nat × Nat :=
  ((firstOk (ngrammarOf (augment syn) r.tables.terminals r.tables.nts) (fcOf r),
    complete (ngrammarOf (augment syn) r.tables.terminals r.tables.nts) r.tables (fcOf r)
      (claOf r)),
   (bodyNTsProductive (ngrammarOf (augment syn) r.tables.terminals r.tables.nts),
    validItems (ngrammarOf (augment syn) r.tables.terminals r.tables.nts) r.tables (claOf r)
      (vcertOf (ngrammarOf (augment syn) r.tables.terminals r.tables.nts))),
   r.tables.conflictStates, r.states.size)

/-! ### Non-vacuity: `S : a S b <<10>> | c <<11>>` (`C02GenEx.syn`, `C02GenEx.ids`) -/
namespace C02GenCompleteEx

open C02GenEx (syn ids)

theorem names_ok : NamesOk syn ids := by decide
theorem cnames_ok : CompleteNamesOk syn := by decide
example : NamesOk syn ids := names_ok
example : CompleteNamesOk syn := cnames_ok

/-- `CompleteNamesOk` is not trivially true -/
example : ¬ CompleteNamesOk [{ head := "S", body := [⟨.tokId, "a"⟩, ⟨.tokId, "INVALID"⟩] }] := by
  decide
example : ¬ CompleteNamesOk [{ head := "S", body := [⟨.prodId, "empty"⟩] },
    { head := "empty", body := [⟨.tokId, "b"⟩] }] := by decide
example : ¬ CompleteNamesOk [{ head := "S", body := [⟨.prodId, "B"⟩, ⟨.tokId, "empty"⟩] },
    { head := "B", body := [⟨.tokId, "b"⟩] }] := by decide

/-- what the hypotheses of the theorems need to know about a run -/
structure Facts where
  nStates : Nat
  conflicts : Nat
  terminals : List String
  nts : List String
  kindsTotal : Bool
  noRecovery : Bool
deriving DecidableEq

def facts (r : LRResult) : Facts :=
  { nStates := r.states.size, conflicts := r.tables.conflictStates,
    terminals := r.tables.terminals, nts := r.tables.nts, kindsTotal := Gocc.kindsTotal r.tables,
    noRecovery := r.tables.canRecover.toList.all (fun b => !b) }

/-- kernel evaluation of the model: 10 states, no conflict, the numbering, total actions, no
    recovery state; and — for comparison with the theorems — both validators evaluated directly on
    the generated tables answer `true` -/
theorem run2 : (genParser syn ids).toOption.map (fun r => (facts r, genChecks syn r)) =
    some ({ nStates := 10, conflicts := 0, terminals := ["INVALID", "␚", "a", "b", "c"],
            nts := ["S'", "S"], kindsTotal := true, noRecovery := true },
          (true, true), (true, true), 0, 10) := by
  decide +kernel

theorem run2_facts {r : LRResult} (h : genParser syn ids = .ok r) :
    r.states.size = 10 ∧ r.tables.conflictStates = 0 ∧
    r.tables.terminals = ["INVALID", "␚", "a", "b", "c"] ∧ r.tables.nts = ["S'", "S"] ∧
    kindsTotal r.tables = true ∧ (r.tables.canRecover.toList.all (fun b => !b)) = true := by
  have hrun := of_toOption_map run2 h
  replace hrun := (Prod.mk.inj hrun).1
  simp only [facts, Facts.mk.injEq] at hrun
  exact hrun

/-- the numbered grammar of the run: `S' : S ;  S : a S b | c` with `a b c` = 2 3 4 -/
def Gex : NGrammar :=
  { prods := #[(0, [Sym.nt 1]), (1, [Sym.t 2, Sym.nt 1, Sym.t 3]), (1, [Sym.t 4])] }

theorem hyps {r : LRResult} (h : genParser syn ids = .ok r) :
    r.states.size ≤ 4096 ∧ r.tables.conflictStates = 0 ∧
    (∀ s : Nat, r.tables.canRecover[s]?.getD false = false) ∧
    ActsOk { T := r.tables, errTerm := 0, failAt := 0 } ∧
    ngrammarOf (augment syn) r.tables.terminals r.tables.nts = Gex := by
  obtain ⟨f1, f2, f3, f4, f5, f6⟩ := run2_facts h
  exact ⟨by rw [f1]; decide, f2, noRecovery_of_all f6, C02_actsOk_of_kindsTotal rfl f5,
    by rw [f3, f4]; exact NGrammar.ext_prods (by decide +kernel)⟩

/-- the theorem applies: the generated tables pass the completeness validator (no validator run
    involved) -/
example (r : LRResult) (h : genParser syn ids = .ok r) :
    firstOk (ngrammarOf (augment syn) r.tables.terminals r.tables.nts) (fcOf r) = true ∧
    complete (ngrammarOf (augment syn) r.tables.terminals r.tables.nts) r.tables (fcOf r)
      (claOf r) = true :=
  C02_genParser_complete syn ids r h names_ok (hyps h).1 (hyps h).2.1 cnames_ok

/-- for comparison, the validator evaluated directly on the generated tables -/
example : (genParser syn ids).toOption.map (fun r =>
      (firstOk (ngrammarOf (augment syn) r.tables.terminals r.tables.nts) (fcOf r),
       complete (ngrammarOf (augment syn) r.tables.terminals r.tables.nts) r.tables (fcOf r)
         (claOf r))) = some (true, true) :=
  toOption_map_of run2 (·.2.1)

/-- `a a c b b` is a sentence — by a derivation, not by running the parser -/
theorem sentence_aacbb : NSentence Gex [2, 2, 4, 3, 3] := by
  have h1 : NDerives Gex [Sym.t 2, Sym.nt 1, Sym.t 3] [2, 4, 3] :=
    .term (NDerives.nt (G := Gex) (p := 2) (α := [Sym.t 3]) (u := [4]) (v := [3]) (by decide)
      (.term .nil) (.term .nil))
  have h2 : NDerives Gex [Sym.t 2, Sym.nt 1, Sym.t 3] [2, 2, 4, 3, 3] :=
    .term (NDerives.nt (G := Gex) (p := 1) (α := [Sym.t 3]) (u := [2, 4, 3]) (v := [3])
      (by decide) h1 (.term .nil))
  exact NDerives.nt (G := Gex) (p := 1) (α := []) (u := [2, 2, 4, 3, 3]) (v := []) (by decide)
    h2 .nil

/-- hence, THROUGH THE GENERATOR-LEVEL THEOREM (no evaluation of `parse`, no validator run), the
    parser with the generated tables accepts `a a c b b`, from any previous parser state -/
theorem accepted_aacbb (r : LRResult) (h : genParser syn ids = .ok r) (old : PState) :
    ∃ fuel res, (parse { T := r.tables, errTerm := 0, failAt := 0 } [2, 2, 4, 3, 3] fuel old).1 =
      Outcome.accept res := by
  obtain ⟨hsz, hc, -, hA, hG⟩ := hyps h
  exact C02_generated_sentence_accepted h names_ok hsz hc cnames_ok hA rfl
    (by rw [hG]; exact sentence_aacbb) old

/-- … and the run exists -/
example : ∃ r, genParser syn ids = .ok r := C02GenEx.run_ok

/-- for this grammar the generated parser decides membership (both generator-level theorems) -/
example (r : LRResult) (h : genParser syn ids = .ok r) {w : List Nat} (hw : 1 ∉ w)
    (old : PState) :
    (∃ fuel res, (parse { T := r.tables, errTerm := 0, failAt := 0 } w fuel old).1 =
      Outcome.accept res) ↔
      NSentence (ngrammarOf (augment syn) r.tables.terminals r.tables.nts) w := by
  obtain ⟨hsz, hc, hr, hA, -⟩ := hyps h
  exact C02_generated_accept_iff_sentence h names_ok hsz hc cnames_ok hr hA rfl hw old

/-! ### the hypotheses matter
(`firstOk`, `complete`, recorded conflicts, number of states) of the tables generated for a grammar
— kernel evaluation of the model and of the validator. -/

def verdictC (syn : List SProd) (ids : List String) : Option (Bool × Bool × Nat × Nat) :=
  (genParser syn ids).toOption.map fun r =>
    (firstOk (ngrammarOf (augment syn) r.tables.terminals r.tables.nts) (fcOf r),
     complete (ngrammarOf (augment syn) r.tables.terminals r.tables.nts) r.tables (fcOf r)
       (claOf r),
     r.tables.conflictStates, r.states.size)

theorem verdictC_of {syn : List SProd} {ids : List String}
    {v : (Bool × Bool) × (Bool × Bool) × Nat × Nat}
    (h : (genParser syn ids).toOption.map (genChecks syn) = some v) :
    verdictC syn ids = some (v.1.1, v.1.2, v.2.2) :=
  toOption_map_of h fun v => (v.1.1, v.1.2, v.2.2)

/-- `hc` is needed — shift/reduce: `E : E + E | x` is generated without panic (the conflict is
    resolved in favour of shift), one state records a conflict, and `complete` answers `false`
    (the item `E : E + E •, +` has no reduce entry) -/
def ambig : List SProd :=
  [{ head := "E", body := [⟨.prodId, "E"⟩, ⟨.tokId, "+"⟩, ⟨.prodId, "E"⟩] },
   { head := "E", body := [⟨.tokId, "x"⟩] }]
example : NamesOk ambig ["+", "x"] ∧ CompleteNamesOk ambig := by decide
theorem ambig_checks : (genParser ambig ["+", "x"]).toOption.map (genChecks ambig) =
    some ((true, false), (true, true), 1, 5) := by decide +kernel
theorem conflict_shift_reduce : verdictC ambig ["+", "x"] = some (true, false, 1, 5) :=
  verdictC_of ambig_checks

/-- dangling else `S : i S | i S e S | x` -/
def dangling : List SProd :=
  [{ head := "S", body := [⟨.tokId, "i"⟩, ⟨.prodId, "S"⟩] },
   { head := "S", body := [⟨.tokId, "i"⟩, ⟨.prodId, "S"⟩, ⟨.tokId, "e"⟩, ⟨.prodId, "S"⟩] },
   { head := "S", body := [⟨.tokId, "x"⟩] }]
example : NamesOk dangling ["e", "i", "x"] ∧ CompleteNamesOk dangling := by decide
theorem dangling_checks : (genParser dangling ["e", "i", "x"]).toOption.map (genChecks dangling) =
    some ((true, false), (true, true), 1, 12) := by decide +kernel
theorem conflict_dangling_else : verdictC dangling ["e", "i", "x"] = some (true, false, 1, 12) :=
  verdictC_of dangling_checks

/-- reduce/reduce: `S : A | B ; A : a ; B : a` -/
def rr : List SProd :=
  [{ head := "S", body := [⟨.prodId, "A"⟩] }, { head := "S", body := [⟨.prodId, "B"⟩] },
   { head := "A", body := [⟨.tokId, "a"⟩] }, { head := "B", body := [⟨.tokId, "a"⟩] }]
example : NamesOk rr ["a"] ∧ CompleteNamesOk rr := by decide
theorem conflict_reduce_reduce : verdictC rr ["a"] = some (true, false, 1, 5) := by
  decide +kernel

/-! the clauses of `CompleteNamesOk`: grammars that satisfy `NamesOk`, violate one clause, are
generated without panic and without conflict, and are rejected by the validator -/

/-- `INVALID` in a body: `S : a INVALID` -/
def gInvalid : List SProd := [{ head := "S", body := [⟨.tokId, "a"⟩, ⟨.tokId, "INVALID"⟩] }]
example : NamesOk gInvalid ["a"] ∧ ¬ CompleteNamesOk gInvalid := by decide
theorem gInvalid_checks : (genParser gInvalid ["a"]).toOption.map (genChecks gInvalid) =
    some ((true, false), (true, false), 0, 4) := by decide +kernel
theorem invalid_in_body : verdictC gInvalid ["a"] = some (true, false, 0, 4) :=
  verdictC_of gInvalid_checks

/-- a production called `empty`: `S : A ; A : empty ; empty : b` — rejected by the `firstOk` half
    (`A` is nullable in the grammar, not in the generator's FIRST sets).  `complete` itself answers
    `true` here, and no witness with `complete = false` is to be expected for this clause: (K1) is
    checked against the same certificate the generator used for its closures, so the two agree;
    what is lost is `firstOk`, without which `C02_sentence_accepted` does not apply. -/
def gEmptyHead : List SProd :=
  [{ head := "S", body := [⟨.prodId, "A"⟩] }, { head := "A", body := [⟨.prodId, "empty"⟩] },
   { head := "empty", body := [⟨.tokId, "b"⟩] }]
example : NamesOk gEmptyHead ["b"] ∧ ¬ CompleteNamesOk gEmptyHead := by decide
theorem gEmptyHead_checks : (genParser gEmptyHead ["b"]).toOption.map (genChecks gEmptyHead) =
    some ((false, true), (true, true), 0, 3) := by decide +kernel
theorem empty_as_head : verdictC gEmptyHead ["b"] = some (false, true, 0, 3) :=
  verdictC_of gEmptyHead_checks

/-- `empty` inside a non-empty alternative: `S : B empty ; B : b` -/
def gEmptyMid : List SProd :=
  [{ head := "S", body := [⟨.prodId, "B"⟩, ⟨.tokId, "empty"⟩] },
   { head := "B", body := [⟨.tokId, "b"⟩] }]
example : NamesOk gEmptyMid ["b"] ∧ ¬ CompleteNamesOk gEmptyMid := by decide
theorem gEmptyMid_checks : (genParser gEmptyMid ["b"]).toOption.map (genChecks gEmptyMid) =
    some ((true, false), (true, false), 0, 5) := by decide +kernel
theorem empty_in_body : verdictC gEmptyMid ["b"] = some (true, false, 0, 5) :=
  verdictC_of gEmptyMid_checks

/-- the clauses are sufficient, not necessary: `S : a empty` violates the third one and passes -/
example : ¬ CompleteNamesOk [{ head := "S", body := [⟨.tokId, "a"⟩, ⟨.tokId, "empty"⟩] }] := by
  decide
example : verdictC [{ head := "S", body := [⟨.tokId, "a"⟩, ⟨.tokId, "empty"⟩] }] ["a"] =
    some (true, true, 0, 4) := by decide +kernel

/-- not excluded, and fine: `empty` alternatives, `empty` followed by other symbols, `error`,
    `empty` / `error` among the token ids, `S'` as a later head.  (The grammar is kept small for the
    kernel: `first1` sorts the look-aheads with `List.mergeSort`, whose well-founded recursion the
    kernel only unfolds for lists of fewer than two elements.) -/
def fine : List SProd := [
  { head := "S", body := [⟨.prodId, "A"⟩, ⟨.tokId, "c"⟩] },
  { head := "A", body := [⟨.tokId, "empty"⟩, ⟨.tokId, "b"⟩] },
  { head := "A", body := [⟨.tokId, "error"⟩, ⟨.tokId, "a"⟩] },
  { head := "S'", body := [⟨.tokId, "a"⟩] } ]
example : NamesOk fine ["a", "b", "c", "empty", "error"] ∧ CompleteNamesOk fine := by decide
example : (verdictC fine ["a", "b", "c", "empty", "error"]).map (fun v => (v.1, v.2.1, v.2.2.1)) =
    some (true, true, 0) := by decide +kernel

end C02GenCompleteEx

end Gocc
