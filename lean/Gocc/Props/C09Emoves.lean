import Gocc.Proofs.EmovesUniverse
import Gocc.Props.C09
/-
C09: the lexer-side ε-closure `emoves` (model of `Item.Emoves()`,
internal/lexer/items/item.go) is never cut by its fuel.

`C09_emoves_complete_partial` (Props/C09.lean) is relative to a finite `emoveStep`-closed universe `U`
with `1 + |U| * (D + 1) ≤ (C.fuel + 2)^2`, supplied by the caller.  Proofs/EmovesUniverse.lean
constructs one for an ARBITRARY `LexCtx` and an ARBITRARY start item `i`:
    U = i :: all dotted positions of the pattern tree of production `i.prod`
        (paths `q ++ [j]`, node at `q` exists, `j ≤ len`),         |U| ≤ 2 * size
    D = size            (a node has at most `size - 1` children, the step adds at most one item)
where `size = (C.prods[i.prod]).pat.size`; since `C.fuel ≥ 4 * size + 12`,
    1 + 2 size (size + 1)  ≤  (4 size + 14)^2  ≤  (C.fuel + 2)^2 .
So the statements below have NO hypothesis on `C` or on the start item: a start item that is not a
position of the tree (bad production index, path leaving the tree, position beyond the end) either
has no successors or only successors that are proper positions.
-/
namespace Gocc

/-- COMPLETENESS, unconditional: `emoves C i` contains every basic item that is ε-reachable from `i`
    (`EReach`: by `emoveStep` through non-basic items) — the fuel `(C.fuel + 2)^2` of the model is
    never exhausted, i.e. the model computes what the unbounded Go loop computes. -/
theorem C09_emoves_complete (C : LexCtx) (i : LItem) :
    ∀ y, EReach C i y → C.isBasic y = true → y ∈ emoves C i :=
  emoves_complete C i

/-- SOUNDNESS: `emoves C i` contains only basic items ε-reachable from `i`. -/
theorem C09_emoves_sound (C : LexCtx) (i : LItem) :
    ∀ y ∈ emoves C i, EReach C i y ∧ C.isBasic y = true :=
  emoves_sound C i

/-- exact characterisation of the result (as a set) -/
theorem C09_emoves_iff (C : LexCtx) (i y : LItem) :
    y ∈ emoves C i ↔ EReach C i y ∧ C.isBasic y = true :=
  mem_emoves_iff C i y

/-- `NewItem(id).Emoves()` (used by `initialItems`, `itemsSet0`).  No `k < C.prods.size` needed. -/
theorem C09_emoves_start_complete (C : LexCtx) (k : Nat) :
    ∀ y, EReach C ⟨k, [0]⟩ y → C.isBasic y = true → y ∈ emoves C ⟨k, [0]⟩ :=
  C09_emoves_complete C ⟨k, [0]⟩

/-- `Item.Move…()` = `emoves` of the item after the dot has moved over the expected symbol
    (used by `moveOn`, `moveDot`, `moveRef`) -/
theorem C09_emoves_moved_complete (C : LexCtx) (j : LItem) :
    ∀ y, EReach C { j with path := incLast j.path } y → C.isBasic y = true → y ∈ moved C j :=
  C09_emoves_complete C _

theorem C09_emoves_moved_iff (C : LexCtx) (j y : LItem) :
    y ∈ moved C j ↔ EReach C { j with path := incLast j.path } y ∧ C.isBasic y = true :=
  C09_emoves_iff C _ y

/-! ### Non-vacuity -/

/-- Bool check of an explicit ε-path `x → l[0] → l[1] → …` -/
def c09eChain (C : LexCtx) : LItem → List LItem → Bool
  | _, [] => true
  | x, y :: rest => !C.isBasic x && (emoveStep C x).contains y && c09eChain C y rest

theorem c09eChain_reach {C : LexCtx} {s : LItem} : ∀ (l : List LItem) (x : LItem),
    EReach C s x → c09eChain C x l = true → EReach C s ((x :: l).getLast (by simp))
  | [], x, h, _ => by simpa using h
  | y :: rest, x, h, hc => by
    simp only [c09eChain, Bool.and_eq_true, Bool.not_eq_eq_eq_not, Bool.not_true] at hc
    have hy : y ∈ emoveStep C x := by simpa using hc.1.2
    have := c09eChain_reach rest y (EReach.step h hc.1.1 hy) hc.2
    simpa using this

/-! #### 1. `t : { 'a' | [ 'b' ] } ;` (`c09LexC`): no universe to supply -/

example : ∀ y, EReach c09LexC ⟨0, [0]⟩ y → c09LexC.isBasic y = true → y ∈ emoves c09LexC ⟨0, [0]⟩ :=
  C09_emoves_start_complete c09LexC 0

/-- the hypotheses are satisfiable: `t : { 'a' | [ •'b' ] }` is basic and ε-reachable from `t : •…`
    (through pat, alt, `{ }`, alt, `[ ]`) … -/
theorem c09e_reach_b : EReach c09LexC ⟨0, [0]⟩ ⟨0, [0, 0, 1, 0, 0, 0]⟩ ∧
    c09LexC.isBasic ⟨0, [0, 0, 1, 0, 0, 0]⟩ = true :=
  ⟨c09eChain_reach [⟨0, [0, 0]⟩, ⟨0, [0, 0, 0]⟩, ⟨0, [0, 0, 1, 0]⟩, ⟨0, [0, 0, 1, 0, 0]⟩,
      ⟨0, [0, 0, 1, 0, 0, 0]⟩] _ .refl (by decide +kernel), by decide +kernel⟩

/-- … so the theorem puts it in the result (and the computed result agrees) -/
example : (⟨0, [0, 0, 1, 0, 0, 0]⟩ : LItem) ∈ emoves c09LexC ⟨0, [0]⟩ :=
  C09_emoves_complete _ _ _ c09e_reach_b.1 c09e_reach_b.2

/-- the ε-cycle that the visited set cuts: from the `{ }` node at its end position `[0,0,2]` through
    the nullable alternative `[ 'b' ]` back to `[0,0,2]` in five steps -/
example : c09eChain c09LexC ⟨0, [0, 0, 2]⟩ [⟨0, [0, 0, 1, 0]⟩, ⟨0, [0, 0, 1, 0, 0]⟩,
    ⟨0, [0, 0, 1, 1]⟩, ⟨0, [0, 0, 2]⟩] = true := by decide +kernel

/-- a start item produced by `Move`: after `'a'` (item `[0,0,0,0]` moved to `[0,0,0,1]`) the closure
    goes round the repetition: end of `t`, `'b'`, `'a'` again -/
example : moved c09LexC ⟨0, [0, 0, 0, 0]⟩ = [⟨0, [1]⟩, ⟨0, [0, 0, 1, 0, 0, 0]⟩, ⟨0, [0, 0, 0, 0]⟩] := by
  decide +kernel

example : (⟨0, [1]⟩ : LItem) ∈ moved c09LexC ⟨0, [0, 0, 0, 0]⟩ :=
  C09_emoves_moved_complete _ _ _
    (c09eChain_reach [⟨0, [0, 0, 2]⟩, ⟨0, [0, 1]⟩, ⟨0, [1]⟩] _ .refl (by decide +kernel)) (by decide +kernel)

/-- soundness used the other way round: a non-basic position is not returned -/
example : (⟨0, [0, 0, 1, 1]⟩ : LItem) ∉ emoves c09LexC ⟨0, [0]⟩ :=
  fun h => absurd (C09_emoves_sound _ _ _ h).2 (by decide +kernel)

/-- start items outside the tree are covered too (the statement has no well-formedness hypothesis):
    unknown production, and a position beyond the end of a `[ ]` node -/
example : emoves c09LexC ⟨7, [0]⟩ = [] ∧
    emoves c09LexC ⟨0, [0, 0, 1, 0, 5]⟩ = [⟨0, [1]⟩, ⟨0, [0, 0, 1, 0, 0, 0]⟩, ⟨0, [0, 0, 0, 0]⟩] := by
  decide +kernel

/-! #### 2. nesting depth 4, mixing `( )`, `{ }`, `[ ]`, alternatives, a regdef reference
```
u  : 'x' ( 'a' | { [ 'b' | ( 'c' | _r ) ] 'e' | [ 'f' ] } ) [ 'z' ] | . ;
_r : 'q' { 'q' } ;
```
-/

def c09eLexC : LexCtx :=
  { prods := #[
      { kind := .tok, id := "u",
        pat := .mk [
          .mk [.lit 120,
               .grp (.mk [
                 .mk [.lit 97],
                 .mk [.rep (.mk [
                   .mk [.opt (.mk [.mk [.lit 98], .mk [.grp (.mk [.mk [.lit 99], .mk [.ref "_r"]])]]),
                        .lit 101],
                   .mk [.opt (.mk [.mk [.lit 102]])]])]]),
               .opt (.mk [.mk [.lit 122]])],
          .mk [.dot]] },
      { kind := .reg, id := "_r", pat := .mk [.mk [.lit 113, .rep (.mk [.mk [.lit 113]])]] }] }

/-- the universe the proof builds for production `u` (46 positions + the start item) and the
    numbers in the fuel inequality: `1 + |U| * (D + 1) = 1 + 47 * 35 ≤ (C.fuel + 2)^2 = 182^2` -/
example : (EmovesU.univ c09eLexC 0).length = 46 ∧ EmovesU.univD c09eLexC 0 = 34 ∧
    c09eLexC.fuel = 180 := by decide +kernel

example : emoves c09eLexC ⟨0, [0]⟩ = [⟨0, [1, 0]⟩, ⟨0, [0, 0]⟩] := by decide +kernel

/-- after `'x'`: into the group, both alternatives, the repetition (its body and its exit),
    the option in front of `'e'` with its nested group, the nullable second alternative, … -/
theorem c09e_after_x : moved c09eLexC ⟨0, [0, 0]⟩ =
    [⟨0, [2]⟩,                                  -- end of u
     ⟨0, [0, 2, 0, 0]⟩,                         -- 'z'
     ⟨0, [0, 1, 1, 0, 0, 1]⟩,                   -- 'e'
     ⟨0, [0, 1, 1, 0, 0, 0, 1, 0, 1, 0]⟩,       -- _r
     ⟨0, [0, 1, 1, 0, 0, 0, 1, 0, 0, 0]⟩,       -- 'c'
     ⟨0, [0, 1, 1, 0, 0, 0, 0, 0]⟩,             -- 'b'
     ⟨0, [0, 1, 1, 0, 1, 0, 0, 0]⟩,             -- 'f'
     ⟨0, [0, 1, 0, 0]⟩] := by decide +kernel            -- 'a'

example : ∀ y, EReach c09eLexC ⟨0, [0, 1]⟩ y → c09eLexC.isBasic y = true →
    y ∈ moved c09eLexC ⟨0, [0, 0]⟩ :=
  C09_emoves_moved_complete c09eLexC ⟨0, [0, 0]⟩

/-- the deepest item (`_r` inside `( )` inside `[ ]` inside `{ }` inside `( )`) is reachable … -/
theorem c09e_reach_r : EReach c09eLexC ⟨0, [0, 1]⟩ ⟨0, [0, 1, 1, 0, 0, 0, 1, 0, 1, 0]⟩ :=
  c09eChain_reach [⟨0, [0, 1, 0]⟩, ⟨0, [0, 1, 1, 0]⟩, ⟨0, [0, 1, 1, 0, 0]⟩, ⟨0, [0, 1, 1, 0, 0, 0]⟩,
    ⟨0, [0, 1, 1, 0, 0, 0, 0]⟩, ⟨0, [0, 1, 1, 0, 0, 0, 1, 0]⟩, ⟨0, [0, 1, 1, 0, 0, 0, 1, 0, 0]⟩,
    ⟨0, [0, 1, 1, 0, 0, 0, 1, 0, 1, 0]⟩] _ .refl (by decide +kernel)

/-- … hence returned, by the theorem -/
example : (⟨0, [0, 1, 1, 0, 0, 0, 1, 0, 1, 0]⟩ : LItem) ∈ moved c09eLexC ⟨0, [0, 0]⟩ :=
  C09_emoves_moved_complete _ _ _ c09e_reach_r (by decide +kernel)

/-- the exit through the nullable alternative `[ 'f' ]` of the repetition reaches the end of `u`
    (pop out of `[ ]`, alt end, `{ }` end, alt end, `( )` end, skip `[ 'z' ]`, alt end → pat end) -/
example : (⟨0, [2]⟩ : LItem) ∈ emoves c09eLexC ⟨0, [0, 1, 1, 0, 1, 0, 0]⟩ :=
  C09_emoves_complete _ _ _
    (c09eChain_reach [⟨0, [0, 1, 1, 0, 1, 1]⟩, ⟨0, [0, 1, 1, 0, 2]⟩, ⟨0, [0, 1, 1, 1]⟩, ⟨0, [0, 1, 2]⟩,
      ⟨0, [0, 2]⟩, ⟨0, [0, 2, 0]⟩, ⟨0, [0, 3]⟩, ⟨0, [2]⟩] _ .refl (by decide +kernel)) (by decide +kernel)

/-- the second production (`_r : 'q' { 'q' }`) -/
example : emoves c09eLexC ⟨1, [0]⟩ = [⟨1, [0, 0]⟩] ∧
    moved c09eLexC ⟨1, [0, 0]⟩ = [⟨1, [1]⟩, ⟨1, [0, 1, 0, 0]⟩] := by decide +kernel

end Gocc
