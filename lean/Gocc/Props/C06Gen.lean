import Gocc.Proofs.GenValid
import Gocc.Props.C06
import Gocc.Props.C02GenComplete
/-
C06 at the generator level — for EVERY grammar whose non-terminals are productive, the tables
computed by the generator model pass the VALIDITY validator `validItems` (Model/ValidateV.lean: the
tables hold no action that is not justified by a derivation), with certificates computed from the
generator's own output; hence the error-reporting theorems of Props/C06.lean hold for the generated
parser of every conflict-free, error-free grammar with productive non-terminals — no per-grammar
validator run is involved.

Object: `genParser syn tokIds` (Model/LR1.lean), the validator `validItems`, the numbered grammar
`G = ngrammarOf (augment syn) terminals nts`, the LR(1) certificate `claOf r` (Model/GenCert.lean:
the item lists of the generator's states IN THE GENERATOR'S ORDER, look-aheads numbered,
duplicates erased) and the derivation certificate `vcertOf G` (Model/GenVCert.lean: productive /
nullable / FIRST facts of the numbered grammar, computed by a TOTAL fuel-bounded loop; the driver,
Driver/Gram.lean, runs the validator with the same `vcertOf`).

Quantifiers of `C06_genParser_validItems`: all `syn`, all `tokIds`, all `r` with
`genParser syn tokIds = .ok r`, under
  * `NamesOk syn tokIds`, `r.states.size ≤ 4096` — as for `C02_genParser_safe` (Props/C02Gen.lean).
    The bound is used for (V2): an unexpanded state would get `shift 0` entries, and no edge may
    enter state 0.  (V5) "no body holds terminal 1" is the clause `␚ ∉ bodies` of `NamesOk`.
  * `CompleteNamesOk syn` (Proofs/GenFacts.lean, Props/C02GenComplete.lean):
      - `INVALID` in no body: (V5) "no body holds terminal 0" — witness `C06GenEx.invalid_in_body`;
      - `empty` inside no non-empty alternative: the generator's `firstS` reads the terminal's
        FIRST set `{empty}` as "nullable", so `first1` hands out look-aheads that are not in the
        exact FIRST set — witness `C06GenEx.empty_in_body` (`validItems = false`);
      - no production called `empty`: used by the proof (the FIRST sets of the generator and of the
        numbered grammar are compared production by production; `A : empty` is an empty alternative
        for one and a reference to the non-terminal `empty` for the other).  For the witness of
        Props/C02GenComplete.lean (`S : A ; A : empty ; empty : b`) `validItems` still answers
        `true` (`C06GenEx.empty_as_head`): sufficient, not necessary, for the individual grammar.
  * `hp : bodyNTsProductive G = true` (Model/GenVCert.lean, decidable): every non-terminal that
    occurs in a body has an entry in `(vcertOf G).prod`, i.e. derives a terminal string.  This is
    check (V4) itself; it is what makes "viable prefix" mean "prefix of a sentence".  It implies
    that EVERY non-terminal with a production is productive (`C06_heads_productive`: the list is
    closed under the rule "body non-terminals productive ⟹ head productive").
    Witness: `C06GenEx.unproductive` (`S : a A ; A : b A`): `hp` fails, `validItems = false`, and
    the generated parser does report `b` as expected after `a` although no sentence exists.
  NOT needed: `conflictStates = 0` — conflict resolution only removes actions
  (`C06GenEx.conflict_valid`: `E : E + E | x` passes); anything about `error`.

The corollaries (A)–(D) instantiate Props/C06.lean with `C02_genParser_complete` (which needs
`conflictStates = 0`) and `C06_genParser_validItems`; `hr` = no recovery state (no `error`
alternative), `ActsOk cfg` = the semantic actions never fail.

Proof (Proofs/GenValidCert.lean, GenValidFirst.lean, GenValidItems.lean, GenValid.lean; the facts
about a run shared with the completeness proof: Proofs/GenFacts.lean):
  cert    `vcertOf` prepends, as long as there is one, a fact that is justified by the facts
          already listed and whose key is new; so the lists pass `prodListOk` / `nullListOk` /
          `firstListOk`.  The fuel exceeds the number of possible keys, the keys in a list are
          pairwise different, so (pigeonhole) the loop stops because no candidate is new: the
          nullable and FIRST lists are CLOSED under the grammar rules.
  FIRST   every element of the generator's FIRST sets (`firstSets`: an iteration of `firstPass`
          from the empty sets) is in the closed lists — induction over the passes and, inside a
          pass, over the productions (`firstS` is bounded from above by "reachable through a prefix
          of symbols that hold the marker `empty`").  Hence `first1 ⊆ firstOfSeq (vcertOf G).fc`.
  (V0/V1) `closureLoop` is a work list: an item is a kernel item or sits behind the item whose
          `closureStep` appended it; kernel items are the start item (state 0) or have the dot
          advanced; numbering and `eraseDups` keep first occurrences in order.
  (V2)    a recorded transition leads to a state `≠ 0` whose items are in the `goto` set (`LRInv`),
          i.e. advanced items of the source (same look-ahead) or items with the dot at the start.
  (V3)    the action kept by the fold of `setAction` is proposed by an item (`resolve` returns one
          of its arguments), as for `C02_genParser_safe`; accept items have look-ahead `␚`.
-/
namespace Gocc

/-- (C06-gen) the tables generated for any grammar whose body non-terminals are
    productive pass the validity validator, with or without LR(1) conflicts. -/
theorem C06_genParser_validItems (syn : List SProd) (tokIds : List String) (r : LRResult)
    (h : genParser syn tokIds = .ok r) (hn : NamesOk syn tokIds) (hx : CompleteNamesOk syn)
    (hsz : r.states.size ≤ 4096)
    (hp : bodyNTsProductive (ngrammarOf (augment syn) r.tables.terminals r.tables.nts) = true) :
    validItems (ngrammarOf (augment syn) r.tables.terminals r.tables.nts) r.tables (claOf r)
      (vcertOf (ngrammarOf (augment syn) r.tables.terminals r.tables.nts)) = true :=
  GenValid.genParser_validItems h hn hx hsz hp

/-- the derivation certificate is sound for every numbered grammar (each entry is justified by the
    entries after it) … -/
theorem C06_vcertOf_sound (G : NGrammar) :
    prodListOk G (vcertOf G).prod = true ∧ nullListOk G (vcertOf G).null = true ∧
    firstListOk G (vcertOf G).null (vcertOf G).first = true :=
  ⟨GenValid.prodListOk_vcert G, GenValid.nullListOk_vcert G, GenValid.firstListOk_vcert G⟩

/-- … and complete: its nullable and FIRST lists are closed under the grammar rules (the fuel of
    the loop is never exhausted) -/
theorem C06_vcertOf_closed (G : NGrammar) {p : Nat} (hp : p < G.prods.size) :
    ((G.body p).all (nullSym (vcertOf G).null) = true →
      hasNT (vcertOf G).null (G.head p) = true) ∧
    (∀ i, ((G.body p).take i).all (nullSym (vcertOf G).null) = true →
      (∀ b, (G.body p)[i]? = some (Sym.t b) → (G.head p, b) ∈ (vcertOf G).fc.first) ∧
      (∀ B b, (G.body p)[i]? = some (Sym.nt B) → (B, b) ∈ (vcertOf G).fc.first →
        (G.head p, b) ∈ (vcertOf G).fc.first)) :=
  ⟨GenValid.null_closed G hp, fun _ hc =>
    ⟨fun _ hb => GenValid.first_closed_t G hp hc hb,
     fun _ _ hb hB => GenValid.first_closed_nt G hp hc hb hB⟩⟩

/-- `hp` says that every non-terminal is productive: if all body non-terminals are, so is every
    head of a production -/
theorem C06_heads_productive (G : NGrammar) (h : bodyNTsProductive G = true) :
    headsProductive G = true :=
  GenValid.heads_of_body G h

/-- (A, generated) along any run of the parser with the GENERATED tables: the consumed input is a
    prefix of a sentence, and an action entry of the top state on any terminal `a` is justified by
    a sentence (`C06_action_implies_viable` instantiated) -/
theorem C06_generated_action_implies_viable {syn : List SProd} {tokIds : List String}
    {r : LRResult} (h : genParser syn tokIds = .ok r) (hn : NamesOk syn tokIds)
    (hx : CompleteNamesOk syn) (hsz : r.states.size ≤ 4096)
    (hc : r.tables.conflictStates = 0)
    (hp : bodyNTsProductive (ngrammarOf (augment syn) r.tables.terminals r.tables.nts) = true)
    (hr : ∀ s : Nat, r.tables.canRecover[s]?.getD false = false) {cfg : PCfg}
    (hT : cfg.T = r.tables) {w : List Nat} {ps : PState} (hrun : Steps cfg w (initPS w) ps)
    {top : Nat} {rest : List Nat} (hst : ps.states = top :: rest) :
    ∃ k, k ≤ w.length ∧ ps.ntok = k + 1 ∧ ps.next = scanTok w k ∧
      NViablePrefix (ngrammarOf (augment syn) r.tables.terminals r.tables.nts) (w.take k) ∧
      ∀ a act, r.tables.act top a = some act →
        (a ≠ 1 → ∃ v, NSentence (ngrammarOf (augment syn) r.tables.terminals r.tables.nts)
          (w.take k ++ a :: v)) ∧
        (a = 1 → NSentence (ngrammarOf (augment syn) r.tables.terminals r.tables.nts)
          (w.take k)) :=
  C06_action_implies_viable (C02_genParser_complete syn tokIds r h hn hsz hc hx).2
    (C06_genParser_validItems syn tokIds r h hn hx hsz hp) hr hT hrun hst

/-- (B, generated) for every conflict-free grammar without `error` alternative whose body
    non-terminals are productive: a syntax error of the GENERATED parser names the first token
    that cannot continue a sentence (`C06_error_token_is_first_offending` instantiated) -/
theorem C06_generated_error_token_is_first_offending {syn : List SProd} {tokIds : List String}
    {r : LRResult} (h : genParser syn tokIds = .ok r) (hn : NamesOk syn tokIds)
    (hx : CompleteNamesOk syn) (hsz : r.states.size ≤ 4096)
    (hc : r.tables.conflictStates = 0)
    (hp : bodyNTsProductive (ngrammarOf (augment syn) r.tables.terminals r.tables.nts) = true)
    (hr : ∀ s : Nat, r.tables.canRecover[s]?.getD false = false)
    {cfg : PCfg} (hA : ActsOk cfg) (hT : cfg.T = r.tables) {w : List Nat} {fuel : Nat}
    {old : PState} {i typ : Nat} {exp : List Nat} {top : Nat}
    (he : (parse cfg w fuel old).1 = Outcome.synErr i typ exp top) :
    NViablePrefix (ngrammarOf (augment syn) r.tables.terminals r.tables.nts) (w.take i) ∧
    i ≤ w.length ∧ typ = (w[i]?).getD 1 ∧
    (typ ≠ 1 → ¬ ∃ v, NSentence (ngrammarOf (augment syn) r.tables.terminals r.tables.nts)
      (w.take i ++ typ :: v)) ∧
    (typ = 1 → ¬ NSentence (ngrammarOf (augment syn) r.tables.terminals r.tables.nts)
      (w.take i)) :=
  C06_error_token_is_first_offending (C02_genParser_complete syn tokIds r h hn hsz hc hx).1
    (C02_genParser_complete syn tokIds r h hn hsz hc hx).2
    (C06_genParser_validItems syn tokIds r h hn hx hsz hp) hr hA hT he

/-- (C, generated) … and its expected-token list is exactly the set of terminals (1 = end of
    input) that can follow the consumed input in a sentence, in strictly increasing order
    (`C06_expected_set_exact` instantiated) -/
theorem C06_generated_expected_set_exact {syn : List SProd} {tokIds : List String}
    {r : LRResult} (h : genParser syn tokIds = .ok r) (hn : NamesOk syn tokIds)
    (hx : CompleteNamesOk syn) (hsz : r.states.size ≤ 4096)
    (hc : r.tables.conflictStates = 0)
    (hp : bodyNTsProductive (ngrammarOf (augment syn) r.tables.terminals r.tables.nts) = true)
    (hr : ∀ s : Nat, r.tables.canRecover[s]?.getD false = false)
    {cfg : PCfg} (hA : ActsOk cfg) (hT : cfg.T = r.tables) {w : List Nat} {fuel : Nat}
    {old : PState} {i typ : Nat} {exp : List Nat} {top : Nat}
    (he : (parse cfg w fuel old).1 = Outcome.synErr i typ exp top) :
    (∀ a, a ∈ exp ↔
      (a ≠ 1 ∧ ∃ v, NSentence (ngrammarOf (augment syn) r.tables.terminals r.tables.nts)
        (w.take i ++ a :: v)) ∨
      (a = 1 ∧ NSentence (ngrammarOf (augment syn) r.tables.terminals r.tables.nts)
        (w.take i))) ∧
    exp.Pairwise (· < ·) :=
  C06_expected_set_exact (C02_genParser_complete syn tokIds r h hn hsz hc hx).1
    (C02_genParser_complete syn tokIds r h hn hsz hc hx).2
    (C06_genParser_validItems syn tokIds r h hn hx hsz hp) hr hA hT he

/-- (D, generated) … and the parser made no move with the offending token as look-ahead: on
    `w.take i ++ [INVALID]` it stops in exactly the same configuration
    (`C06_no_reduction_on_bad_lookahead` instantiated) -/
theorem C06_generated_no_reduction_on_bad_lookahead {syn : List SProd} {tokIds : List String}
    {r : LRResult} (h : genParser syn tokIds = .ok r) (hn : NamesOk syn tokIds)
    (hx : CompleteNamesOk syn) (hsz : r.states.size ≤ 4096)
    (hc : r.tables.conflictStates = 0)
    (hp : bodyNTsProductive (ngrammarOf (augment syn) r.tables.terminals r.tables.nts) = true)
    (hr : ∀ s : Nat, r.tables.canRecover[s]?.getD false = false)
    {cfg : PCfg} (hA : ActsOk cfg) (hT : cfg.T = r.tables) {w : List Nat} {fuel : Nat}
    {old : PState} {i typ : Nat} {exp : List Nat} {top : Nat}
    (he : (parse cfg w fuel old).1 = Outcome.synErr i typ exp top) :
    ∃ fuel', parse cfg (w.take i ++ [0]) fuel' old =
      (Outcome.synErr i 0 exp top, { (parse cfg w fuel old).2 with next := (i, 0) }) :=
  C06_no_reduction_on_bad_lookahead (C02_genParser_complete syn tokIds r h hn hsz hc hx).1
    (C02_genParser_complete syn tokIds r h hn hsz hc hx).2
    (C06_genParser_validItems syn tokIds r h hn hx hsz hp) hr hA hT he

/-! ### Non-vacuity: `S : a S b <<10>> | c <<11>>` (`C02GenEx.syn`, `C02GenEx.ids`) -/
namespace C06GenEx

open C02GenEx (syn ids errOf)
open C02GenCompleteEx (Gex run2 names_ok cnames_ok)

example : NamesOk syn ids ∧ CompleteNamesOk syn := ⟨names_ok, cnames_ok⟩

/-- the derivation certificate of the numbered grammar `S' : S ; S : a S b | c`: `S` is productive
    by `S : c`, then `S'`; nothing is nullable; FIRST(S) ∋ c, a, FIRST(S') likewise -/
example : ((vcertOf Gex).prod, (vcertOf Gex).null, (vcertOf Gex).first) =
    ([(0, 0), (1, 2)], [],
     [(0, 4, 0, 0), (1, 4, 2, 0), (0, 2, 0, 0), (1, 2, 1, 0)]) := by decide

theorem productive : bodyNTsProductive Gex = true := by decide

/-- all hypotheses of the corollaries, for any successful run on the grammar -/
theorem hyps {r : LRResult} (h : genParser syn ids = .ok r) :
    r.states.size ≤ 4096 ∧ r.tables.conflictStates = 0 ∧
    bodyNTsProductive (ngrammarOf (augment syn) r.tables.terminals r.tables.nts) = true ∧
    (∀ s : Nat, r.tables.canRecover[s]?.getD false = false) ∧
    ActsOk { T := r.tables, errTerm := 0, failAt := 0 } ∧
    ngrammarOf (augment syn) r.tables.terminals r.tables.nts = Gex := by
  obtain ⟨hsz, hc, hr, hA, hG⟩ := C02GenCompleteEx.hyps h
  exact ⟨hsz, hc, by rw [hG]; exact productive, hr, hA, hG⟩

/-- the theorem applies: the generated tables pass the validity validator (no validator run) -/
example (r : LRResult) (h : genParser syn ids = .ok r) :
    validItems (ngrammarOf (augment syn) r.tables.terminals r.tables.nts) r.tables (claOf r)
      (vcertOf (ngrammarOf (augment syn) r.tables.terminals r.tables.nts)) = true :=
  C06_genParser_validItems syn ids r h names_ok cnames_ok (hyps h).1 (hyps h).2.2.1

/-- for comparison, the validator evaluated directly on the generated tables -/
example : (genParser syn ids).toOption.map (fun r =>
      validItems (ngrammarOf (augment syn) r.tables.terminals r.tables.nts) r.tables (claOf r)
        (vcertOf (ngrammarOf (augment syn) r.tables.terminals r.tables.nts))) = some true :=
  toOption_map_of run2 (·.2.2.1.2)

/-- the generated parser on `a c` (token types 2 4), from the kernel run `C02GenEx.run`: syntax
    error at token index 2 = end of input (type 1), expected `b` (type 3), in state 6 -/
theorem err_ac {r : LRResult} (h : genParser syn ids = .ok r) :
    (parse { T := r.tables, errTerm := 0, failAt := 0 } [2, 4] 50 default).1 =
      Outcome.synErr 2 1 [3] 6 :=
  C02GenEx.errOf_eq (congrArg C02GenEx.Summary.acErr (of_toOption_map C02GenEx.run h))

/-- (B) THROUGH THE GENERATOR-LEVEL THEOREM: `a c` is a prefix of a sentence, but not a sentence -/
theorem ac_prefix_not_sentence : NViablePrefix Gex [2, 4] ∧ ¬ NSentence Gex [2, 4] := by
  obtain ⟨r, h⟩ := C02GenEx.run_ok
  obtain ⟨h1, h2, h3, h4, h5, h6⟩ := hyps h
  have := C06_generated_error_token_is_first_offending h names_ok cnames_ok h1 h2 h3 h4
    (cfg := { T := r.tables, errTerm := 0, failAt := 0 }) h5 rfl (err_ac h)
  rw [h6] at this
  exact ⟨this.1, this.2.2.2.2 rfl⟩

/-- (C) THROUGH THE GENERATOR-LEVEL THEOREM: after `a c` exactly `b` can follow — `a c b …` is a
    prefix of a sentence; `a c x …` is not, for every other terminal `x`; `a c` is no sentence -/
theorem ac_expected_exact : (∃ v, NSentence Gex (2 :: 4 :: 3 :: v)) ∧
    (∀ a, a ≠ 3 → a ≠ 1 → ¬ ∃ v, NSentence Gex (2 :: 4 :: a :: v)) := by
  obtain ⟨r, h⟩ := C02GenEx.run_ok
  obtain ⟨h1, h2, h3, h4, h5, h6⟩ := hyps h
  have := (C06_generated_expected_set_exact h names_ok cnames_ok h1 h2 h3 h4
    (cfg := { T := r.tables, errTerm := 0, failAt := 0 }) h5 rfl (err_ac h)).1
  rw [h6] at this
  constructor
  · rcases (this 3).1 (by simp) with ⟨-, hv⟩ | ⟨h', -⟩
    · exact hv
    · cases h'
  · intro a ha3 ha1 hv
    have := (this a).2 (.inl ⟨ha1, hv⟩)
    simp at this
    exact ha3 this

/-- (D) THROUGH THE GENERATOR-LEVEL THEOREM: on `a c INVALID` the generated parser stops in the same
    configuration as on `a c` -/
example (r : LRResult) (h : genParser syn ids = .ok r) :
    ∃ fuel', parse { T := r.tables, errTerm := 0, failAt := 0 } [2, 4, 0] fuel' default =
      (Outcome.synErr 2 0 [3] 6,
       { (parse { T := r.tables, errTerm := 0, failAt := 0 } [2, 4] 50 default).2 with
         next := (2, 0) }) := by
  obtain ⟨h1, h2, h3, h4, h5, -⟩ := hyps h
  exact C06_generated_no_reduction_on_bad_lookahead h names_ok cnames_ok h1 h2 h3 h4
    (cfg := { T := r.tables, errTerm := 0, failAt := 0 }) h5 rfl (err_ac h)

/-! ### the hypotheses matter
(`bodyNTsProductive`, `validItems`, recorded conflicts, number of states) of the tables generated for
a grammar — kernel evaluation of the model, of `vcertOf` and of the validator. -/

def verdictV (syn : List SProd) (ids : List String) : Option (Bool × Bool × Nat × Nat) :=
  (genParser syn ids).toOption.map fun r =>
    (bodyNTsProductive (ngrammarOf (augment syn) r.tables.terminals r.tables.nts),
     validItems (ngrammarOf (augment syn) r.tables.terminals r.tables.nts) r.tables (claOf r)
       (vcertOf (ngrammarOf (augment syn) r.tables.terminals r.tables.nts)),
     r.tables.conflictStates, r.states.size)

theorem verdictV_of {syn : List SProd} {ids : List String}
    {v : (Bool × Bool) × (Bool × Bool) × Nat × Nat}
    (h : (genParser syn ids).toOption.map (genChecks syn) = some v) :
    verdictV syn ids = some (v.2.1.1, v.2.1.2, v.2.2) :=
  toOption_map_of h fun v => (v.2.1.1, v.2.1.2, v.2.2)

example : verdictV syn ids = some (true, true, 0, 10) := verdictV_of (toOption_map_of run2 (·.2))

/-- `hp` is needed: `S : a A ; A : b A` — `A` derives no terminal string.  The grammar is
    generated without panic and without conflict, `hp` fails and `validItems` answers `false` … -/
def gUnprod : List SProd :=
  [{ head := "S", body := [⟨.tokId, "a"⟩, ⟨.prodId, "A"⟩] },
   { head := "A", body := [⟨.tokId, "b"⟩, ⟨.prodId, "A"⟩] }]
example : NamesOk gUnprod ["a", "b"] ∧ CompleteNamesOk gUnprod := by decide
theorem gUnprod_run :
    (genParser gUnprod ["a", "b"]).toOption.map (genChecks gUnprod) =
      some ((true, true), (false, false), 0, 6) ∧
    (genParser gUnprod ["a", "b"]).toOption.map (fun r =>
      errOf (parse { T := r.tables, errTerm := 0, failAt := 0 } [2] 50 default).1) =
        some (some (1, 1, [3], 2)) := by
  decide +kernel
theorem unproductive : verdictV gUnprod ["a", "b"] = some (false, false, 0, 6) :=
  verdictV_of gUnprod_run.1
/-- … rightly: after `a` (token type 2) the generated parser expects `b` (type 3) although the
    grammar has no sentence at all -/
example : (genParser gUnprod ["a", "b"]).toOption.map (fun r =>
    errOf (parse { T := r.tables, errTerm := 0, failAt := 0 } [2] 50 default).1) =
      some (some (1, 1, [3], 2)) :=
  gUnprod_run.2

/-- `conflictStates = 0` is NOT needed for validity: `E : E + E | x` (one state with a
    shift/reduce conflict, resolved in favour of shift) and the dangling else pass -/
theorem conflict_valid : verdictV C02GenCompleteEx.ambig ["+", "x"] = some (true, true, 1, 5) :=
  verdictV_of C02GenCompleteEx.ambig_checks
example : verdictV C02GenCompleteEx.dangling ["e", "i", "x"] = some (true, true, 1, 12) :=
  verdictV_of C02GenCompleteEx.dangling_checks

/-- the clauses of `CompleteNamesOk`: `INVALID` in a body — (V5) fails -/
theorem invalid_in_body : verdictV C02GenCompleteEx.gInvalid ["a"] = some (true, false, 0, 4) :=
  verdictV_of C02GenCompleteEx.gInvalid_checks
/-- `empty` inside a non-empty alternative (`S : B empty ; B : b`): the look-ahead `␚` of
    `B : • b` is not in the exact FIRST set of `empty ␚` -/
theorem empty_in_body : verdictV C02GenCompleteEx.gEmptyMid ["b"] = some (true, false, 0, 5) :=
  verdictV_of C02GenCompleteEx.gEmptyMid_checks
/-- a production called `empty` (`S : A ; A : empty ; empty : b`): excluded by the hypotheses (the
    proof compares the two FIRST computations), but this grammar passes -/
theorem empty_as_head : verdictV C02GenCompleteEx.gEmptyHead ["b"] = some (true, true, 0, 3) :=
  verdictV_of C02GenCompleteEx.gEmptyHead_checks
/-- a clause of `NamesOk`: `␚` in a body — (V5) fails -/
example : verdictV [{ head := "S", body := [⟨.tokId, "a"⟩, ⟨.tokId, "␚"⟩] }] ["a"] =
    some (true, false, 0, 4) := by decide +kernel

/-- nullable non-terminals, `empty` alternatives, `error`, unreachable non-terminals are fine -/
def fine : List SProd := [
  { head := "S", body := [⟨.prodId, "A"⟩, ⟨.tokId, "c"⟩] },
  { head := "A", body := [⟨.tokId, "empty"⟩] },
  { head := "A", body := [⟨.tokId, "error"⟩, ⟨.tokId, "a"⟩] },
  { head := "U", body := [⟨.tokId, "a"⟩, ⟨.prodId, "S"⟩, ⟨.prodId, "A"⟩] } ]
example : NamesOk fine ["a", "c", "error"] ∧ CompleteNamesOk fine := by decide
example : (verdictV fine ["a", "c", "error"]).map (fun v => (v.1, v.2.1, v.2.2.1)) =
    some (true, true, 0) := by decide +kernel

end C06GenEx

end Gocc
