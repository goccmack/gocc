import Gocc.Model.Grammar
/-
Model of the semantic checks gocc performs on a parsed grammar before any generator runs:
  internal/ast/lexprodmap.go  LexProdMap.Add      panic "Production … already exists"
  internal/ast/lexpart.go     NewLexPart          "duplicate token def" / "duplicate ignored token def"
  internal/ast/grammar.go     consistent          "empty production alternative", "undefined symbol used in production"
  internal/ast/lexpart.go     UndefinedRegDef     (called from main.go, fix D12)
Every failure makes gocc exit with a non-zero status.  Which failure is reported when there are several
is gocc's only between these functions: inside `consistent` the Go code runs `reservedNames` (below:
`reservedUse`, `reservedTok`) BEFORE the empty-alternative test, and `reservedNames` looks at the lexical
productions called `error` / `empty` first and tests "literal spelled like a token id" in the same walk
as the other clauses.
Lexical ids carry their kind in their spelling (`tok`, `!ign`, `_reg`), exactly as `LexProduction.Id()`.
`lexImports` (the `import` section of the lexical part) are names a pattern may refer to without a definition.
-/
namespace Gocc

inductive SemErr where
  | dupDef (id : String)
  | emptyAlt (head : String)
  | undefinedProd (sym : String)
  | undefinedRegDef (id user : String)
  | reserved (name : String)          -- fix D15: a reserved spelling used as a production name or string literal
deriving DecidableEq, Repr, Inhabited

/-- the first element that occurs again later in the list -/
def firstDup : List String → Option String
  | [] => none
  | x :: rest => if rest.contains x then some x else firstDup rest

mutual
  /-- the `LexRegDefId`s of a pattern, in `Walk` order -/
  def LTerm.refs : LTerm → List String
    | .ref r => [r]
    | .opt p | .rep p | .grp p => p.refs
    | _ => []
  def LPat.refs : LPat → List String
    | .mk alts => altsRefs alts
  def LAlt.refs : LAlt → List String
    | .mk ts => termsRefs ts
  def altsRefs : List LAlt → List String
    | [] => []
    | a :: rest => a.refs ++ altsRefs rest
  def termsRefs : List LTerm → List String
    | [] => []
    | t :: rest => t.refs ++ termsRefs rest
end

/-- `consistent`: `defs` = token ids (not ignored tokens, not regular definitions) and production heads -/
def synDefs (g : Grammar) : List String :=
  ((g.lex.filter fun p => p.kind == .tok).map (·.id)) ++ g.syn.map (·.head)

/-- is the use of symbol `s` in a body an error (not merely a warning)?  `consistent` re-derives "is a
    production name" from the spelling with the scanner's own predicate (`unicode.IsUpper` of the first
    rune, fix D14; before it used the ASCII range); that is exactly how `s.kind` was assigned -/
def undefinedUse (g : Grammar) (s : SSym) : Bool :=
  s.kind == .prodId && !(synDefs g).contains s.name && s.name != "empty" && s.name != "error"

/-- the spellings of the two terminals every token map starts with (`empty` and `error` are NOT refused as string
    literals: gocc's own grammar spec/gocc2.ebnf uses them; see known finding D16) -/
def reservedNames : List String := ["INVALID", "␚"]

/-- fix D15 (`reservedNames`, called by `consistent`): the first reserved-name clash of the syntax part:
    per production: its name (`INVALID`, `␚`); per body symbol: a string literal spelled like a pseudo symbol or
    like ANY production name of the grammar (wherever that production is declared), `empty` next to other
    symbols.  The remaining clauses of `reservedNames` are `reservedTok`. -/
def reservedUse (g : Grammar) : Option String :=
  let heads := g.syn.map (·.head)
  g.syn.findSome? fun p =>
    if reservedNames.contains p.head then some p.head
    else p.body.findSome? fun s =>
      if s.kind == .strLit && (reservedNames.contains s.name || heads.contains s.name) then some s.name
      else if s.kind != .strLit && s.name == "empty" && p.body.length > 1 then some "empty"
      else none

/-- token ids: every lexical production id and every `.tokId` symbol of the syntax part except the two keywords -/
def tokenIds (g : Grammar) : List String :=
  g.lex.map (·.id) ++
    ((g.syn.flatMap (·.body)).filter fun s => s.kind == .tokId && s.name != "error" && s.name != "empty").map (·.name)

/-- second part of the reserved-name check of `consistent` (fix D22): a lexical production called `error` or
    `empty`; a string literal spelled like a token id (they would share one token number) -/
def reservedTok (g : Grammar) : Option String :=
  match g.lex.find? (fun p => p.id == "error" || p.id == "empty") with
  | some p => some p.id
  | none => ((g.syn.flatMap (·.body)).find? fun s => s.kind == .strLit && (tokenIds g).contains s.name).map (·.name)

def regDefIds (g : Grammar) : List String := (g.lex.filter fun p => p.kind == .reg).map (·.id)

def semCheck (g : Grammar) (lexImports : List String := []) : Except SemErr Unit := do
  -- NewLexProdMap / NewLexPart
  match firstDup (g.lex.map (·.id)) with
  | some id => throw (.dupDef id)
  | none => pure ()
  -- consistent (which in Go returns at once when there is no syntax part; no such guard here:
  -- Driver/Gram.lean does not call `semCheck` then)
  match g.syn.find? (fun p => p.body.isEmpty) with
  | some p => throw (.emptyAlt p.head)
  | none => pure ()
  match reservedUse g with
  | some n => throw (.reserved n)
  | none => pure ()
  match reservedTok g with
  | some n => throw (.reserved n)
  | none => pure ()
  match (g.syn.flatMap (·.body)).find? (undefinedUse g) with
  | some s => throw (.undefinedProd s.name)
  | none => pure ()
  -- UndefinedRegDef
  match (g.lex.flatMap fun p => p.pat.refs.map fun r => (r, p.id)).find?
      (fun x => !(regDefIds g).contains x.1 && !lexImports.contains x.1) with
  | some x => throw (.undefinedRegDef x.1 x.2)
  | none => pure ()

end Gocc
