import Gocc.Model.Parse
import Gocc.Spec.NCfg
/-
A table validator.  `safe G T cert` is a finite, executable check of parser tables `T` against a
grammar `G`, given for every state a certificate `cert[s]`: a list of dotted items `(p, d)`
(production, dot position).  It does not construct anything; it only checks local consistency:

  * the production table describes `G` (head and length of every production);
  * every shift / goto edge `s --X--> s'` is justified: each item of `s'` with the dot not at the
    start has `X` before the dot and its predecessor item in `s`;
  * every reduce entry is justified by a complete item of the state, every accept entry by the
    complete start item and only on end of input;
  * state 0 holds only items with the dot at the start.

The theorem `C02_accept_sound` (Props/C02.lean): `safe … = true` and `safeEnds … = true` (the
check on shift / goto targets, Proofs/Validate.lean) `→ (Parse accepts w → w is a sentence of G)`,
for tables without recovery states, makes this a *verified* validator: for any tables that pass —
in particular the ones gocc generated, with the generator model's item sets as certificate —
acceptance implies derivability for every token sequence.
-/
namespace Gocc

abbrev Cert := Array (List (Nat × Nat))

def Cert.has (c : Cert) (s p d : Nat) : Bool := (c[s]?.getD []).contains (p, d)

/-- items of `s'` are justified by the edge `s --X--> s'` -/
def edgeOk (G : NGrammar) (c : Cert) (s : Nat) (X : Sym) (s' : Nat) : Bool :=
  (c[s']?.getD []).all fun (p, d) =>
    d == 0 || ((G.body p)[d - 1]? == some X && c.has s p (d - 1))

def safe (G : NGrammar) (T : PTables) (c : Cert) : Bool :=
  let n := T.nStates
  -- tables have the advertised shape
  T.action.size == n && T.goto_.size == n && c.size == n && n > 0 &&
  T.prodNT.size == G.prods.size && T.prodLen.size == G.prods.size &&
  -- production table = grammar
  (List.range G.prods.size).all (fun p => T.prodNT[p]? == some (G.head p) && T.prodLen[p]? == some (G.body p).length) &&
  -- production 0 is S' : Start
  (match G.body 0 with | [Sym.nt _] => true | _ => false) &&
  -- state 0: dots at the start only
  (c[0]?.getD []).all (fun (_, d) => d == 0) &&
  -- action entries
  (List.range n).all (fun s =>
    let row := T.action[s]?.getD #[]
    (List.range row.size).all fun t =>
      match (row[t]?).join with
      | none => true
      | some (.shift s') => s' < n && edgeOk G c s (Sym.t t) s'
      | some (.reduce p) => p < G.prods.size && c.has s p (G.body p).length
      | some .accept => t == 1 && c.has s 0 1) &&
  -- goto entries
  (List.range n).all (fun s =>
    let row := T.goto_[s]?.getD #[]
    (List.range row.size).all fun A =>
      match row[A]? with
      | some g => g < 0 || (g.toNat < n && edgeOk G c s (Sym.nt A) g.toNat)
      | none => true)

/-- numbered grammar of a gocc grammar, using the numbering of the generated tables -/
def ngrammarOf (prods : List SProd) (terminals nts : List String) : NGrammar :=
  { prods := (prods.map fun p =>
      ((nts.idxOf? p.head).getD 0,
       if prodLen p == 0 then [] else p.body.map fun s =>
         match nts.idxOf? s.name with
         | some k => Sym.nt k
         | none => Sym.t ((terminals.idxOf? s.name).getD 0))).toArray }

/-- certificate from the generator model's item sets (look-aheads dropped) -/
def certOf (states : Array LRState) : Cert :=
  states.map fun st => (st.items.map fun i => (i.p, i.d)).eraseDups

end Gocc
