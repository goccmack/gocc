import Gocc.Model.Utf8
/-
Models of `internal/util/litconv.go` (`LitToRune`, used by gocc when it reads a grammar) and of
the template `internal/util/gen/golang/litconv.go` (`RuneValue`, shipped in every generated
`util` package).  The two Go texts are ported separately (`litToRune`, `runeValue`); only the final range check
`escFinish` is shared.
A Go panic is `Except.error`.  Index expressions `lit[k]` that would panic with
"index out of range" are `error "index"`.
-/
namespace Gocc

def digitVal (ch : Int) : Nat :=
  if 48 ≤ ch ∧ ch ≤ 57 then (ch - 48).toNat
  else if 97 ≤ ch ∧ ch ≤ 102 then (ch - 97).toNat + 10
  else if 65 ≤ ch ∧ ch ≤ 70 then (ch - 65).toNat + 10
  else 16

/-- the digit loop `for ; i > 0 && offset < len(lit)-1; i--` of `escapeCharVal`;
    `rest` is `lit[offset:]`, `avail` is `len(lit)-1-offset` (bytes before the closing quote). -/
def escDigits (base : Nat) : Nat → List Nat → Int → Nat → Except String Nat
  | 0, _, _, x => .ok x
  | i + 1, rest, avail, x =>
    if avail ≤ 0 then .ok x
    else
      let (ch, size) := decodeRune rest
      let d := digitVal ch
      if d ≥ base then .error "illegal digit"
      else escDigits base i (rest.drop size) (avail - size) (x * base + d)

def escFinish (x max : Nat) : Except String Int :=
  -- x is uint32 in Go; with at most 8 hex digits it cannot wrap
  if x > max ∨ (0xD800 ≤ x ∧ x < 0xE000) then .error "invalid code point" else .ok x

/-- `escapeCharVal(lit)` of internal/util/litconv.go -/
def escapeCharVal (lit : List Nat) : Except String Int :=
  match lit with
  | _ :: _ :: c :: rest =>
    let n : Int := lit.length
    if c = 97 then .ok 7            -- 'a'
    else if c = 98 then .ok 8       -- 'b'
    else if c = 102 then .ok 12     -- 'f'
    else if c = 110 then .ok 10     -- 'n'
    else if c = 114 then .ok 13     -- 'r'
    else if c = 116 then .ok 9      -- 't'
    else if c = 118 then .ok 11     -- 'v'
    else if c = 92 then .ok 92      -- '\\'
    else if c = 39 then .ok 39      -- '\''
    else if 48 ≤ c ∧ c ≤ 55 then    -- octal: offset stays 2
      (escDigits 8 3 (c :: rest) (n - 1 - 2) 0) >>= fun x => escFinish x 255
    else if c = 120 then            -- 'x'
      (escDigits 16 2 rest (n - 1 - 3) 0) >>= fun x => escFinish x 255
    else if c = 117 then            -- 'u'
      (escDigits 16 4 rest (n - 1 - 3) 0) >>= fun x => escFinish x 0x10FFFF
    else if c = 85 then             -- 'U'
      (escDigits 16 8 rest (n - 1 - 3) 0) >>= fun x => escFinish x 0x10FFFF
    else .error "unknown escape"
  | _ => .error "index"

/-- `util.LitToRune(lit)` — the generator's copy -/
def litToRune (lit : List Nat) : Except String Int :=
  match lit with
  | _ :: b1 :: _ =>
    if b1 = 92 then escapeCharVal lit
    else
      let (r, size) := decodeRune (lit.drop 1)
      if (size : Int) ≠ (lit.length : Int) - 2 then .error "size" else .ok r
  | _ => .error "index"

/-! The generated copy (template text of internal/util/gen/golang/litconv.go), ported separately. -/

def gDigitVal (ch : Int) : Nat :=
  if 48 ≤ ch ∧ ch ≤ 57 then (ch - 48).toNat
  else if 97 ≤ ch ∧ ch ≤ 102 then (ch - 97).toNat + 10
  else if 65 ≤ ch ∧ ch ≤ 70 then (ch - 65).toNat + 10
  else 16

def gEscDigits (base : Nat) : Nat → List Nat → Int → Nat → Except String Nat
  | 0, _, _, x => .ok x
  | i + 1, rest, avail, x =>
    if avail ≤ 0 then .ok x
    else
      let (ch, size) := decodeRune rest
      let d := gDigitVal ch
      if d ≥ base then .error "illegal digit"
      else gEscDigits base i (rest.drop size) (avail - size) (x * base + d)

def gEscapeCharVal (lit : List Nat) : Except String Int :=
  match lit with
  | _ :: _ :: c :: rest =>
    let n : Int := lit.length
    if c = 97 then .ok 7
    else if c = 98 then .ok 8
    else if c = 102 then .ok 12
    else if c = 110 then .ok 10
    else if c = 114 then .ok 13
    else if c = 116 then .ok 9
    else if c = 118 then .ok 11
    else if c = 92 then .ok 92
    else if c = 39 then .ok 39
    else if 48 ≤ c ∧ c ≤ 55 then
      (gEscDigits 8 3 (c :: rest) (n - 1 - 2) 0) >>= fun x => escFinish x 255
    else if c = 120 then
      (gEscDigits 16 2 rest (n - 1 - 3) 0) >>= fun x => escFinish x 255
    else if c = 117 then
      (gEscDigits 16 4 rest (n - 1 - 3) 0) >>= fun x => escFinish x 0x10FFFF
    else if c = 85 then
      (gEscDigits 16 8 rest (n - 1 - 3) 0) >>= fun x => escFinish x 0x10FFFF
    else .error "unknown escape"
  | _ => .error "index"

/-- `util.RuneValue(lit)` — the copy shipped in generated packages -/
def runeValue (lit : List Nat) : Except String Int :=
  match lit with
  | _ :: b1 :: _ =>
    if b1 = 92 then gEscapeCharVal lit
    else
      let (r, size) := decodeRune (lit.drop 1)
      if (size : Int) ≠ (lit.length : Int) - 2 then .error "size" else .ok r
  | _ => .error "index"

end Gocc
