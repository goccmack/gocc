import Gocc.Model.LR1
/-
The conflict fold of `ItemSet.Action(symbol)` (internal/parser/lr1/items/itemset.go:53) isolated
from the item machinery: `foldActs` folds `ResolveConflict` over the list of actions the items of
a state propose for one terminal (`none` = action.ERROR).  `setAction` (Model/LR1.lean) is this
fold applied to `itemAction` of every item (lemma `setAction_eq_foldActs` in Proofs/ActionFold).
Also: the zip encoding of a table row (`GenCompActionTable` / generated `init()`).
-/
namespace Gocc

/-- one step of the fold: current action, conflict flag, next proposed action -/
def foldStep (acc : Option Act × Bool) (a2 : Option Act) : Except String (Option Act × Bool) :=
  match a2, acc.1 with
  | none, _ => pure acc
  | some a2, none => pure (some a2, acc.2)
  | some a2, some a1 =>
    if a1 == a2 then pure acc
    else do
      let r ← resolve a1 a2
      pure (some r, true)

def foldActs (acts : List (Option Act)) : Except String (Option Act × Bool) :=
  acts.foldlM foldStep (none, false)

/-- what the property says the fold must produce (no mention of order):
    the shift if one is proposed, otherwise the reduce with the smallest production index -/
def specResolve (acts : List (Option Act)) : Option Act :=
  let as := acts.filterMap id
  match as.find? (fun a => match a with | .shift _ => true | _ => false) with
  | some sh => some sh
  | none =>
    let rs := as.filterMap fun a => match a with | .reduce p => some p | _ => none
    match rs with
    | [] => if as.contains .accept then some .accept else none
    | r :: rest => some (.reduce (rest.foldl min r))

/-- two different non-error actions are proposed -/
def competing (acts : List (Option Act)) : Bool :=
  let as := (acts.filterMap id).eraseDups
  as.length > 1

/-! ### `-zip`: sparse row encoding (actiontable.go `GenCompActionTable`, generated `init()`) -/

structure ZEntry where
  index : Nat
  action : Nat     -- 0 accept, 1 reduce, 2 shift
  amount : Nat
deriving DecidableEq, Repr, Inhabited

/-- generator side: one entry per non-nil action, in column order -/
def encodeRowFrom : Nat → List (Option Act) → List ZEntry
  | _, [] => []
  | j, none :: rest => encodeRowFrom (j + 1) rest
  | j, some .accept :: rest => ⟨j, 0, 0⟩ :: encodeRowFrom (j + 1) rest
  | j, some (.reduce p) :: rest => ⟨j, 1, p⟩ :: encodeRowFrom (j + 1) rest
  | j, some (.shift s) :: rest => ⟨j, 2, s⟩ :: encodeRowFrom (j + 1) rest

def encodeRow (row : List (Option Act)) : List ZEntry := encodeRowFrom 0 row

/-- generated side: `actionTab[i].actions[a.Index] = ...` over a zero (all nil) row of width `n` -/
def decodeRow (n : Nat) (es : List ZEntry) : List (Option Act) :=
  es.foldl (fun row e =>
    if e.index < row.length then
      match e.action with
      | 0 => row.set e.index (some .accept)
      | 1 => row.set e.index (some (.reduce e.amount))
      | 2 => row.set e.index (some (.shift e.amount))
      | _ => row
    else row) (List.replicate n none)

/-! ### `-zip`: whole tables as the two `init()` functions leave them -/

/-- the goto `init()` (gototable.go `gotoTableCompSrc`): cell-by-cell copy
    `for i < numStates { for j < numNTSymbols { gotoTab[i][j] = tab[i][j] } }` into a zero table;
    a cell outside the decoded slice would be an index panic in Go and is modelled by `-2`, a value
    no generated table contains, so that a theorem about it cannot hold by accident for short tables -/
def copyGoto (nStates nNT : Nat) (tab : Array (Array Int)) : Array (Array Int) :=
  ((List.range nStates).map fun i =>
    ((List.range nNT).map fun j => ((tab[i]?).bind (·[j]?)).getD (-2)).toArray).toArray

/-- tables after the `-zip` round trip: `GenCompActionTable` encodes every row with `encodeRow`
    and carries `CanRecover` over; the generated `init()` decodes into `[numSymbols]action`,
    here a row of the width of the row encoded (every generated row has width `numSymbols`,
    `C10_genParser_columns`) -/
def zipTables (T : PTables) : PTables :=
  { T with
    action := T.action.map fun row => (decodeRow row.size (encodeRow row.toList)).toArray
    goto_ := copyGoto T.nStates T.nts.length T.goto_ }

end Gocc
