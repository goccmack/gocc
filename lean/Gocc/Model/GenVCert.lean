import Gocc.Model.ValidateV
/-
The derivation certificate `VCert` with which the validity validator (`validItems`,
Model/ValidateV.lean) is run on the output of the generator model — as TOTAL functions of the
numbered grammar (the driver, Driver/Gram.lean, calls `vcertOf` too).

All three lists are computed by the same loop `grow`: as long as there is a candidate fact whose
key is not yet in the list, PREPEND the first such candidate.  A candidate is a fact that is
justified by the facts already in the list, so every entry is justified by the entries after it
(what `prodListOk` / `nullListOk` / `firstListOk` check).  The loop runs on fuel; the fuel is the
length of a list that contains every possible key, plus one, so the loop always stops because no
candidate is new (Proofs/GenValidCert.lean: `grow_closed`) — the lists are closed under the
grammar rules, i.e. they hold ALL productive non-terminals, ALL nullable non-terminals and ALL
FIRST pairs.

  * `prodCands G acc`   `(head p, p)` for every production `p` whose body non-terminals are in `acc`;
  * `nullCands G acc`   the same for bodies that consist of non-terminals of `acc` only;
  * `firstCands G null acc`   `(head p, b, p, i)` for every production `p` and body position `i`
        behind a prefix of nullable non-terminals, where symbol `i` is the terminal `b` or a
        non-terminal `B` with an entry `(B, b, _, _)` in `acc`;
  * `vcertOf G`          the certificate.

Cost: one step computes the candidates once (`O(|G| · |acc|)`); there are at most as many steps
as facts.
-/
namespace Gocc

/-- the first candidate whose key is not yet present -/
def growStep {α κ : Type} [BEq κ] (cands : List α → List α) (key : α → κ) (acc : List α) :
    Option α :=
  (cands acc).find? fun x => !(acc.any fun y => key y == key x)

/-- prepend new candidates until there is none (or the fuel is used up) -/
def grow {α κ : Type} [BEq κ] (cands : List α → List α) (key : α → κ) : Nat → List α → List α
  | 0, acc => acc
  | n + 1, acc =>
    match growStep cands key acc with
    | some x => grow cands key n (x :: acc)
    | none => acc

/-- a terminal, or a non-terminal with an entry in `l` -/
def prodSym (l : List (Nat × Nat)) : Sym → Bool
  | .t _ => true
  | .nt B => hasNT l B

/-- a non-terminal with an entry in `l` -/
def nullSym (l : List (Nat × Nat)) : Sym → Bool
  | .t _ => false
  | .nt B => hasNT l B

def prodCands (G : NGrammar) (acc : List (Nat × Nat)) : List (Nat × Nat) :=
  (List.range G.prods.size).filterMap fun p =>
    if (G.body p).all (prodSym acc) then some (G.head p, p) else none

def nullCands (G : NGrammar) (acc : List (Nat × Nat)) : List (Nat × Nat) :=
  (List.range G.prods.size).filterMap fun p =>
    if (G.body p).all (nullSym acc) then some (G.head p, p) else none

def firstCands (G : NGrammar) (null : List (Nat × Nat)) (acc : List (Nat × Nat × Nat × Nat)) :
    List (Nat × Nat × Nat × Nat) :=
  (List.range G.prods.size).flatMap fun p =>
    (List.range (G.body p).length).flatMap fun i =>
      if ((G.body p).take i).all (nullSym null) then
        match (G.body p)[i]? with
        | some (.t b) => [(G.head p, b, p, i)]
        | some (.nt B) => (acc.filter fun x => x.1 == B).map fun x => (G.head p, x.2.1, p, i)
        | none => []
      else []

def symTerm : Sym → Option Nat
  | .t b => some b
  | .nt _ => none

/-- the terminals that occur in bodies -/
def bodyTerms (G : NGrammar) : List Nat :=
  (List.range G.prods.size).flatMap fun p => (G.body p).filterMap symTerm

/-- every possible key of a `(non-terminal, production)` fact -/
def headKeys (G : NGrammar) : List Nat := (List.range G.prods.size).map G.head

/-- every possible key `(non-terminal, terminal)` of a FIRST fact -/
def firstKeys (G : NGrammar) : List (Nat × Nat) :=
  (headKeys G).flatMap fun A => (bodyTerms G).map fun b => (A, b)

def prodListOf (G : NGrammar) : List (Nat × Nat) :=
  grow (prodCands G) (fun x => x.1) ((headKeys G).length + 1) []

def nullListOf (G : NGrammar) : List (Nat × Nat) :=
  grow (nullCands G) (fun x => x.1) ((headKeys G).length + 1) []

def firstListOf (G : NGrammar) (null : List (Nat × Nat)) : List (Nat × Nat × Nat × Nat) :=
  grow (firstCands G null) (fun x => (x.1, x.2.1)) ((firstKeys G).length + 1) []

/-- the derivation certificate of a numbered grammar -/
def vcertOf (G : NGrammar) : VCert :=
  { prod := prodListOf G, null := nullListOf G, first := firstListOf G (nullListOf G) }

/-- (hypothesis `hp` of the validity theorem, the (V4) check) every non-terminal that occurs in a
    body is productive -/
def bodyNTsProductive (G : NGrammar) : Bool :=
  (List.range G.prods.size).all fun p => (G.body p).all (prodSym (vcertOf G).prod)

/-- every non-terminal that heads a production is productive -/
def headsProductive (G : NGrammar) : Bool :=
  (List.range G.prods.size).all fun p => hasNT (vcertOf G).prod (G.head p)

end Gocc
