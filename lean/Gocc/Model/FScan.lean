import Gocc.Model.Utf8
/-
Model of the hand-written scanner of the gocc front end,
`internal/frontend/scanner/scanner.go` (`next`, `Init`, `error`, `expect`, `scanComment`,
`isLetter`, `isDigit`, `digitVal`, `scanEscape`, `scanChar`, `scanIdentifier`, `scanSDTLit`,
`scanString`, `scanRawString`, `skipWhitespace`, `Scan`) with the token numbering of
`internal/frontend/token/tokens.go`.

Representation.  Bytes are `Nat`, runes are `Int` (`-1` = end of file).  The immutable `src` of the
Go scanner is not stored; instead the state holds `cur = src[pos.Offset:]`, the input from the
first byte of the look-ahead rune `ch` on.  Hence `src[offset:] = cur.drop (offset - pos)`, and
a slice `src[p.Offset : q]` of a saved position `p` is `(p.tail.drop ..).take ..` (`slice`).

Every Go `for` loop is a function with a fuel argument; the fuel `cur.length + 2` given at the
loop entry is chosen to suffice (every iteration that does not leave the loop consumes one rune);
no theorem states this in general, the layout proofs show it for the texts they speak of.
`goto scanAgain` is the recursion of `scanLoop` (same fuel; every comment consumes two bytes).

`next` is modelled as: end of input ⇒ `ch = -1`; NUL ⇒ rune 0, width 1, one error; a byte `≥ 80`
(decimal, as in the Go source) ⇒ `decodeRune` (`Gocc/Model/Utf8.lean`), `RuneError` of width 1 counting
one error; any other byte is its own rune (`look`).  `Init` is modelled for a new `Scanner`
(`S.ch = 0`; `Init` does not reset `S.ch`).  `S.error` only counts.  The `//line` directive
(`lineDirective`) includes the part of `strconv.Atoi` that matters (`atoiPos`).

Correspondence: `fscanShow` prints exactly the format of the Go helper behind the driver op
`fescan`; the two agree on all inputs tried (ASCII, NUL, ill-formed and non-letter UTF-8).

`unicode.IsLetter/IsDigit/IsUpper` on runes `≥ 0x80` are parameters (`UnicodeOracle`).
-/
namespace Gocc

/-- `unicode.IsLetter`, `unicode.IsDigit`, `unicode.IsUpper` (only consulted for runes ≥ 0x80) -/
structure UnicodeOracle where
  isLetter : Int → Bool
  isDigit : Int → Bool
  isUpper : Int → Bool

/-- the oracle used by the correspondence driver: no letters / digits / upper case beyond ASCII -/
def UnicodeOracle.ascii : UnicodeOracle := ⟨fun _ => false, fun _ => false, fun _ => false⟩

/-- `Scanner`: `cur = src[pos.Offset:]`, `pos = pos.Offset`, `line = pos.Line`, `col = pos.Column`,
    `errs = ErrorCount` -/
structure FSt where
  cur : List Nat
  ch : Int
  pos : Nat
  offset : Nat
  line : Nat
  col : Nat
  errs : Nat
deriving Repr, DecidableEq

/-- a saved `token.Position` together with `tail = src[offset:]` -/
structure FPos where
  offset : Nat
  line : Nat
  col : Nat
  tail : List Nat
deriving Repr, DecidableEq

/-- token: type (`-1` = ILLEGAL), literal `src[start:stop]` (`lit` are its bytes) and position of
    its first character -/
structure FTok where
  type : Int
  start : Nat
  stop : Nat
  lit : List Nat
  line : Nat
  col : Nat
deriving Repr, DecidableEq

namespace FScan

/-! token types: `tokenMap.Type(name)` -/
def tILLEGAL : Int := -1
def tEOF : Int := 0
def tTokId : Int := 2
def tColon : Int := 3
def tSemi : Int := 4
def tRegDefId : Int := 5
def tIgnoredTokId : Int := 6
def tBar : Int := 7
def tDot : Int := 8
def tCharLit : Int := 9
def tMinus : Int := 10
def tLBrack : Int := 11
def tRBrack : Int := 12
def tLBrace : Int := 13
def tRBrace : Int := 14
def tLParen : Int := 15
def tRParen : Int := 16
def tProdId : Int := 17
def tSdtLit : Int := 18
def tStringLit : Int := 21

/-- `S.pos` -/
def position (s : FSt) : FPos := ⟨s.pos, s.line, s.col, s.cur⟩

/-- `src[a:b]` for `p.offset ≤ a` -/
def slice (p : FPos) (a b : Nat) : List Nat := (p.tail.drop (a - p.offset)).take (b - a)

/-- `S.error(pos, msg)` -/
def error (s : FSt) : FSt := { s with errs := s.errs + 1 }

/-- the `r, w` that `next` computes for the rune at the head of `x = src[S.offset:]`
    (`(-1, 0)` at end of input): NUL is `(0, 1)`, `r >= 80` goes through `utf8.DecodeRune` -/
def look : List Nat → Int × Nat
  | [] => (-1, 0)
  | b :: rest =>
    if b = 0 then (0, 1) else if b ≥ 80 then decodeRune (b :: rest) else ((b : Int), 1)

/-- `S.next()` -/
def next (s : FSt) : FSt :=
  match s.cur.drop (s.offset - s.pos) with
  | [] => { s with cur := [], pos := s.pos + s.cur.length, ch := -1 }
  | b :: rest =>
    -- S.pos.Column++; if S.ch == '\n' { S.pos.Line++; S.pos.Column = 1 }
    let line := if s.ch = 10 then s.line + 1 else s.line
    let col := if s.ch = 10 then 1 else s.col + 1
    let rw := look (b :: rest)
    -- "illegal character NUL" / "illegal UTF-8 encoding"
    let err : Bool := b == 0 || (b ≥ 80 && rw.1 == runeError && rw.2 == 1)
    { cur := b :: rest, ch := rw.1, pos := s.offset, offset := s.offset + rw.2,
      line := line, col := col, errs := if err then s.errs + 1 else s.errs }

/-- `S.Init(src, tokenMap)` on a new scanner (`S.ch` is 0) -/
def init (src : List Nat) : FSt :=
  next { cur := src, ch := 0, pos := 0, offset := 0, line := 1, col := 0, errs := 0 }

/-- fuel for a loop entered in state `s` -/
def fuel (s : FSt) : Nat := s.cur.length + 2

/-- `S.expect(ch)` -/
def expect (c : Int) (s : FSt) : FSt :=
  next (if s.ch ≠ c then error s else s)

/-- `strconv.Atoi(t)` restricted to what the scanner uses: `some n` iff no error and `n > 0` -/
def atoiPos (t : List Nat) : Option Nat :=
  let digs := match t with
    | 43 :: r => some r
    | 45 :: _ => none          -- negative or error: never `> 0`
    | r => some r
  match digs with
  | none => none
  | some [] => none
  | some r =>
    if r.all (fun b => 48 ≤ b && b ≤ 57) then
      let n := r.foldl (fun a b => a * 10 + (b - 48)) 0
      if 0 < n ∧ n ≤ 9223372036854775807 then some n else none
    else none

/-- `bytes.Index(text, []byte{':'})` and the slice after it -/
def afterColon : List Nat → Option (List Nat)
  | [] => none
  | b :: r => if b = 58 then some r else afterColon r

/-- `bytes.HasPrefix(text, []byte("line "))` -/
def hasLinePrefix (t : List Nat) : Bool := t.take 5 == [108, 105, 110, 101, 32]

/-- the `//line` directive: executed when `S.ch == '\n'` in a `//` comment -/
def lineDirective (p : FPos) (s : FSt) : FSt :=
  if p.col = 1 then
    let text := slice p (p.offset + 2) s.pos
    if hasLinePrefix text then
      match afterColon text with
      | some t =>
        match atoiPos t with
        | some line => { s with line := line - 1 }
        | none => s
      | none => s
    else s
  else s

/-- `for S.ch >= 0 { S.next(); if S.ch == '\n' { ...; return } }` -/
def lineCommentLoop (p : FPos) : Nat → FSt → FSt
  | 0, s => s
  | f + 1, s =>
    if s.ch ≥ 0 then
      let s1 := next s
      if s1.ch = 10 then lineDirective p s1
      else lineCommentLoop p f s1
    else s

/-- `for S.ch >= 0 { ch := S.ch; S.next(); if ch == '*' && S.ch == '/' { S.next(); return } }`;
    `true` = returned from inside the loop -/
def blockCommentLoop : Nat → FSt → Bool × FSt
  | 0, s => (false, s)
  | f + 1, s =>
    if s.ch ≥ 0 then
      let ch := s.ch
      let s1 := next s
      if ch = 42 ∧ s1.ch = 47 then (true, next s1)
      else blockCommentLoop f s1
    else (false, s)

/-- `S.scanComment(pos)` -/
def scanComment (p : FPos) (s : FSt) : FSt :=
  if s.ch = 47 then
    lineCommentLoop p (fuel s) s
  else
    let s1 := expect 42 s
    match blockCommentLoop (fuel s1) s1 with
    | (true, s2) => s2
    | (false, s2) => error s2

def isLetter (u : UnicodeOracle) (ch : Int) : Bool :=
  (97 ≤ ch && ch ≤ 122) || (65 ≤ ch && ch ≤ 90) || (ch ≥ 0x80 && u.isLetter ch) || ch == 95

def isDigit (u : UnicodeOracle) (ch : Int) : Bool :=
  (48 ≤ ch && ch ≤ 57) || (ch ≥ 0x80 && u.isDigit ch)

/-- `unicode.IsUpper(ch)` -/
def isUpper (u : UnicodeOracle) (ch : Int) : Bool :=
  if ch < 0x80 then 65 ≤ ch && ch ≤ 90 else u.isUpper ch

def digitVal (ch : Int) : Nat :=
  if 48 ≤ ch ∧ ch ≤ 57 then (ch - 48).toNat
  else if 97 ≤ ch ∧ ch ≤ 102 then (ch - 97 + 10).toNat
  else if 65 ≤ ch ∧ ch ≤ 70 then (ch - 65 + 10).toNat
  else 16

/-- `for ; i > 0; i-- { ... }` of `scanEscape` (`uint32` arithmetic); `none` = returned from
    inside the loop -/
def escDigits (base : Nat) : Nat → Nat → FSt → Option Nat × FSt
  | 0, x, s => (some x, s)
  | i + 1, x, s =>
    let d := digitVal s.ch
    if d > base then (none, error s)
    else escDigits base i ((x * base + d) % 4294967296) (next s)

/-- the part of `scanEscape` after the `switch` -/
def escTail (i base max : Nat) (s : FSt) : FSt :=
  match escDigits base i 0 s with
  | (none, s1) => s1
  | (some x, s1) => if x > max ∨ (0xd800 ≤ x ∧ x < 0xe000) then error s1 else s1

/-- `S.scanEscape(quote)` -/
def scanEscape (s : FSt) : FSt :=
  let ch := s.ch
  if ch = 97 ∨ ch = 98 ∨ ch = 102 ∨ ch = 110 ∨ ch = 114 ∨ ch = 116 ∨ ch = 118 ∨ ch = 92 ∨
      ch = 39 ∨ ch = 34 then next s
  else if 48 ≤ ch ∧ ch ≤ 55 then escTail 3 8 255 s
  else if ch = 120 then escTail 2 16 255 (next s)
  else if ch = 117 then escTail 4 16 0x10FFFF (next s)
  else if ch = 85 then escTail 8 16 0x10FFFF (next s)
  else error (next s)

/-- the `for S.ch != '\''` loop of `scanChar`; returns `n` -/
def charLoop : Nat → Nat → FSt → Nat × FSt
  | 0, n, s => (n, s)
  | f + 1, n, s =>
    if s.ch ≠ 39 then
      let ch := s.ch
      let s1 := next s
      if ch = 10 ∨ ch < 0 then (1, error s1)
      else if ch = 92 then charLoop f (n + 1) (scanEscape s1)
      else charLoop f (n + 1) s1
    else (n, s)

/-- `S.scanChar(pos)` -/
def scanChar (s : FSt) : FSt :=
  let r := charLoop (fuel s) 0 s
  let s1 := next r.2
  if r.1 ≠ 1 then error s1 else s1

/-- the loop of `scanIdentifier` -/
def identLoop (u : UnicodeOracle) : Nat → FSt → FSt
  | 0, s => s
  | f + 1, s =>
    if isLetter u s.ch || isDigit u s.ch || s.ch == 33 then identLoop u f (next s) else s

/-- `S.scanIdentifier(pos)` -/
def scanIdentifier (u : UnicodeOracle) (p : FPos) (s : FSt) : Int × FSt :=
  let ch0 := s.ch
  let s1 := identLoop u (fuel s) s
  let ty :=
    if slice p p.offset s1.pos = [105, 109, 112, 111, 114, 116] then tILLEGAL   -- "import"
    else if ch0 = 33 then tIgnoredTokId
    else if ch0 = 95 then tRegDefId
    else if isUpper u ch0 then tProdId
    else tTokId
  (ty, s1)

/-- the `for cmp := false; !cmp; { ... }` loop of `scanSDTLit` -/
def sdtLoop : Nat → FSt → FSt
  | 0, s => s
  | f + 1, s =>
    if s.ch < 0 then error s
    else if s.ch = 62 then
      let s1 := next s
      if s1.ch = 62 then s1 else sdtLoop f (next s1)
    else sdtLoop f (next s)

/-- `S.scanSDTLit(pos)` -/
def scanSDTLit (s : FSt) : FSt :=
  let s1 := next s
  next (sdtLoop (fuel s1) s1)

/-- the loop of `scanString` -/
def stringLoop : Nat → FSt → FSt
  | 0, s => s
  | f + 1, s =>
    if s.ch ≠ 34 then
      let ch := s.ch
      let s1 := next s
      if ch = 10 ∨ ch < 0 then error s1
      else if ch = 92 then stringLoop f (scanEscape s1)
      else stringLoop f s1
    else s

/-- `S.scanString(pos)` -/
def scanString (s : FSt) : FSt := next (stringLoop (fuel s) s)

/-- the loop of `scanRawString` -/
def rawLoop : Nat → FSt → FSt
  | 0, s => s
  | f + 1, s =>
    if s.ch ≠ 96 then
      let ch := s.ch
      let s1 := next s
      if ch < 0 then error s1 else rawLoop f s1
    else s

/-- `S.scanRawString(pos)` -/
def scanRawString (s : FSt) : FSt := next (rawLoop (fuel s) s)

def isWs (ch : Int) : Bool := ch == 32 || ch == 9 || ch == 10 || ch == 13

def wsLoop : Nat → FSt → FSt
  | 0, s => s
  | f + 1, s => if isWs s.ch then wsLoop f (next s) else s

/-- `S.skipWhitespace()` -/
def skipWhitespace (s : FSt) : FSt := wsLoop (fuel s) s

/-- `token.NewToken(tok, S.src[pos.Offset:S.pos.Offset]), pos` -/
def mkTok (ty : Int) (p : FPos) (s : FSt) : FTok :=
  { type := ty, start := p.offset, stop := s.pos, lit := slice p p.offset s.pos,
    line := p.line, col := p.col }

/-- The body of `Scan` after `S.skipWhitespace()`: `(none, s')` stands for `goto scanAgain`. -/
def scanOnce (u : UnicodeOracle) (s : FSt) : Option FTok × FSt :=
  let p := position s
  let ch := s.ch
  if ch = 33 ∨ isLetter u ch then
    let r := scanIdentifier u p s
    (some (mkTok r.1 p r.2), r.2)
  else
    let s1 := next s
    let ret (ty : Int) (s2 : FSt) : Option FTok × FSt := (some (mkTok ty p s2), s2)
    if ch = -1 then ret tEOF s1
    else if ch = 34 then ret tStringLit (scanString s1)
    else if ch = 39 then ret tCharLit (scanChar s1)
    else if ch = 96 then ret tStringLit (scanRawString s1)
    else if ch = 45 then ret tMinus s1
    else if ch = 123 then ret tLBrace s1
    else if ch = 125 then ret tRBrace s1
    else if ch = 58 then ret tColon s1
    else if ch = 59 then ret tSemi s1
    else if ch = 44 then ret tILLEGAL s1            -- ","
    else if ch = 91 then ret tLBrack s1
    else if ch = 93 then ret tRBrack s1
    else if ch = 40 then ret tLParen s1
    else if ch = 41 then ret tRParen s1
    else if ch = 124 then ret tBar s1
    else if ch = 47 then
      if s1.ch = 47 ∨ s1.ch = 42 then (none, scanComment p s1)
      else ret tILLEGAL s1                          -- "/"
    else if ch = 60 then
      if s1.ch = 60 then ret tSdtLit (scanSDTLit s1)
      else if s1.ch = 61 then ret tILLEGAL (next s1)  -- "<="
      else ret tILLEGAL s1                          -- "<"
    else if ch = 46 then ret tDot s1
    else ret tILLEGAL (error s1)

/-- `Scan` with a bound on the number of `goto scanAgain` -/
def scanLoop (u : UnicodeOracle) : Nat → FSt → FTok × FSt
  | 0, s => (mkTok tILLEGAL (position s) s, s)
  | f + 1, s =>
    let s1 := skipWhitespace s
    match scanOnce u s1 with
    | (some t, s2) => (t, s2)
    | (none, s2) => scanLoop u f s2

end FScan

open FScan

/-- one call of `S.Scan()` -/
def fscan (u : UnicodeOracle) (s : FSt) : FTok × FSt := scanLoop u (fuel s) s

/-- calls of `Scan` until the first EOF token (at most `n`) -/
def fscanN (u : UnicodeOracle) : Nat → FSt → List FTok × Nat
  | 0, s => ([], s.errs)
  | n + 1, s =>
    let r := fscan u s
    if r.1.type = tEOF then ([r.1], r.2.errs)
    else
      let rest := fscanN u n r.2
      (r.1 :: rest.1, rest.2)

/-- all tokens of `src` up to and including the first end-of-input token, and `ErrorCount` -/
def fscanAll (u : UnicodeOracle) (src : List Nat) : List FTok × Nat :=
  fscanN u (src.length + 2) (init src)

namespace FScan

def hexDigit (n : Nat) : Char := (Nat.toDigits 16 n).getD 0 '0'

def hexBytes (l : List Nat) : String :=
  String.ofList (l.flatMap fun b => [hexDigit (b / 16 % 16), hexDigit (b % 16)])

def showTok (t : FTok) : String :=
  toString t.type ++ ":" ++ hexBytes t.lit ++ "@" ++ toString t.start ++ ":" ++
    toString t.line ++ ":" ++ toString t.col

end FScan

/-- `type:hexlit@offset:line:col` for all tokens, then ` errs=N` (ASCII oracle) -/
def fscanShow (src : List Nat) : String :=
  let r := fscanAll UnicodeOracle.ascii src
  " ".intercalate (r.1.map showTok) ++ " errs=" ++ toString r.2

end Gocc
