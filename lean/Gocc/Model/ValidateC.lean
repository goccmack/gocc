import Gocc.Model.Parse
import Gocc.Spec.NCfg
/-
A second table validator, for the COMPLETENESS direction (every sentence is accepted).

`complete G T fc c` is a finite, executable check of parser tables `T` against a grammar `G`,
given
  * `c : CertLA`   for every state a list of LR(1) items `(p, d, a)`: production, dot position,
                   look-ahead terminal type (1 = end of input);
  * `fc : FirstCert` a certificate for the nullable / FIRST relations of `G`; `firstOk G fc`
                   checks that it is closed under the grammar rules (a pre-fixed point, hence a
                   superset of the true relations).
It checks that the item sets are closed (K1), that every item with a symbol after the dot has the
matching shift / goto edge into a state holding the advanced item (K2), and that every complete
item has its reduce (or accept) entry on its look-ahead (K3).  Nothing is constructed.

The theorem `firstOk … → complete … → (w sentence of G → Parse accepts w)` is in
Props/C02Complete.lean (proof: Proofs/ValidateC.lean).
-/
namespace Gocc

abbrev CertLA := Array (List (Nat × Nat × Nat))

def CertLA.has (c : CertLA) (s p d a : Nat) : Bool := (c[s]?.getD []).contains (p, d, a)

/-- certificate for nullable / FIRST: the nullable non-terminals and pairs (non-terminal `A`,
    terminal type `a`) meaning "`a` may begin a string derived from `A`" -/
structure FirstCert where
  nullable : List Nat
  first : List (Nat × Nat)
deriving Repr, Inhabited

def FirstCert.isNullable (fc : FirstCert) (A : Nat) : Bool := fc.nullable.contains A
def FirstCert.hasFirst (fc : FirstCert) (A a : Nat) : Bool := fc.first.contains (A, a)
/-- terminals are never nullable -/
def FirstCert.symNullable (fc : FirstCert) : Sym → Bool
  | .t _ => false
  | .nt A => fc.isNullable A

/-- the rules of nullable / FIRST for one production `A : β₀ β`, where `β` is what is left of the
    body after a nullable prefix `β₀` -/
def firstOkProd (fc : FirstCert) (A : Nat) : List Sym → Bool
  | [] => fc.isNullable A
  | .t a :: _ => fc.hasFirst A a
  | .nt B :: rest =>
    (fc.first.all fun (B', a) => B' != B || fc.hasFirst A a) &&
    (!fc.isNullable B || firstOkProd fc A rest)

/-- `fc` is closed under the grammar rules -/
def firstOk (G : NGrammar) (fc : FirstCert) : Bool :=
  (List.range G.prods.size).all fun p => firstOkProd fc (G.head p) (G.body p)

/-- the terminals that may begin `β a` according to `fc` -/
def firstOfSeq (fc : FirstCert) : List Sym → Nat → List Nat
  | [], a => [a]
  | .t b :: _, _ => [b]
  | .nt B :: rest, a =>
    ((fc.first.filter fun x => x.1 == B).map (·.2)) ++
      (if fc.isNullable B then firstOfSeq fc rest a else [])

/-- the goto entry of state `s` for non-terminal `A` (as read by the generated parser) -/
def PTables.gotoOf (T : PTables) (s A : Nat) : Option Int := (T.goto_[s]?).bind (·[A]?)

def complete (G : NGrammar) (T : PTables) (fc : FirstCert) (c : CertLA) : Bool :=
  -- shape: end of input is a symbol; no action row is wider than `numSymbols`
  -- (the generated parser indexes `actions[numSymbols]` with the token type)
  decide (T.numSymbols > 1) &&
  T.action.toList.all (fun row => decide (row.size ≤ T.numSymbols)) &&
  -- production table = grammar
  (List.range G.prods.size).all (fun p =>
    T.prodNT[p]? == some (G.head p) && T.prodLen[p]? == some (G.body p).length) &&
  -- production 0 is S' : Start
  (match G.body 0 with | [Sym.nt _] => true | _ => false) &&
  -- terminals of `G` are token types of the tables; `S'` occurs in no body
  (List.range G.prods.size).all (fun p => (G.body p).all fun X =>
    match X with
    | .t a => decide (a < T.numSymbols)
    | .nt B => B != G.head 0) &&
  -- (K0) the start item
  c.has 0 0 0 1 &&
  -- items
  (List.range c.size).all fun s => (c[s]?.getD []).all fun (p, d, a) =>
    match (G.body p)[d]? with
    | some (.t t') =>
      -- (K2) shift edge
      (match T.act s t' with
       | some (.shift s') => c.has s' p (d + 1) a
       | _ => false)
    | some (.nt B) =>
      -- (K2) goto edge
      (match T.gotoOf s B with
       | some g => decide (0 ≤ g) && c.has g.toNat p (d + 1) a
       | none => false) &&
      -- (K1) closure
      (List.range G.prods.size).all (fun q => G.head q != B ||
        (firstOfSeq fc ((G.body p).drop (d + 1)) a).all fun b => c.has s q 0 b)
    | none =>
      -- (K3) complete item: reduce on the look-ahead, accept for the start production
      d != (G.body p).length ||
        (if p == 0 then a == 1 && decide (T.act s 1 = some .accept)
         else decide (T.act s a = some (.reduce p)))

/-- the reduce function of kind `k` neither fails nor panics on the attributes `X` -/
def kindOk (k : RKind) (X : List Attr) : Prop :=
  match k with
  | .dflt => X ≠ []
  | .nilEmpty => True
  | .user shape id => ∃ a, userAction shape id X = .ok a

/-- the semantic actions never fail or panic: the harness failure injection is off, and every
    reduce function succeeds on every attribute list of the length of its production -/
def ActsOk (cfg : PCfg) : Prop :=
  cfg.failAt = 0 ∧
  ∀ (p n : Nat), cfg.T.prodLen[p]? = some n → ∀ X : List Attr, X.length = n →
    kindOk (cfg.T.prodKind[p]?.getD .dflt) X

/-- a decidable sufficient condition for the second half of `ActsOk`: every production has an
    `Mk`/`WithCtx`/`Pct` action (shapes 1, 5, 6), a `nil` action, or — on a non-empty body — a default
    action or a `Sel`/`Last` action (shapes 2, 3) -/
def kindsTotal (T : PTables) : Bool :=
  (List.range T.prodLen.size).all fun p =>
    match T.prodKind[p]?.getD .dflt with
    | .dflt => T.prodLen[p]?.getD 0 != 0
    | .nilEmpty => true
    | .user shape _ =>
      shape == 1 || shape == 5 || shape == 6 || ((shape == 2 || shape == 3) && T.prodLen[p]?.getD 0 != 0)

end Gocc
