import Gocc.Model.Grammar
import Gocc.Model.Range
/-
Model of the lexer generator:
  internal/lexer/items/item.go       Item (path of positions), Emoves (with the visited set of
                                     the D5 fix), Move / MoveDot / MoveRegDefId, match, Reduce
  internal/lexer/items/itemlist.go   AddNoDuplicate, Closure (ContainShift on the *original* list)
  internal/lexer/items/itemset.go    ItemsSet0, getSymbolClasses, Next, NextDot, dependentsClosure, Action
  internal/lexer/items/itemsets.go   GetItemSets / Closure / Add / Contain
  internal/util/rune.go              RuneToString (`runeToString`, `termString`: since fix D13
                                     dependentsClosure compares regular-definition references, not the
                                     *rendered* expected symbol, and nothing in the model reads them)
An item is identified, exactly as by the Go `hashKey`, by its production index and the list of
positions on its stack (bottom first); the nodes on the stack are determined by those positions.
Item lists are kept in the order the Go code produces them only where it is cheap; every
consumer of an item list (set equality, classes, action) is order-independent.
-/
namespace Gocc

inductive LNode where
  | pat (p : LPat)        -- the production's pattern (level 0)
  | alt (a : LAlt)
  | grp (p : LPat)
  | opt (p : LPat)
  | rep (p : LPat)
deriving Inhabited

def LNode.len : LNode → Nat
  | .pat p | .grp p | .opt p | .rep p => p.alts.length
  | .alt a => a.terms.length

/-- the node pushed on top of `n` when `n` is at position `i` -/
def LNode.child (n : LNode) (i : Nat) : Option LNode :=
  match n with
  | .pat p | .grp p | .opt p | .rep p => (p.alts[i]?).map .alt
  | .alt a =>
    match a.terms[i]? with
    | some (.grp p) => some (.grp p)
    | some (.opt p) => some (.opt p)
    | some (.rep p) => some (.rep p)
    | _ => none

/-- terminal term at position `i` of an alternative -/
def LNode.termAt (n : LNode) (i : Nat) : Option LTerm :=
  match n with
  | .alt a =>
    match a.terms[i]? with
    | some .dot => some .dot
    | some (.lit c) => some (.lit c)
    | some (.rng a b) => some (.rng a b)
    | some (.ref r) => some (.ref r)
    | _ => none
  | _ => none

structure LItem where
  prod : Nat
  path : List Nat
deriving DecidableEq, Repr, Inhabited, BEq

/-- walk the path: the node on top of the stack and its position -/
def walk : LNode → List Nat → Option (LNode × Nat)
  | _, [] => none
  | n, [p] => some (n, p)
  | n, p :: rest => (n.child p).bind fun c => walk c rest

structure LexCtx where
  prods : Array LProd

def LexCtx.top (C : LexCtx) (i : LItem) : Option (LNode × Nat) :=
  (C.prods[i.prod]?).bind fun p => walk (.pat p.pat) i.path

/-- `Item.Reduce()` -/
def LexCtx.isReduce (C : LexCtx) (i : LItem) : Bool :=
  match i.path, C.top i with
  | [_], some (n, pos) => pos ≥ n.len
  | _, _ => false

/-- `ExpectedSymbol()` of a basic item -/
def LexCtx.expected (C : LexCtx) (i : LItem) : Option LTerm :=
  match C.top i with
  | some (n, pos) => n.termAt pos
  | none => none

def setLast (l : List Nat) (v : Nat) : List Nat := l.dropLast ++ [v]
def incLast (l : List Nat) : List Nat :=
  match l.getLast? with
  | some v => l.dropLast ++ [v + 1]
  | none => l

/-- successors of a non-basic item (one step of the `switch` in `Emoves`) -/
def emoveStep (C : LexCtx) (i : LItem) : List LItem :=
  match C.top i with
  | none => []
  | some (n, pos) =>
    let enter := (List.range n.len).map fun k => { i with path := setLast i.path k ++ [0] }
    let post : LItem := { i with path := incLast i.path.dropLast }       -- pop; inc
    match n with
    | .pat _ =>
      if pos == 0 then enter
      else if i.path.length == 1 then [{ i with path := [n.len] }] else [post]
    | .grp _ => if pos == 0 then enter else [post]
    | .opt _ => if pos == 0 then enter ++ [post] else [post]
    | .rep _ => enter ++ [post]
    | .alt _ =>
      if pos ≥ n.len then
        -- pop; setToEnd: the parent's position becomes its length
        match walk (.pat (C.prods[i.prod]!.pat)) i.path.dropLast with
        | some (pn, _) => [{ i with path := setLast i.path.dropLast pn.len }]
        | none => []
      else [{ i with path := i.path ++ [0] }]

def LexCtx.isBasic (C : LexCtx) (i : LItem) : Bool :=
  C.isReduce i || (C.expected i).isSome

/-- `Item.Emoves()`: depth-first work list with a visited set -/
def emovesLoop (C : LexCtx) : Nat → List LItem → List LItem → List LItem → List LItem
  | 0, _, _, out => out
  | _ + 1, [], _, out => out
  | fuel + 1, i :: work, visited, out =>
    if visited.contains i then emovesLoop C fuel work visited out
    else if C.isBasic i then emovesLoop C fuel work (i :: visited) (out ++ [i])
    else emovesLoop C fuel ((emoveStep C i).reverse ++ work) (i :: visited) out

def LPat.size : LPat → Nat
  | .mk alts => 1 + sizeAlts alts
where
  sizeAlts : List LAlt → Nat
    | [] => 0
    | (.mk ts) :: rest => 1 + sizeTerms ts + sizeAlts rest
  sizeTerms : List LTerm → Nat
    | [] => 0
    | t :: rest => (match t with
        | .opt p | .rep p | .grp p => 1 + LPat.size p
        | _ => 1) + sizeTerms rest

def LexCtx.fuel (C : LexCtx) : Nat := (C.prods.toList.map fun p => 4 * p.pat.size + 4).sum + 8

def emoves (C : LexCtx) (i : LItem) : List LItem :=
  emovesLoop C ((C.fuel + 2) * (C.fuel + 2)) [i] [] []

def addL (l : List LItem) (i : LItem) : List LItem := if l.contains i then l else l ++ [i]
def addAll (l : List LItem) (is : List LItem) : List LItem := is.foldl addL l

/-- `Item.match(rng)` -/
def termMatch (t : LTerm) (c : CR) : Bool :=
  match t with
  | .lit v => matchLit v c
  | .rng a b => matchRange a b c
  | _ => false

def moved (C : LexCtx) (i : LItem) : List LItem := emoves C { i with path := incLast i.path }

def moveOn (C : LexCtx) (i : LItem) (c : CR) : List LItem :=
  match C.expected i with
  | some t => if termMatch t c then moved C i else []
  | none => []

def moveDot (C : LexCtx) (i : LItem) : List LItem :=
  match C.expected i with
  | some .dot => moved C i
  | _ => []

def moveRef (C : LexCtx) (i : LItem) (id : String) : List LItem :=
  match C.expected i with
  | some (.ref r) => if r == id then moved C i else []
  | _ => []

def LexCtx.prodIndex (C : LexCtx) (id : String) : Option Nat := C.prods.findIdx? (·.id == id)
def LexCtx.idOf (C : LexCtx) (i : LItem) : String := (C.prods[i.prod]?).map (·.id) |>.getD ""

/-- `NewItem(id).Emoves()`; an unknown id is the Go panic "Unknown production" -/
def initialItems (C : LexCtx) (id : String) : Except String (List LItem) :=
  match C.prodIndex id with
  | some k => .ok (emoves C ⟨k, [0]⟩)
  | none => .error s!"Unknown production: {id}"

/-- `ItemList.ContainShift(id)` -/
def containShift (C : LexCtx) (l : List LItem) (id : String) : Bool :=
  l.any fun i => C.idOf i == id && !C.isReduce i

/-- `ItemList.Closure` -/
def closureLoopL (C : LexCtx) (orig : List LItem) : Nat → Nat → List LItem → Except String (List LItem)
  | 0, _, cl => .ok cl
  | fuel + 1, k, cl =>
    match cl[k]? with
    | none => .ok cl
    | some i =>
      match C.expected i with
      | some (.ref r) =>
        if !containShift C orig r then do
          let init ← initialItems C r
          closureLoopL C orig fuel (k + 1) (addAll cl init)
        else closureLoopL C orig fuel (k + 1) cl
      | _ => closureLoopL C orig fuel (k + 1) cl

def closureL (C : LexCtx) (l : List LItem) : Except String (List LItem) :=
  closureLoopL C l (l.length + C.fuel * C.fuel + 8) 0 l

/-! `util.RuneToString` and `LexTNode.String()` -/

def hexDigitChar (d : Nat) : Char := if d < 10 then Char.ofNat (48 + d) else Char.ofNat (87 + d)
def hexPad (n width : Nat) : String :=
  String.ofList ((List.range width).reverse.map fun k => hexDigitChar ((n / 16 ^ k) % 16))

def runeToString (r : Int) : String :=
  if r ≥ 0x20 ∧ r < 0x7f then "'" ++ String.singleton (Char.ofNat r.toNat) ++ "'"
  else if r = 7 then "'\\a'" else if r = 8 then "'\\b'" else if r = 12 then "'\\f'"
  else if r = 10 then "'\\n'" else if r = 13 then "'\\r'" else if r = 9 then "'\\t'"
  else if r = 11 then "'\\v'"
  else if r < 0x10000 then "\\u" ++ hexPad r.toNat 4
  else "\\U" ++ hexPad r.toNat 8

def termString : LTerm → String
  | .dot => "."
  | .lit c => runeToString c
  | .rng a b => runeToString a ++ "-" ++ runeToString b
  | .ref r => r
  | _ => ""

/-- `ItemSet.dependentsClosure(items)` where `prev` are the items of the current set -/
def depLoop (C : LexCtx) (prev : List LItem) : Nat → Nat → List LItem → List LItem
  | 0, _, items => items
  | fuel + 1, k, items =>
    match items[k]? with
    | none => items
    | some it =>
      let id := C.idOf it
      let items' := prev.foldl (fun acc th =>
        match C.expected th with
        | some (.ref r) =>
          if r == id then
            if C.isReduce it then addAll acc (moveRef C th id) else addL acc th
          else acc
        | _ => acc) items
      depLoop C prev fuel (k + 1) items'

def depClosure (C : LexCtx) (prev items : List LItem) : List LItem :=
  if items.isEmpty then items else depLoop C prev (items.length + prev.length + C.fuel * C.fuel + 8) 0 items

/-- `ItemSet.Next(rng)` -/
def nextSet (C : LexCtx) (prev : List LItem) (c : CR) : Except String (List LItem) :=
  closureL C (depClosure C prev (prev.foldl (fun acc i => addAll acc (moveOn C i c)) []))

/-- `ItemSet.NextDot()` -/
def nextDot (C : LexCtx) (prev : List LItem) : Except String (List LItem) :=
  closureL C (depClosure C prev (prev.foldl (fun acc i => addAll acc (moveDot C i)) []))

/-- `getSymbolClasses`: classes and MatchAny -/
def symbolClasses (C : LexCtx) (items : List LItem) : List CR × Bool :=
  items.foldl (fun (acc : List CR × Bool) i =>
    if C.isReduce i then acc
    else match C.expected i with
      | some (.lit v) => (addRange acc.1 v v, acc.2)
      | some (.rng a b) => (addRange acc.1 a b, acc.2)
      | some .dot => (acc.1, true)
      | _ => acc) ([], false)

inductive LAct where
  | none | accept (id : String) | ignore (id : String)
deriving DecidableEq, Repr, Inhabited

/-- `ItemSet.Action()` -/
def lexAction (C : LexCtx) (items : List LItem) : LAct :=
  let isStr (i : LItem) : Bool := (C.prods[i.prod]?).map (·.strLit) |>.getD false
  let best := items.foldl (fun (acc : Option LItem) i =>
    match C.prods[i.prod]? with
    | some p =>
      if p.kind != .reg && C.isReduce i then
        match acc with
        | none => some i
        | some a => if isStr i || (!isStr a && i.prod < a.prod) then some i else some a
      else acc
    | none => acc) none
  match best with
  | none => .none
  | some i =>
    match C.prods[i.prod]? with
    | some p => if p.kind == .tok then .accept p.id else if p.kind == .ign then .ignore p.id else .none
    | none => .none

structure LState where
  items : List LItem
  classes : List CR
  matchAny : Bool
  trans : List Int            -- one per class, -1 if none
  dotTrans : Int := -1
deriving Inhabited

def sameLItems (a b : List LItem) : Bool := a.length == b.length && a.all b.contains

def newLState (C : LexCtx) (items : List LItem) : Except String LState := do
  let cl ← closureL C items
  let (classes, any) := symbolClasses C cl
  pure { items := cl, classes := classes, matchAny := any, trans := classes.map fun _ => -1 }

/-- `ItemSets.Add(items)` -/
def addSet (C : LexCtx) (sets : Array LState) (items : List LItem) : Except String (Array LState × Nat) :=
  match sets.findIdx? (fun s => sameLItems s.items items) with
  | some k => .ok (sets, k)
  | none => do
    let s ← newLState C items
    pure (sets.push s, sets.size)

/-- process set `i` of `ItemSets.Closure` -/
def expandSet (C : LexCtx) (sets : Array LState) (i : Nat) : Except String (Array LState) := do
  let mut sets := sets
  let cur := sets[i]!
  let mut k := 0
  for c in cur.classes do
    let items ← nextSet C cur.items c
    if !items.isEmpty then
      let (s', no) ← addSet C sets items
      sets := s'.modify i fun st => { st with trans := st.trans.set k no }
    k := k + 1
  let items ← nextDot C cur.items
  if !items.isEmpty then
    let (s', no) ← addSet C sets items
    sets := s'.modify i fun st => { st with dotTrans := no }
  return sets

def lexLoop (C : LexCtx) : Nat → Nat → Array LState → Except String (Array LState)
  | 0, _, sets => .ok sets
  | fuel + 1, i, sets =>
    if i < sets.size then do
      let s ← expandSet C sets i
      lexLoop C fuel (i + 1) s
    else .ok sets

/-- `ItemsSet0` -/
def itemsSet0 (C : LexCtx) : List LItem :=
  (List.range C.prods.size).foldl (fun acc k =>
    match C.prods[k]? with
    | some p => if p.kind != .reg then addAll acc (emoves C ⟨k, [0]⟩) else acc
    | none => acc) []

/-- `UpdateStringLitTokens` + `GetItemSets` -/
def lexProdsWithStrLits (lex : List LProd) (strLits : List String) : List LProd :=
  lex ++ strLits.map fun s =>
    { kind := .tok, id := s, strLit := true,
      pat := .mk [.mk (s.toList.map fun ch => LTerm.lit ch.toNat)] }

def genLexer (prods : List LProd) : Except String (Array LState) := do
  let C : LexCtx := { prods := prods.toArray }
  let s0 ← newLState C (itemsSet0 C)
  lexLoop C 100000 0 #[s0]

end Gocc
