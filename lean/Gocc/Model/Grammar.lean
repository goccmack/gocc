/-
Abstract syntax of a gocc grammar as produced by the front end (`internal/ast`), in the
shape the generator models consume.  Names are the `SymbolString()`s of the Go AST.
-/
namespace Gocc

/-! ### Lexical part (`ast.LexPart`) -/

mutual
  inductive LTerm where
    | dot                              -- `.`
    | lit (c : Int)                    -- `'a'`
    | rng (lo hi : Int)                -- `'a'-'z'`
    | ref (name : String)              -- `_regdef`
    | opt (p : LPat)                   -- `[ ... ]`
    | rep (p : LPat)                   -- `{ ... }`
    | grp (p : LPat)                   -- `( ... )`
  inductive LPat where                 -- alternatives
    | mk (alts : List LAlt)
  inductive LAlt where                 -- sequence of terms
    | mk (terms : List LTerm)
end

instance : Inhabited LTerm := ⟨.dot⟩
instance : Inhabited LPat := ⟨.mk []⟩
instance : Inhabited LAlt := ⟨.mk []⟩

def LPat.alts : LPat → List LAlt | .mk a => a
def LAlt.terms : LAlt → List LTerm | .mk t => t

inductive LKind where
  | tok | ign | reg
deriving DecidableEq, Repr, Inhabited

structure LProd where
  kind : LKind
  id : String
  pat : LPat
  strLit : Bool := false      -- added by `UpdateStringLitTokens`
deriving Inhabited

/-! ### Syntax part (`ast.SyntaxPart`, before augmentation) -/

inductive SKind where
  | prodId | tokId | strLit
deriving DecidableEq, Repr, Inhabited

structure SSym where
  kind : SKind
  name : String
deriving DecidableEq, Repr, Inhabited

/-- an alternative of a syntax production; `act`: how the harness' action text of the alternative
    behaves (0 = no action text) -/
structure SProd where
  head : String
  body : List SSym          -- never empty (`consistent` rejects it); `empty` is a tokId named "empty"
  act : Nat := 0            -- 0: no SDT; k>0: harness action shape (see Model/Parse.lean)
  actId : Nat := 0
deriving DecidableEq, Repr, Inhabited

structure Grammar where
  lex : List LProd
  syn : List SProd          -- [] = no syntax part
deriving Inhabited

end Gocc
