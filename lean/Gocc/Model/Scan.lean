import Gocc.Proofs.Utf8
/-
Model of the generated lexer: template `internal/lexer/gen/golang/lexer.go`
(`NewLexer`, `Scan`, `Reset`), over arbitrary tables.

`LexTables` abstracts `TransTab` (`trans s r`, `-1` = NoState) and `ActTab`
(`accept s` = `ActTab[s].Accept`, `ignore s` = `ActTab[s].Ignore != ""`).
Generated tables have `Accept = -1` exactly for ignore states and `Accept = 0` (INVALID)
for states without action; the model does not assume this.  The tables are total functions:
where Go would panic (a target `< -1`, used as state `toNat = 0` here; a state past the end of
`ActTab`) the model goes on with some value, so "all tables" includes such tables
(`equivCheck` rejects negative targets).

`Loop` holds the variables of `Scan`; `iter` is one pass of `for state != -1 { ... }`;
`loop` iterates it (well-founded on the number of unread bytes: every pass that does not
end the loop consumes at least one byte).
-/
namespace Gocc

structure LexTables where
  trans : Nat → Int → Int
  accept : Nat → Int
  ignore : Nat → Bool

def tokINVALID : Int := 0
def tokEOF : Int := 1

/-- cursor of the lexer between `Scan` calls: `l.pos`, `l.line`, `l.column` -/
structure LexSt where
  pos : Nat
  line : Nat
  col : Nat
deriving DecidableEq, Repr, Inhabited

def newLexer : LexSt := ⟨0, 1, 1⟩

/-- `Lexer.Reset` (after the D4 fix) -/
def LexSt.reset (_ : LexSt) : LexSt := ⟨0, 1, 1⟩

structure Tok where
  typ : Int
  litStart : Nat
  litEnd : Nat        -- `tok.Lit = src[litStart:litEnd]`, empty if `litEnd ≤ litStart`
  offset : Nat
  line : Nat
  col : Nat
deriving DecidableEq, Repr, Inhabited

structure Loop where
  pos : Nat
  line : Nat
  col : Nat
  start : Nat
  startLine : Nat
  startCol : Nat
  end_ : Nat
  typ : Int
  state : Int
deriving DecidableEq, Repr, Inhabited

/-- the `switch rune1 { case '\n' ... }` position update -/
def advLC (r : Int) (line col : Nat) : Nat × Nat :=
  if r = 10 then (line + 1, 1)
  else if r = 13 then (line, 1)
  else if r = 9 then (line, col + 4)
  else (line, col + 1)

/-- one pass of the loop body; precondition `L.state ≠ -1` -/
def iter (T : LexTables) (src : List Nat) (L : Loop) : Loop :=
  let len := src.length
  -- decode
  let dr : Int × Nat := if L.pos ≥ len then (-1, 0) else decodeRune (src.drop L.pos)
  let rune1 := dr.1
  let pos := if L.pos ≥ len then L.pos else L.pos + dr.2
  let next : Int := if rune1 ≠ -1 then T.trans L.state.toNat rune1 else -1
  if next ≠ -1 then
    let lc := advLC rune1 L.line L.col
    if T.accept next.toNat ≠ -1 then
      { L with pos := pos, line := lc.1, col := lc.2, typ := T.accept next.toNat, end_ := pos, state := next }
    else if T.ignore next.toNat then
      { L with pos := pos, line := lc.1, col := lc.2, start := pos, startLine := lc.1, startCol := lc.2,
               state := 0, typ := if pos ≥ len then tokEOF else tokINVALID }
    else
      { L with pos := pos, line := lc.1, col := lc.2, state := next }
  else
    if L.typ = tokINVALID then
      let lc := if rune1 = -1 then (L.line, L.col) else advLC rune1 L.line L.col
      { L with pos := pos, line := lc.1, col := lc.2, end_ := pos, state := -1 }
    else
      { L with pos := pos, state := -1 }

theorem iter_pos (T : LexTables) (src : List Nat) (L : Loop) :
    (iter T src L).pos =
      if L.pos ≥ src.length then L.pos else L.pos + (decodeRune (src.drop L.pos)).2 := by
  simp only [iter, apply_ite Loop.pos, ite_self]
  split <;> rfl

theorem iter_pos_lt (T : LexTables) (src : List Nat) (L : Loop) (h : L.pos < src.length) :
    L.pos < (iter T src L).pos := by
  have := (decodeRune_drop h).1
  rw [iter_pos, if_neg (by omega)]; omega

/-- `for state != -1 { body }` -/
def loop (T : LexTables) (src : List Nat) (L : Loop) : Loop :=
  if L.state = -1 then L
  else if h : L.pos < src.length then
    loop T src (iter T src L)
  else
    -- at end of input the pass sets `state = -1` (rune1 = -1): the loop ends after it
    iter T src L
termination_by src.length - L.pos
decreasing_by
  have := iter_pos_lt T src L h
  omega

/-- `Scan()`: the returned token and the lexer cursor afterwards -/
def scan (T : LexTables) (src : List Nat) (st : LexSt) : Tok × LexSt :=
  if st.pos ≥ src.length then
    ({ typ := tokEOF, litStart := 0, litEnd := 0, offset := st.pos, line := st.line, col := st.col }, st)
  else
    let L0 : Loop := { pos := st.pos, line := st.line, col := st.col, start := st.pos,
                       startLine := st.line, startCol := st.col, end_ := 0, typ := tokINVALID, state := 0 }
    let L := loop T src L0
    if L.end_ > L.start then
      ({ typ := L.typ, litStart := L.start, litEnd := L.end_, offset := L.start, line := L.startLine, col := L.startCol },
       ⟨L.end_, L.line, L.col⟩)
    else
      ({ typ := L.typ, litStart := 0, litEnd := 0, offset := L.start, line := L.startLine, col := L.startCol },
       ⟨L.pos, L.line, L.col⟩)

/-- the first `k` tokens of a lexer started in state `st` -/
def scanN (T : LexTables) (src : List Nat) : Nat → LexSt → List Tok
  | 0, _ => []
  | k + 1, st => let r := scan T src st; r.1 :: scanN T src k r.2

end Gocc
