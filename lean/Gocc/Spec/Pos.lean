import Gocc.Model.Scan
/-
Specification vocabulary for the positions of C08, and `TWF`, the hypothesis on the tables that
C01 and C08 share.

`ReachR src st rs`: offset `st.pos` is reached from offset 0 by reading the runes `rs`
one after the other (so it is a rune boundary of the sequential decoding of `src`), and
`st.line`, `st.col` are the line / column obtained by the property's rule
(line + 1 and column 1 after '\n', column 1 after '\r', + 4 for a tab, + 1 otherwise).
`lineOf` / `colOf` restate the rule without reference to the lexer:
line = 1 + number of '\n' read, column = 1 + advance since the last '\r' / '\n'.
-/
namespace Gocc

/-- read one rune at `st.pos` -/
def lcStep (src : List Nat) (st : LexSt) : LexSt :=
  let dr := decodeRune (src.drop st.pos)
  let lc := advLC dr.1 st.line st.col
  ⟨st.pos + dr.2, lc.1, lc.2⟩

inductive ReachR (src : List Nat) : LexSt → List Int → Prop
  | zero : ReachR src ⟨0, 1, 1⟩ []
  | step {st rs} : ReachR src st rs → st.pos < src.length →
      ReachR src (lcStep src st) (rs ++ [(decodeRune (src.drop st.pos)).1])

def Reach (src : List Nat) (st : LexSt) : Prop := ∃ rs, ReachR src st rs

def lineOf (rs : List Int) : Nat := 1 + rs.count 10

/-- advance since the last '\r' or '\n' -/
def colAdv (rs : List Int) : Nat :=
  rs.foldl (fun c r => if r = 10 ∨ r = 13 then 0 else if r = 9 then c + 4 else c + 1) 0

def colOf (rs : List Int) : Nat := 1 + colAdv rs

/-- tables as the generator emits them: `Accept = -1` only for ignore states -/
def TWF (T : LexTables) : Prop := ∀ s, T.accept s = -1 → T.ignore s = true

end Gocc
