import Gocc.Model.LexGen
/-
Reference semantics of a lexical part (C01a), written without the generator's machinery for
regular definitions: a *position* is a call stack of dotted items — a reference `_r` pushes a
fresh frame for `_r` (macro expansion, the call context is kept) and the end of a definition
pops it and advances the caller.  The reference automaton is the subset construction over
these positions with the property's rule for '.': on a rune, the positions expecting a literal
or range containing it advance; only if there is none do the positions expecting '.' advance.
The verdict of a state is the best completed token (string literal of the syntax part first,
then the earliest declared), accepted or ignored.

Executable: `refDfa` (states over elementary rune intervals), `equivCheck` of Model/LexEquiv.lean
(exact product walk against the generator model's automaton).  Recursive definitions have no finite
expansion: the driver (Driver/Gram.lean) tests `acyclicDefs` before it runs the automaton; the
theorems about it assume the stronger `noRefs`.
-/
namespace Gocc

abbrev XPos := List LItem     -- top frame first

def refsOfPat : LPat → List String
  | .mk alts => refsAlts alts
where
  refsAlts : List LAlt → List String
    | [] => []
    | (.mk ts) :: rest => refsTerms ts ++ refsAlts rest
  refsTerms : List LTerm → List String
    | [] => []
    | t :: rest => (match t with
        | .ref r => [r]
        | .opt p | .rep p | .grp p => refsOfPat p
        | _ => []) ++ refsTerms rest

/-- no definition reaches itself through references -/
def acyclicDefs (prods : List LProd) : Bool :=
  let refs (id : String) : List String :=
    match prods.find? (·.id == id) with
    | some p => refsOfPat p.pat
    | none => []
  let rec reach (fuel : Nat) (frontier seen : List String) : List String :=
    match fuel with
    | 0 => seen
    | fuel + 1 =>
      let next := (frontier.flatMap refs).eraseDups.filter (!seen.contains ·)
      if next.isEmpty then seen else reach fuel next (seen ++ next)
  prods.all fun p => !(reach (prods.length + 1) (refs p.id).eraseDups (refs p.id).eraseDups).contains p.id

/-- ε-closure of a work list of positions: expands the top frame, calls and returns -/
def xClosureLoop (C : LexCtx) : Nat → List XPos → List XPos → List XPos → List XPos
  | 0, _, _, out => out
  | _ + 1, [], _, out => out
  | fuel + 1, x :: work, visited, out =>
    if visited.contains x then xClosureLoop C fuel work visited out
    else
      match x with
      | [] => xClosureLoop C fuel work (x :: visited) out
      | top :: callers =>
        if C.isReduce top then
          match callers with
          | [] => xClosureLoop C fuel work (x :: visited) (out ++ [x])          -- token complete
          | caller :: rest =>                                                     -- return
            xClosureLoop C fuel (({ caller with path := incLast caller.path } :: rest) :: work) (x :: visited) out
        else
          match C.expected top with
          | some (.ref r) =>
            match C.prodIndex r with
            | some k => xClosureLoop C fuel ((⟨k, [0]⟩ :: x) :: work) (x :: visited) out   -- call
            | none => xClosureLoop C fuel work (x :: visited) out
          | some _ => xClosureLoop C fuel work (x :: visited) (out ++ [x])       -- expects a rune
          | none =>
            xClosureLoop C fuel ((emoveStep C top).map (· :: callers) ++ work) (x :: visited) out

def xFuel (C : LexCtx) : Nat := (C.fuel + 2) ^ 3 + 64

def xClosure (C : LexCtx) (xs : List XPos) : List XPos :=
  (xClosureLoop C (xFuel C) xs [] []).eraseDups

def xStart (C : LexCtx) : List XPos :=
  xClosure C ((List.range C.prods.size).filterMap fun k =>
    match C.prods[k]? with
    | some p => if p.kind != .reg then some [⟨k, [0]⟩] else none
    | none => none)

def xExpected (C : LexCtx) (x : XPos) : Option LTerm :=
  match x with
  | top :: _ => if C.isReduce top then none else C.expected top
  | [] => none

def termHas (t : LTerm) (c : Int) : Bool :=
  match t with
  | .lit v => v == c
  | .rng a b => a ≤ c && c ≤ b
  | _ => false

def xAdvance (x : XPos) : XPos :=
  match x with
  | top :: rest => { top with path := incLast top.path } :: rest
  | [] => []

/-- one rune: specific alternatives first, '.' only as the fallback -/
def xStep (C : LexCtx) (S : List XPos) (c : Int) : List XPos :=
  let specific := S.filter fun x => match xExpected C x with
    | some t => termHas t c
    | none => false
  let isDot (x : XPos) : Bool := match xExpected C x with
    | some .dot => true
    | _ => false
  let movers := if specific.isEmpty then S.filter isDot else specific
  xClosure C (movers.map xAdvance)

/-- completed token of a state: string literal first, then lowest production index -/
def xVerdict (C : LexCtx) (S : List XPos) : LAct :=
  let done := S.filterMap fun x => match x with
    | [top] => if C.isReduce top then some top else none
    | _ => none
  lexAction C done

/-! ### The reference automaton over elementary rune intervals -/

def boundsOfPat : LPat → List Int
  | .mk alts => bAlts alts
where
  bAlts : List LAlt → List Int
    | [] => []
    | (.mk ts) :: rest => bTerms ts ++ bAlts rest
  bTerms : List LTerm → List Int
    | [] => []
    | t :: rest => (match t with
        | .lit v => [v, v + 1]
        | .rng a b => [a, b + 1]
        | .opt p | .rep p | .grp p => boundsOfPat p
        | _ => []) ++ bTerms rest

/-- start points of the elementary intervals: inside one interval every literal and range of
    the lexical part behaves uniformly -/
def elemStarts (prods : List LProd) : List Int :=
  let bs := (0 :: prods.flatMap fun p => boundsOfPat p.pat).eraseDups
  (bs.filter fun b => 0 ≤ b ∧ b ≤ 0x10FFFF).mergeSort (fun a b => a ≤ b)

structure RefDfa where
  states : Array (List XPos)
  trans : Array (List Int)         -- per state, one target per elementary interval (-1 = dead)
  starts : List Int
deriving Inhabited

def sameX (a b : List XPos) : Bool := a.length == b.length && a.all b.contains

def refDfaLoop (C : LexCtx) (starts : List Int) : Nat → Nat → RefDfa → RefDfa
  | 0, _, d => d
  | fuel + 1, i, d =>
    match d.states[i]? with
    | none => d
    | some S =>
      let (d', row) := starts.foldl (fun (acc : RefDfa × List Int) c =>
        let d := acc.1
        let nxt := xStep C S c
        if nxt.isEmpty then (d, acc.2 ++ [-1])
        else match d.states.findIdx? (sameX · nxt) with
          | some k => (d, acc.2 ++ [(k : Int)])
          | none => ({ d with states := d.states.push nxt }, acc.2 ++ [(d.states.size : Int)])) (d, [])
      refDfaLoop C starts fuel (i + 1) { d' with trans := d'.trans.push row }

def refDfa (prods : List LProd) : RefDfa :=
  let C : LexCtx := { prods := prods.toArray }
  let starts := elemStarts prods
  refDfaLoop C starts 20000 0 { states := #[xStart C], trans := #[], starts := starts }

/-- index of the elementary interval containing rune `r` -/
def elemIndex (starts : List Int) (r : Int) : Nat :=
  (starts.filter (· ≤ r)).length - 1

def RefDfa.step (d : RefDfa) (s : Nat) (r : Int) : Int :=
  match d.trans[s]? with
  | some row => row[elemIndex d.starts r]?.getD (-1)
  | none => -1

end Gocc
