import Gocc.Model.SemCheck
/-
C14, semantic clauses of the property, read literally and independently of the code:
"uses an undefined syntax production or regular definition, defines a token, ignored token or
regular definition twice, or leaves an alternative empty".
A symbol is a syntax production name when the front end classified it as `prodId` (`SSym.kind`).
-/
namespace Gocc

structure SemWF (g : Grammar) (imports : List String) : Prop where
  /-- no token, ignored token or regular definition is defined twice -/
  noDup : (g.lex.map (·.id)).Nodup
  /-- no alternative is left empty -/
  noEmpty : ∀ p ∈ g.syn, p.body ≠ []
  /-- every syntax production used in a body is defined -/
  prodsDefined : ∀ p ∈ g.syn, ∀ s ∈ p.body, s.kind = .prodId → s.name ∈ g.syn.map (·.head)
  /-- every regular definition used in a pattern is defined (or imported) -/
  regDefsDefined : ∀ p ∈ g.lex, ∀ r ∈ p.pat.refs, r ∈ regDefIds g ∨ r ∈ imports

/-- the same, executable (the oracle of the C14 check) -/
def semWFb (g : Grammar) (imports : List String := []) : Bool :=
  decide (g.lex.map (·.id)).Nodup &&
  g.syn.all (fun p => !p.body.isEmpty) &&
  g.syn.all (fun p => p.body.all fun s => s.kind != .prodId || (g.syn.map (·.head)).contains s.name) &&
  g.lex.all (fun p => p.pat.refs.all fun r => (regDefIds g).contains r || imports.contains r)

theorem semWFb_iff (g : Grammar) (imports : List String) : semWFb g imports = true ↔ SemWF g imports := by
  unfold semWFb
  simp only [Bool.and_eq_true, decide_eq_true_eq, List.all_eq_true, Bool.not_eq_true', Bool.or_eq_true,
    bne_iff_ne, ne_eq, List.contains_iff_mem, List.isEmpty_eq_false_iff, ← Decidable.imp_iff_not_or]
  exact ⟨fun ⟨⟨⟨h1, h2⟩, h3⟩, h4⟩ => ⟨h1, h2, h3, h4⟩, fun ⟨h1, h2, h3, h4⟩ => ⟨⟨⟨h1, h2⟩, h3⟩, h4⟩⟩

end Gocc
